/-!
# Index-level model of the loops around the crate's unchecked accesses (C15)

The list-level model (`ArrayStore.lean`, …) consumes its inputs structurally and therefore has no indices.
This file models the *same Rust loops* once more, at the level the `unsafe` blocks live on: slices are
`Array Nat`, cursors are explicit `Nat` indices, and **every unchecked access is recorded** as one `Access`
(`site`, `index`, `len`) — exactly the three arguments of the `#[cfg(roaring_verif)]` recorder
`crate::verif_hooks::site(id, index, len)` that precedes each `unsafe` block in the crate.

Nothing is assumed about the data (no sortedness, no absence of duplicates, no cardinality relation): the
theorems of `Props/C15.lean` quantify over arbitrary arrays.  An unchecked read is modelled by `rd`
(`getD … 0`): a total function whose default is *proved* never to be used.  Checked accesses
(`slice[i]`, `&lhs[i..]`, `dst[a..][..n]`) panic instead of reading out of bounds; they are not C15 sites and
are only mentioned where they delimit an unchecked one.

This file is import-free (core Lean only).  The `BitmapIter` sites 12–15 are instrumented in
`UnsafeIter.lean`, on top of the existing `Roaring.BIter`.
-/
namespace Roaring.Unsafe

/-- one call of `verif_hooks::site(site, index, len)`: an unchecked access of element `index` of a
    buffer of `len` elements -/
structure Access where
  site : Nat
  index : Nat
  len : Nat
deriving Repr, BEq, DecidableEq

/-- the accesses of one call, in program order -/
abbrev Trace := List Access

/-- the access is inside its buffer -/
def Access.InBounds (a : Access) : Prop := a.index < a.len

instance (a : Access) : Decidable a.InBounds := by unfold Access.InBounds; infer_instance

/-- every recorded access is inside its buffer -/
def Safe (t : Trace) : Prop := ∀ a ∈ t, a.InBounds

instance (t : Trace) : Decidable (Safe t) := by unfold Safe; infer_instance

/-- `*slice.get_unchecked(i)`: total in the model; the C15 theorems show `i < a.size` at every use -/
@[inline] def rd (a : Array Nat) (i : Nat) : Nat := a.getD i 0

/-- one loop iteration's contribution: values handed to the visitor and accesses made, put in front of what
    the remaining iterations produce -/
@[inline] def emit (vs : List Nat) (tr : Trace) (rest : List Nat × Trace) : List Nat × Trace :=
  (vs ++ rest.1, tr ++ rest.2)

/-! ## `scalar.rs`: the four two-pointer merges (sites 1–8)

`fuel` bounds the number of `while` iterations; `lhs.len() + rhs.len()` always suffices because `i + j`
grows in every iteration (proved: `Unsafe.Merge.loop_eq` in `Lemmas/UnsafeLemmas.lean`, which also ties the output
to the list model).
The result is the sequence of `u16`s the visitor receives (`visit_scalar(x)` = `[x]`,
`visit_slice(&lhs[i..])` = `lhs.toList.drop i`, a *checked* slice) and the access trace. -/

/-- scalar.rs:7 `or` — loop from the state `(i, j)` -/
def orLoop (lhs rhs : Array Nat) : Nat → Nat → Nat → List Nat × Trace
  | 0, i, j => (lhs.toList.drop i ++ rhs.toList.drop j, [])
  | fuel + 1, i, j =>
    if i < lhs.size ∧ j < rhs.size then                                   -- while i < lhs.len() && j < rhs.len()
      let here : Trace := [⟨1, i, lhs.size⟩, ⟨2, j, rhs.size⟩]
      let a := rd lhs i                                                   -- unsafe { lhs.get_unchecked(i) }
      let b := rd rhs j                                                   -- unsafe { rhs.get_unchecked(j) }
      if a < b then emit [a] here (orLoop lhs rhs fuel (i + 1) j)         -- Less
      else if b < a then emit [b] here (orLoop lhs rhs fuel i (j + 1))    -- Greater
      else emit [a] here (orLoop lhs rhs fuel (i + 1) (j + 1))            -- Equal
    else (lhs.toList.drop i ++ rhs.toList.drop j, [])                     -- visit_slice(&lhs[i..]); visit_slice(&rhs[j..])

/-- scalar.rs:7 `or` -/
def or (lhs rhs : Array Nat) : List Nat × Trace := orLoop lhs rhs (lhs.size + rhs.size) 0 0

/-- scalar.rs:41 `and` — loop from the state `(i, j)` -/
def andLoop (lhs rhs : Array Nat) : Nat → Nat → Nat → List Nat × Trace
  | 0, _, _ => ([], [])
  | fuel + 1, i, j =>
    if i < lhs.size ∧ j < rhs.size then
      let here : Trace := [⟨3, i, lhs.size⟩, ⟨4, j, rhs.size⟩]
      let a := rd lhs i
      let b := rd rhs j
      if a < b then emit [] here (andLoop lhs rhs fuel (i + 1) j)
      else if b < a then emit [] here (andLoop lhs rhs fuel i (j + 1))
      else emit [a] here (andLoop lhs rhs fuel (i + 1) (j + 1))
    else ([], [])

/-- scalar.rs:41 `and` -/
def and (lhs rhs : Array Nat) : List Nat × Trace := andLoop lhs rhs (lhs.size + rhs.size) 0 0

/-- scalar.rs:65 `sub` — loop from the state `(i, j)` -/
def subLoop (lhs rhs : Array Nat) : Nat → Nat → Nat → List Nat × Trace
  | 0, i, _ => (lhs.toList.drop i, [])
  | fuel + 1, i, j =>
    if i < lhs.size ∧ j < rhs.size then
      let here : Trace := [⟨5, i, lhs.size⟩, ⟨6, j, rhs.size⟩]
      let a := rd lhs i
      let b := rd rhs j
      if a < b then emit [a] here (subLoop lhs rhs fuel (i + 1) j)
      else if b < a then emit [] here (subLoop lhs rhs fuel i (j + 1))
      else emit [] here (subLoop lhs rhs fuel (i + 1) (j + 1))
    else (lhs.toList.drop i, [])                                          -- visit_slice(&lhs[i..])

/-- scalar.rs:65 `sub` -/
def sub (lhs rhs : Array Nat) : List Nat × Trace := subLoop lhs rhs (lhs.size + rhs.size) 0 0

/-- scalar.rs:94 `xor` — loop from the state `(i, j)` -/
def xorLoop (lhs rhs : Array Nat) : Nat → Nat → Nat → List Nat × Trace
  | 0, i, j => (lhs.toList.drop i ++ rhs.toList.drop j, [])
  | fuel + 1, i, j =>
    if i < lhs.size ∧ j < rhs.size then
      let here : Trace := [⟨7, i, lhs.size⟩, ⟨8, j, rhs.size⟩]
      let a := rd lhs i
      let b := rd rhs j
      if a < b then emit [a] here (xorLoop lhs rhs fuel (i + 1) j)
      else if b < a then emit [b] here (xorLoop lhs rhs fuel i (j + 1))
      else emit [] here (xorLoop lhs rhs fuel (i + 1) (j + 1))
    else (lhs.toList.drop i ++ rhs.toList.drop j, [])

/-- scalar.rs:94 `xor` -/
def xor (lhs rhs : Array Nat) : List Nat × Trace := xorLoop lhs rhs (lhs.size + rhs.size) 0 0

/-! ## `array_store/mod.rs:275`: `retain` (site 9)

`f` is an `FnMut(u16) -> bool`; its captured state is the explicit `σ` (the in-place `&=`/`-=` capture the
galloping index into the other operand).  `for i in 0..slice.len()` evaluates its range once: `k` counts the
iterations that remain, `i` is the loop variable. -/

/-- result of the `retain` loop: the slice, the final `pos`, the closure state and the accesses -/
structure RetainOut (σ : Type) where
  slice : Array Nat
  pos : Nat
  state : σ
  trace : Trace

/-- the `for` loop of `retain` from iteration `i`, `k` iterations remaining -/
def retainLoop {σ : Type} (f : σ → Nat → σ × Bool) : Nat → σ → Array Nat → Nat → Nat → RetainOut σ
  | 0, s, slice, pos, _ => ⟨slice, pos, s, []⟩
  | k + 1, s, slice, pos, i =>
    let val := rd slice i                                  -- `slice[i]`, a checked access (`i < len` by the range)
    let slice' := slice.setIfInBounds pos val              -- unsafe { *slice.get_unchecked_mut(pos) = val }
    let r := f s val
    let out := retainLoop f k r.1 slice' (pos + r.2.toNat) (i + 1)   -- pos += f(val) as usize
    { out with trace := ⟨9, pos, slice.size⟩ :: out.trace }

/-- array_store/mod.rs:275 `retain`: the retained vector (`truncate(pos)`), the closure's final state and the
    accesses -/
def retain {σ : Type} (f : σ → Nat → σ × Bool) (s : σ) (vec : Array Nat) : Array Nat × σ × Trace :=
  let out := retainLoop f vec.size s vec 0 0
  (out.slice.extract 0 out.pos, out.state, out.trace)

/-- list-level meaning of `retain` with a stateful predicate: keep `x` iff the closure says so, threading its state
    (`retain_eq` in `UnsafeLemmas`: the index-level loop computes exactly this, on any vector) -/
def retainList {σ : Type} (f : σ → Nat → σ × Bool) : σ → List Nat → List Nat × σ
  | s, [] => ([], s)
  | s, x :: xs =>
    let r := f s x
    let o := retainList f r.1 xs
    (if r.2 then x :: o.1 else o.1, o.2)

/-! ### the closures of the in-place `&=` / `-=` with the state the Rust has: the index `i` into `rhs` (fidelity audit)

`Arr.andAssign` / `Arr.subAssign` (and `andClosure` / `subClosure` of `UnsafeLemmas`) carry the not yet galloped-over
*suffix* `rhs[i..]`; the Rust closure captures `let mut i = 0` and the whole `rhs`.  `UnsafeLemmas.retain_andIdx` /
`retain_subIdx`: the index-level `retain` loop with these closures, from `i = 0`, is `Arr.andAssign` / `Arr.subAssign`
(unconditionally, on arbitrary vectors). -/


/-- `iter.position(p)`: index of the first element satisfying `p` -/
def position (p : Nat → Bool) : List Nat → Option Nat
  | [] => none
  | y :: ys => if p y then some 0 else (position p ys).map (· + 1)

/-- the closure of `bitand_assign(&Self)` (array_store/mod.rs:388-391) with the state the Rust has: the index `i`
    into `rhs` -/
def andClosureIdx (rhs : List Nat) (i : Nat) (x : Nat) : Nat × Bool :=
  -- i += rhs.iter().skip(i).position(|y| *y >= x).unwrap_or(rhs.vec.len());
  let i' := i + ((position (fun y => decide (y ≥ x)) (rhs.drop i)).getD rhs.length)
  -- rhs.vec.get(i).map_or(false, |y| x == *y)
  (i', match rhs[i']? with | some y => x == y | none => false)

/-- the closure of `sub_assign(&Self)` (array_store/mod.rs:427-430) -/
def subClosureIdx (rhs : List Nat) (i : Nat) (x : Nat) : Nat × Bool :=
  let i' := i + ((position (fun y => decide (y ≥ x)) (rhs.drop i)).getD rhs.length)
  -- rhs.vec.get(i).map_or(true, |y| x != *y)
  (i', match rhs[i']? with | some y => x != y | none => true)

/-! ## `inherent.rs:686`: `rank` (site 0)

`self.containers.binary_search_by_key(&key, |c| c.key)` runs on a directory whose keys may be unsorted or
repeated (values built by the unchecked decoders).  std then promises nothing about *which* index comes
back, only its shape.  The result is therefore a parameter constrained by that contract. -/

/-- `Result<usize, usize>` of `binary_search_by_key` -/
inductive Search where
  | ok (i : Nat)
  | err (i : Nat)
deriving Repr, BEq, DecidableEq

/-- std's contract for `binary_search*` that holds on *any* slice: `Ok(i)` is the index of a matching
    element, `Err(i)` is an insertion point `≤ len` -/
def Search.Contract (keys : Array Nat) (key : Nat) : Search → Prop
  | .ok i => i < keys.size ∧ keys[i]? = some key
  | .err i => i ≤ keys.size

instance (keys : Array Nat) (key : Nat) (r : Search) : Decidable (r.Contract keys key) := by
  cases r <;> unfold Search.Contract <;> infer_instance

/-- the accesses of `RoaringBitmap::rank` given the search result:
    `Ok(i) => unsafe { self.containers.get_unchecked(i) }…`, `Err(i) =>` checked slice only -/
def rankAccesses (keys : Array Nat) : Search → Trace
  | .ok i => [⟨0, i, keys.size⟩]
  | .err _ => []

/-- the checked slices `self.containers[..i]` of both arms do not panic -/
def rankSliceOk (keys : Array Nat) : Search → Prop
  | .ok i => i ≤ keys.size
  | .err i => i ≤ keys.size

/-! ### std's `binary_search_by` (core/src/slice/mod.rs of the installed toolchain), run on arbitrary data

Not one of the crate's sites; modelled to show that the contract above is what the real algorithm delivers
on *unsorted* input, i.e. that the hypothesis of `C15_rank` is not vacuous.  Its own two `get_unchecked`
are recorded with the site ids 100 and 101. -/

/-- the `while size > 1` loop: `(base, size)` ↦ final `base`.  `size` shrinks in every iteration, so `fuel = size`
    suffices; running out of fuel with the loop condition still true yields a *poisoned* (out-of-bounds) base, so that
    `stdBinarySearch_spec` also proves this never happens -/
def bsLoop (keys : Array Nat) (key : Nat) : Nat → Nat → Nat → Nat × Trace
  | 0, base, size => (if size > 1 then keys.size else base, [])
  | fuel + 1, base, size =>
    if size > 1 then
      let half := size / 2
      let mid := base + half
      let cmpGreater := rd keys mid > key                  -- f(unsafe { self.get_unchecked(mid) }) == Greater
      let base' := if cmpGreater then base else mid        -- select_unpredictable(cmp == Greater, base, mid)
      let r := bsLoop keys key fuel base' (size - half)    -- size -= half
      (r.1, ⟨100, mid, keys.size⟩ :: r.2)
    else (base, [])

/-- `keys.binary_search_by(|k| k.cmp(&key))` -/
def stdBinarySearch (keys : Array Nat) (key : Nat) : Search × Trace :=
  if keys.size = 0 then (.err 0, [])
  else
    let r := bsLoop keys key keys.size 0 keys.size
    let base := r.1
    let x := rd keys base                                  -- f(unsafe { self.get_unchecked(base) })
    let tr := r.2 ++ [⟨101, base, keys.size⟩]
    if x = key then (.ok base, tr)
    else (.err (base + (if x < key then 1 else 0)), tr)    -- base + (cmp == Less) as usize

/-! ## `bitmap_store.rs:44`: `from_lsb0_bytes_unchecked` (sites 10, 11) — conditions only -/

/-- `BITMAP_LENGTH` -/
def BITMAP_LENGTH : Nat := 1024
/-- `BITMAP_BYTES = BITMAP_LENGTH * size_of::<u64>()` -/
def BITMAP_BYTES : Nat := BITMAP_LENGTH * 8

/-- The raw-memory steps of `from_lsb0_bytes_unchecked(bytes, byte_offset, _)` as a function of
    `bytes.len()` and `byte_offset`; `none` = the leading `assert!` panics (`checked_add` overflow included:
    a sum that overflows `usize` is in particular `> 8192`).
    * site 10: `bytes.as_ptr().cast::<[u64; 1024]>().read_unaligned()` reads bytes `0 ..= 8191` of `bytes`;
    * site 11: `from_raw_parts_mut(bits.as_mut_ptr().cast::<u8>(), BITMAP_BYTES)` claims bytes `0 ..= 8191` of
      the `size_of_val(&*bits) = 1024 * 8`-byte box. -/
def fromLsb0Accesses (bytesLen byteOffset : Nat) : Option Trace :=
  if ¬ (byteOffset + bytesLen ≤ BITMAP_BYTES) then none
  else if bytesLen = BITMAP_BYTES then some [⟨10, BITMAP_BYTES - 1, bytesLen⟩]
  else some [⟨11, BITMAP_BYTES - 1, BITMAP_LENGTH * 8⟩]

/-- the checked re-slicing `dst[byte_offset..][..bytes.len()]` of the 8192-byte view does not panic, and
    `copy_from_slice` sees equal lengths -/
def fromLsb0SliceOk (bytesLen byteOffset : Nat) : Prop :=
  byteOffset ≤ BITMAP_BYTES ∧ bytesLen ≤ BITMAP_BYTES - byteOffset

end Roaring.Unsafe
