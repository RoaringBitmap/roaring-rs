import RoaringModel.Lemmas.BitmapMut
/-!
# The `RoaringBitmap` queries agree with the sorted element list (inherent.rs) — property C07
-/
namespace Roaring

theorem sorted_length_le (l : List Nat) (n : Nat) (hs : Sorted l) (h : ∀ x ∈ l, x < n) : l.length ≤ n :=
  TL.length_le_of_lt hs h

namespace Bitmap

theorem cElems_ne (c : Container) (h : c.store.elems ≠ []) : c.elems ≠ [] := by
  unfold Container.elems
  intro hc
  exact h (List.map_eq_nil_iff.mp hc)

theorem foldl_add_init (xs : List Nat) (n : Nat) : xs.foldl (· + ·) n = n + xs.foldl (· + ·) 0 := by
  have := List.foldl_assoc (op := fun x y : Nat => x + y) (l := xs) (a₁ := n) (a₂ := 0)
  rwa [Nat.add_zero] at this

theorem foldl_len (b : Bitmap) (a : Nat) :
    b.foldl (fun acc c => acc + c.len) a = a + len b := by
  have := foldl_add_init (b.map Container.len) a
  rwa [List.foldl_map, List.foldl_map] at this

theorem len_nil : len [] = 0 := rfl

theorem len_cons (c : Container) (cs : Bitmap) : len (c :: cs) = c.len + len cs := by
  show List.foldl (fun acc c => acc + c.len) 0 (c :: cs) = _
  rw [List.foldl_cons, foldl_len]
  omega

theorem len_eq_length (b : Bitmap) (h : b.Dir) : len b = (elems b).length := by
  induction b with
  | nil => rfl
  | cons c cs ih =>
    rw [len_cons, elems_cons, List.length_append, ih h.tail,
      cLen_eq' c (h.inv (List.mem_cons_self ..))]

theorem len_spec (b : Bitmap) (h : b.WF) : len b = (elems b).length :=
  len_eq_length b h.dir

theorem isEmpty_spec (b : Bitmap) (h : b.WF) : isEmpty b = (elems b).isEmpty := by
  cases b with
  | nil => rfl
  | cons c cs =>
    have hne := cElems_ne c (h.ne c (List.mem_cons_self ..))
    rw [elems_cons]
    cases hce : c.elems with
    | nil => exact absurd hce hne
    | cons a l => rfl

theorem contains_iff (v : Nat) (b : Bitmap) (hdir : b.Dir) :
    (contains b v = true ↔ lo16 v ∈ chunk b (hi16 v)) := by
  unfold contains
  rcases hdir.search_cases (hi16 v) with ⟨pre, c, rest, rfl, hs, hk, hc⟩ | ⟨i, hs, hc⟩
  · rw [hs, hc]
    simp only [List.getElem?_append_right (Nat.le_refl _), Nat.sub_self, List.getElem?_cons_zero, Container.contains]
    rw [Store.contains_spec _ (hdir.inv (by simp)), decide_eq_true_eq]
  · rw [hs, hc]
    simp

theorem contains_spec (b : Bitmap) (h : b.WF) (v : Nat) :
    contains b v = Spec.contains (elems b) v := by
  unfold Spec.contains
  rw [Spec.contains_eq, Bool.eq_iff_iff, contains_iff v b h.dir, decide_eq_true_eq, mem_elems b h.dir]
  unfold hi16 lo16
  exact Iff.rfl

theorem cElems_head? (c : Container) (hc : c.store.Inv) :
    c.elems.head? = (c.min?).map (join c.key) := by
  unfold Container.elems Container.min?
  rw [List.head?_map, Store.min?_spec _ hc]
  rfl

theorem cElems_getLast? (c : Container) (hc : c.store.Inv) :
    c.elems.getLast? = (c.max?).map (join c.key) := by
  unfold Container.elems Container.max?
  rw [List.getLast?_map, Store.max?_spec _ hc]
  rfl

theorem min?_spec (b : Bitmap) (h : b.WF) : min? b = Spec.min? (elems b) := by
  unfold min? Spec.min?
  cases b with
  | nil => rfl
  | cons c cs =>
    have hne := cElems_ne c (h.ne c (List.mem_cons_self ..))
    rw [elems_cons, List.head?_append, cElems_head? c (h.dir.inv (List.mem_cons_self ..))]
    simp only [List.head?_cons]
    rw [← cElems_head? c (h.dir.inv (List.mem_cons_self ..))]
    cases hce : c.elems with
    | nil => exact absurd hce hne
    | cons a l => rfl

theorem max?_spec (b : Bitmap) (h : b.WF) : max? b = Spec.max? (elems b) := by
  unfold max? Spec.max?
  cases hl : b.getLast? with
  | none =>
    have : b = [] := List.getLast?_eq_none_iff.mp hl
    subst this; rfl
  | some c =>
    obtain ⟨ys, rfl⟩ := List.getLast?_eq_some_iff.mp hl
    have hc : c ∈ ys ++ [c] := by simp
    have hne := cElems_ne c (h.ne c hc)
    rw [elems_append, List.getLast?_append, elems_single]
    simp only []
    rw [← cElems_getLast? c (h.dir.inv hc)]
    cases hce : c.elems.getLast? with
    | none => exact absurd (List.getLast?_eq_none_iff.mp hce) hne
    | some a => rfl

theorem select_eq (b : Bitmap) (h : b.Dir) (n : Nat) : select b n = (elems b)[n]? := by
  induction b generalizing n with
  | nil => simp [select, elems]
  | cons c cs ih =>
    have hinv := h.inv (List.mem_cons_self ..)
    rw [elems_cons, List.getElem?_append, select, ← cLen_eq' c hinv]
    by_cases hn : c.len > n
    · rw [if_pos hn, if_pos hn]
      unfold Container.elems
      rw [List.getElem?_map, Store.select_spec _ hinv]
      rfl
    · rw [if_neg hn, if_neg hn]
      exact ih h.tail _

theorem select_spec (b : Bitmap) (h : b.WF) (n : Nat) : select b n = Spec.select (elems b) n :=
  select_eq b h.dir n

theorem cRank_eq (c : Container) (hc : c.store.Inv) (x : Nat) (hx : x < 65536) :
    c.rank x = (c.elems.filter (· ≤ c.key * 65536 + x)).length := by
  unfold Container.rank Container.elems
  rw [Store.rank_spec _ hc _ hx, List.filter_map, List.length_map]
  congr 1
  apply List.filter_congr
  intro y _
  -- `rw`, not `simp only [Function.comp]`, which is very slow to check on this goal
  rw [Function.comp_apply, Bool.eq_iff_iff, decide_eq_true_eq, decide_eq_true_eq]
  omega

theorem filter_le_eq_self (l : List Nat) (v : Nat) (h : ∀ y ∈ l, y ≤ v) : l.filter (· ≤ v) = l :=
  List.filter_eq_self.mpr (fun y hy => decide_eq_true (h y hy))

theorem filter_le_eq_nil (l : List Nat) (v : Nat) (h : ∀ y ∈ l, v < y) : l.filter (· ≤ v) = [] :=
  List.filter_eq_nil_iff.mpr (fun y hy => by have := h y hy; simp only [decide_eq_true_eq]; omega)

/-! a window `[a, z]` against a list lying wholly on one side of one of its ends -/

theorem filter_window_nil_of_lt (l : List Nat) (a z : Nat) (h : ∀ y ∈ l, y < a) :
    l.filter (fun y => decide (a ≤ y) && decide (y ≤ z)) = [] :=
  List.filter_eq_nil_iff.mpr fun y hy => by rw [decide_eq_false (Nat.not_le.mpr (h y hy))]; nofun

theorem filter_window_nil_of_gt (l : List Nat) (a z : Nat) (h : ∀ y ∈ l, z < y) :
    l.filter (fun y => decide (a ≤ y) && decide (y ≤ z)) = [] :=
  List.filter_eq_nil_iff.mpr fun y hy => by rw [decide_eq_false (Nat.not_le.mpr (h y hy)), Bool.and_false]; nofun

theorem filter_window_of_lt (l : List Nat) (a z : Nat) (h : ∀ y ∈ l, a < y) :
    l.filter (fun y => decide (a ≤ y) && decide (y ≤ z)) = l.filter (· ≤ z) :=
  List.filter_congr fun y hy => by rw [decide_eq_true (Nat.le_of_lt (h y hy)), Bool.true_and]

theorem rank_eq (v : Nat) (b : Bitmap) (hdir : b.Dir) : rank b v = ((elems b).filter (· ≤ v)).length := by
  obtain ⟨k, x, hx, rfl⟩ := exists_join v
  unfold rank
  rw [hi16_join k x hx, lo16_join k x hx]
  obtain ⟨pre, post, rfl, hpre, h⟩ := search_spec b k hdir.1
  have hdpre : Dir pre := hdir.sublist (List.sublist_append_left ..)
  have hpost : Dir post := hdir.sublist (List.sublist_append_right ..)
  -- the containers before the search position are counted whole
  rw [elems_append, List.filter_append, List.length_append, filter_le_eq_self (elems pre) _ (fun y hy =>
    Nat.le_of_lt (Nat.lt_of_lt_of_le (elems_lt_of_keys pre hdpre k hpre y hy) (Nat.le_add_right ..))),
    ← len_eq_length pre hdpre]
  rcases h with ⟨c, rest, rfl, rfl, _, hs⟩ | ⟨hgt, hs⟩
  · rw [hs]
    simp only [List.getElem?_append_right (Nat.le_refl _), Nat.sub_self, List.getElem?_cons_zero, List.take_left']
    rw [elems_cons, List.filter_append, List.length_append, cRank_eq c (hpost.inv (List.mem_cons_self ..)) x hx,
      filter_le_eq_nil (elems rest) _ (join_lt_elems_tail hpost hx (Nat.le_refl _)), List.length_nil,
      Nat.add_zero, Nat.add_comm]
  · rw [hs]
    simp only [List.take_left']
    rw [filter_le_eq_nil (elems post) _ (join_lt_elems_of_keys post hpost hx hgt)]
    rfl

theorem rank_spec (b : Bitmap) (h : b.WF) (v : Nat) (hv : v < 4294967296) :
    rank b v = Spec.rank (elems b) v := by
  have _ := hv
  exact rank_eq v b h.dir

/-- the loop of `range_cardinality` adds the number of values up to the end point in the remaining containers -/
theorem rangeCardLoop_eq (ek el : Nat) (hel : el < 65536) (b : Bitmap) (hdir : b.Dir) (acc : Nat) :
    rangeCardLoop ek el b acc = acc + ((elems b).filter (· ≤ ek * 65536 + el)).length := by
  induction b generalizing acc with
  | nil => rfl
  | cons c cs ih =>
    have hinv := hdir.inv (List.mem_cons_self ..)
    rw [elems_cons, List.filter_append, List.length_append]
    unfold rangeCardLoop
    by_cases h1 : c.key < ek
    · rw [if_pos h1, ih hdir.tail, cLen_eq' c hinv, Nat.add_assoc,
        filter_le_eq_self c.elems _ (fun y hy => Nat.le_of_lt (cElems_lt_join c hinv h1 el y hy))]
    · rw [if_neg h1]
      by_cases h2 : c.key = ek
      · rw [if_pos h2, cRank_eq c hinv el hel, h2,
          filter_le_eq_nil (elems cs) _ (join_lt_elems_tail hdir hel (Nat.le_of_eq h2.symm))]
        rfl
      · rw [if_neg h2, filter_le_eq_nil c.elems _ (join_lt_cElems c hinv hel (by omega)),
          filter_le_eq_nil (elems cs) _ (join_lt_elems_tail hdir hel (by omega))]
        rfl

/-- the body of `range_cardinality` once the range has been converted to `start ..= en` and both ends
    split into chunk key and low bits -/
def rcOk (b : Bitmap) (sk sl ek el : Nat) : Nat :=
  match search b sk with
  | (true, i) =>
    match b[i]? with
    | some c =>
      let card := if sk = ek then c.rank el else c.len
      let card := if sl ≠ 0 then card - c.rank (sl - 1) else card
      rangeCardLoop ek el (b.drop (i + 1)) card
    | none => 0
  | (false, i) => rangeCardLoop ek el (b.drop i) 0

theorem rangeCardinality_eq (b : Bitmap) (lo hi : Bound) :
    rangeCardinality b lo hi =
      match convertRange u32Max lo hi with
      | .error _ => 0
      | .ok (s, e) => rcOk b (hi16 s) (lo16 s) (hi16 e) (lo16 e) := rfl

/-- what the first container (the one holding `start`) contributes -/
def cCard (c : Container) (sk sl ek el : Nat) : Nat :=
  let card := if sk = ek then c.rank el else c.len
  if sl ≠ 0 then card - c.rank (sl - 1) else card

theorem cCard_eq (c : Container) (hinv : c.store.Inv) (sl ek el : Nat) (hsl : sl < 65536) (hel : el < 65536)
    (hse : c.key * 65536 + sl ≤ ek * 65536 + el) :
    cCard c c.key sl ek el =
      (c.elems.filter (fun y => decide (c.key * 65536 + sl ≤ y) && decide (y ≤ ek * 65536 + el))).length := by
  have hb := cElems_bounds c hinv
  -- the first summand is the number of values `≤ en`
  have hR : (if c.key = ek then c.rank el else c.len) = (c.elems.filter (· ≤ ek * 65536 + el)).length := by
    by_cases he : c.key = ek
    · rw [if_pos he, cRank_eq c hinv el hel, he]
    · have hlt : c.key < ek := ((join_le_join hsl hel).mp hse).elim id fun e => absurd e.1 he
      rw [if_neg he, cLen_eq' c hinv,
        filter_le_eq_self c.elems _ (fun y hy => Nat.le_of_lt (cElems_lt_join c hinv hlt el y hy))]
  have hsplit := Spec.count_split c.elems _ _ hse
  unfold cCard
  rw [hR]
  cases sl with
  | zero =>
    -- nothing lies below `(c.key, 0)`
    have hnil : c.elems.filter (· < c.key * 65536 + 0) = [] :=
      List.filter_eq_nil_iff.mpr fun y hy => by
        rw [decide_eq_true_eq, Nat.add_zero]
        exact Nat.not_lt.mpr (hb y hy).1
    rw [if_neg (fun h => h rfl), ← hsplit, hnil]
    rfl
  | succ s =>
    -- the subtracted rank is the number of values `< st`
    rw [if_pos (Nat.succ_ne_zero s), Nat.add_sub_cancel, cRank_eq c hinv s (Nat.lt_of_succ_lt hsl)]
    apply Nat.sub_eq_of_eq_add
    rw [← hsplit]
    congr 2
    apply List.filter_congr
    intro y _
    rw [Bool.eq_iff_iff, decide_eq_true_eq, decide_eq_true_eq]
    exact Nat.lt_succ_iff

theorem rcOk_eq (sk sl ek el : Nat) (hsl : sl < 65536) (hel : el < 65536)
    (hse : sk * 65536 + sl ≤ ek * 65536 + el) (b : Bitmap) (hdir : b.Dir) :
    rcOk b sk sl ek el =
      ((elems b).filter (fun y => decide (sk * 65536 + sl ≤ y) && decide (y ≤ ek * 65536 + el))).length := by
  unfold rcOk
  obtain ⟨pre, post, rfl, hpre, h⟩ := search_spec b sk hdir.1
  have hpost : Dir post := hdir.sublist (List.sublist_append_right ..)
  -- the containers before the search position hold nothing from `start` on
  rw [elems_append, List.filter_append, List.length_append, filter_window_nil_of_lt _ _ _
    (fun y hy => Nat.lt_of_lt_of_le (elems_lt_of_keys pre (hdir.sublist (List.sublist_append_left ..)) sk hpre y hy)
      (Nat.le_add_right ..)), List.length_nil, Nat.zero_add]
  rcases h with ⟨c, rest, rfl, rfl, _, hs⟩ | ⟨hgt, hs⟩
  · have hinv := hpost.inv (List.mem_cons_self ..)
    rw [hs]
    simp only [List.getElem?_append_right (Nat.le_refl _), Nat.sub_self, List.getElem?_cons_zero, ← List.drop_drop,
      List.drop_left', List.drop_succ_cons, List.drop_zero]
    show rangeCardLoop ek el rest (cCard c c.key sl ek el) = _
    rw [rangeCardLoop_eq _ _ hel rest hpost.tail, cCard_eq c hinv sl ek el hsl hel hse, elems_cons, List.filter_append,
      List.length_append, filter_window_of_lt _ _ _ (join_lt_elems_tail hpost hsl (Nat.le_refl _))]
  · rw [hs]
    simp only [List.drop_left']
    rw [rangeCardLoop_eq _ _ hel post hpost, Nat.zero_add,
      filter_window_of_lt _ _ _ (join_lt_elems_of_keys post hpost hsl hgt)]

theorem rangeCardinality_spec (b : Bitmap) (h : b.WF) (lo hi : Bound)
    (hlo : Bound.le u32Max lo) (hhi : Bound.le u32Max hi) :
    rangeCardinality b lo hi = Spec.rangeCardinality u32Max (elems b) lo hi := by
  rw [rangeCardinality_eq]
  unfold Spec.rangeCardinality
  cases hc : convertRange u32Max lo hi with
  | error e =>
    rw [convertRange_error u32Max lo hi hlo hhi e hc]
  | ok r =>
    obtain ⟨st, en⟩ := r
    have hiv := convertRange_ok u32Max lo hi hlo hhi st en hc
    rw [hiv]
    obtain ⟨hse, _, _⟩ := Spec.interval_some u32Max lo hi st en hiv
    have := rcOk_eq (hi16 st) (lo16 st) (hi16 en) (lo16 en) (lo16_lt st) (lo16_lt en)
      (by rw [join_split, join_split]; exact hse) b h.dir
    rw [join_split, join_split] at this
    exact this

theorem cStore_length_le (c : Container) (hc : c.store.Inv) : c.store.elems.length ≤ 65536 :=
  sorted_length_le _ _ (Store.sorted_elems _ hc) (Store.elems_lt _ hc)

theorem cIsFull_iff_length (c : Container) (hc : c.store.Inv) :
    c.isFull = true ↔ c.store.elems.length = 65536 := by
  unfold Container.isFull Store.isFull
  rw [beq_iff_eq, Store.len_eq _ hc]

/-- full: all values lie in `[0, 2^16)`, and that window holds `2^16` of them -/
theorem cIsFull_iff (c : Container) (hc : c.store.Inv) :
    c.isFull = true ↔ ∀ x, x < 65536 → x ∈ c.store.elems := by
  have h := Arr.interval_count_eq_iff c.store.elems (Store.sorted_elems _ hc) 0 65536
  rw [List.filter_eq_self.mpr fun x hx => by simpa using Store.elems_lt _ hc x hx] at h
  rw [cIsFull_iff_length c hc, h]
  exact forall_congr' fun x => by rw [Nat.zero_add]; exact ⟨fun f => f (Nat.zero_le x), fun f _ => f⟩

/-- in a key-sorted list the entries before position `n` are those with a key below that of entry `n` -/
theorem mem_take_of_sorted {rest : Bitmap} (hs : (rest.map Container.key).Pairwise (· < ·)) {n : Nat} {last : Container}
    (hget : rest[n]? = some last) (d : Container) : d ∈ rest.take n ↔ d ∈ rest ∧ d.key < last.key := by
  obtain ⟨hn, rfl⟩ := List.getElem?_eq_some_iff.mp hget
  have e : rest.take n ++ rest[n] :: rest.drop (n + 1) = rest := by
    rw [List.getElem_cons_drop, List.take_append_drop]
  generalize rest[n] = last at e
  generalize rest.take n = pre at e ⊢
  generalize rest.drop (n + 1) = post at e
  subst e
  rw [List.map_append, List.map_cons, List.pairwise_append, List.pairwise_cons] at hs
  constructor
  · exact fun hd => ⟨List.mem_append_left _ hd,
      hs.2.2 _ (List.mem_map_of_mem hd) _ (List.mem_cons_self ..)⟩
  · rintro ⟨hd, hlt⟩
    rcases List.mem_append.mp hd with hd | hd
    · exact hd
    · rcases List.mem_cons.mp hd with rfl | hd
      · exact absurd hlt (Nat.lt_irrefl _)
      · exact absurd hlt (Nat.lt_asymm (hs.2.1.1 _ (List.mem_map_of_mem hd)))

/-- `containers.get(span)` having the expected key `eh` says that the keys `k + 1 ..= eh` are all there (the probe of
    `Arr.containsRange`, on the key list); the containers before it are those with keys between `k` and `eh` -/
theorem run_last_iff (n k eh el : Nat) (hel : el < 65536) (rest : Bitmap) (he : eh = k + 1 + n) (hdir : rest.Dir)
    (hk : ∀ d ∈ rest, k < d.key) :
    ((∃ last, rest[n]? = some last ∧ last.key = eh ∧
        (∀ d ∈ rest.take n, d.isFull = true) ∧ last.containsRange 0 el = true) ↔
     ((∀ k', k < k' → k' < eh → ∀ x, x < 65536 → x ∈ chunk rest k') ∧ ∀ x, x ≤ el → x ∈ chunk rest eh)) := by
  have P := Arr.probe_iff (rest.map Container.key) hdir.1 (k + 1) n
  rw [List.filter_eq_nil_iff.mpr fun y hy => by
      obtain ⟨d, hd, rfl⟩ := List.mem_map.mp hy
      exact fun h => Nat.lt_irrefl _ (Nat.lt_of_lt_of_le (hk d hd) (Nat.le_of_lt_succ (of_decide_eq_true h))),
    List.length_nil, Nat.zero_add, ← he, List.getElem?_map] at P
  have hcr : ∀ last ∈ rest, last.key = eh → (last.containsRange 0 el = true ↔ ∀ x, x ≤ el → x ∈ chunk rest eh) :=
    fun last hl hkey => by
      rw [← hkey, chunk_of_mem rest hdir last hl, Container.containsRange,
        Store.containsRange_spec _ (hdir.inv hl) 0 el (Nat.zero_le _) hel]
      exact forall_congr' fun x => ⟨fun h => h (Nat.zero_le _), fun h _ => h⟩
  constructor
  · rintro ⟨last, hget, hkey, hfull, hQ⟩
    have hl := List.mem_of_getElem? hget
    have hP := P.mp (by rw [hget, ← hkey]; rfl)
    refine ⟨fun k' h1 h2 x hx => ?_, (hcr last hl hkey).mp hQ⟩
    obtain ⟨d, hd, rfl⟩ := List.mem_map.mp (hP.2 k' h1 h2)
    rw [chunk_of_mem rest hdir d hd]
    exact (cIsFull_iff d (hdir.inv hd)).mp
      (hfull d ((mem_take_of_sorted hdir.1 hget d).mpr ⟨hd, hkey ▸ h2⟩)) x hx
  · rintro ⟨hA, hB⟩
    -- a chunk that holds `0` belongs to a container
    have hkeys : ∀ k', (0 ∈ chunk rest k') → k' ∈ rest.map Container.key := fun k' h0 =>
      let ⟨d, hd, hkd, _⟩ := mem_chunk_exists rest k' 0 h0
      List.mem_map.mpr ⟨d, hd, hkd⟩
    obtain ⟨last, hget, hkey⟩ := Option.map_eq_some_iff.mp
      (P.mpr ⟨hkeys eh (hB 0 (Nat.zero_le _)), fun k' h1 h2 => hkeys k' (hA k' h1 h2 0 (by decide))⟩)
    have hl := List.mem_of_getElem? hget
    refine ⟨last, hget, hkey, fun d hd => ?_, (hcr last hl hkey).mpr hB⟩
    obtain ⟨hd1, hd2⟩ := (mem_take_of_sorted hdir.1 hget d).mp hd
    rw [cIsFull_iff d (hdir.inv hd1)]
    intro x hx
    have := hA d.key (hk d hd1) (hkey ▸ hd2) x hx
    rwa [chunk_of_mem rest hdir d hd1] at this

/-- the check of `contains_range` on the containers from the one of `start` on -/
def crFrom (cs : Bitmap) (sh sl eh el : Nat) : Bool :=
  match cs with
  | [] => false
  | first :: _ =>
    if sh = eh then first.containsRange sl el
    else
      let span := eh - sh
      match cs[span]? with
      | some last =>
        if last.key = eh then
          first.containsRange sl 65535
            && ((cs.take span).drop 1).all Container.isFull
            && last.containsRange 0 el
        else false
      | none => false

/-- the body of `contains_range` once the range has been converted to `start ..= en` and both ends
    split into chunk key and low bits -/
def crOk (b : Bitmap) (sh sl eh el : Nat) : Bool :=
  match search b sh with
  | (false, _) => false
  | (true, i) => crFrom (b.drop i) sh sl eh el

theorem containsRange_eq (b : Bitmap) (lo hi : Bound) :
    containsRange b lo hi =
      match convertRange u32Max lo hi with
      | .error _ => true
      | .ok (s, e) => crOk b (hi16 s) (lo16 s) (hi16 e) (lo16 e) := rfl

theorem crFrom_same (c : Container) (rest : Bitmap) (sl el : Nat) :
    crFrom (c :: rest) c.key sl c.key el = c.containsRange sl el := by
  simp [crFrom]

theorem crFrom_span (c : Container) (rest : Bitmap) (sl eh el n : Nat) (he : eh = c.key + 1 + n) :
    (crFrom (c :: rest) c.key sl eh el = true ↔
      c.containsRange sl 65535 = true ∧
      ∃ last, rest[n]? = some last ∧ last.key = eh ∧
        (∀ d ∈ rest.take n, d.isFull = true) ∧ last.containsRange 0 el = true) := by
  unfold crFrom
  have hne : ¬ c.key = eh := by omega
  have hspan : eh - c.key = n + 1 := by omega
  simp only [hne, if_false, hspan, List.getElem?_cons_succ,
    List.take_succ_cons, List.drop_succ_cons]
  cases hget : rest[n]? with
  | none => simp
  | some last =>
    by_cases hk : last.key = eh
    · simp only [hk, if_true, Bool.and_eq_true, List.all_eq_true, Option.some.injEq]
      constructor
      · rintro ⟨⟨ha, hb⟩, hc⟩
        exact ⟨ha, last, rfl, hk, hb, hc⟩
      · rintro ⟨ha, last', hl, _, hb, hc⟩
        subst hl
        exact ⟨⟨ha, hb⟩, hc⟩
    · simp only [hk, if_false, Option.some.injEq]
      constructor
      · intro hf; exact absurd hf (by simp)
      · rintro ⟨_, last', hl, hk', _, _⟩
        subst hl; exact absurd hk' hk

/-- `contains_range` when the first container is the one of `start`: every chunk position `(k, x)` between
    `(c.key, sl)` and `(eh, el)` in the lexicographic order is occupied -/
theorem crFrom_head (c : Container) (rest : Bitmap) (hdir : Dir (c :: rest)) (sl eh el : Nat)
    (hsl : sl < 65536) (hel : el < 65536) (hse : c.key < eh ∨ c.key = eh ∧ sl ≤ el) :
    (crFrom (c :: rest) c.key sl eh el = true ↔
      ∀ k x, x < 65536 → (c.key < k ∨ c.key = k ∧ sl ≤ x) → (k < eh ∨ k = eh ∧ x ≤ el) →
        x ∈ chunk (c :: rest) k) := by
  have hinv := hdir.inv (List.mem_cons_self ..)
  by_cases he : c.key = eh
  · subst he
    rw [crFrom_same, Container.containsRange, Store.containsRange_spec _ hinv _ _
      (hse.elim (fun h => absurd h (Nat.lt_irrefl _)) And.right) hel]
    constructor
    · intro hall k x hx h1 h3
      rw [chunk_cons_eq c rest k (by omega)]
      exact hall x (by omega) (by omega)
    · intro hall x h1 h3
      have := hall c.key x (Nat.lt_of_le_of_lt h3 hel) (Or.inr ⟨rfl, h1⟩) (Or.inr ⟨rfl, h3⟩)
      rwa [chunk_cons_eq c rest _ rfl] at this
  · have hlt : c.key < eh := hse.elim id fun e => absurd e.1 he
    obtain ⟨n, hn⟩ := Nat.exists_eq_add_of_lt hlt
    rw [Nat.add_right_comm] at hn
    rw [crFrom_span c rest sl eh el n hn,
      run_last_iff n c.key eh el hel rest hn hdir.tail hdir.head_lt, Container.containsRange,
      Store.containsRange_spec _ hinv _ _ (Nat.le_of_lt_succ hsl) (by decide)]
    constructor
    · rintro ⟨hA, hB, hC⟩ k x hx h1 h3
      by_cases k1 : c.key = k
      · rw [chunk_cons_eq c rest k k1]
        exact hA x (h1.elim (fun h => absurd k1 (Nat.ne_of_lt h)) And.right) (Nat.le_of_lt_succ hx)
      · rw [chunk_cons_ne c rest k k1]
        by_cases k2 : k = eh
        · rw [k2]
          exact hC x (h3.elim (fun h => absurd k2 (Nat.ne_of_lt h)) And.right)
        · exact hB k (h1.elim id fun e => absurd e.1 k1) (h3.elim id fun e => absurd e.1 k2) x hx
    · intro hall
      refine ⟨?_, ?_, ?_⟩
      · intro x h1 h3
        have := hall c.key x (Nat.lt_succ_of_le h3) (Or.inr ⟨rfl, h1⟩) (Or.inl hlt)
        rwa [chunk_cons_eq c rest _ rfl] at this
      · intro k h1 h2 x hx
        have := hall k x hx (Or.inl h1) (Or.inl h2)
        rwa [chunk_cons_ne c rest _ (Nat.ne_of_lt h1)] at this
      · intro x hx
        have := hall eh x (Nat.lt_of_le_of_lt hx hel) (Or.inl hlt) (Or.inr ⟨rfl, hx⟩)
        rwa [chunk_cons_ne c rest _ he] at this

theorem crOk_iff (sh sl eh el : Nat) (hsl : sl < 65536) (hel : el < 65536)
    (hse : sh < eh ∨ sh = eh ∧ sl ≤ el) (b : Bitmap) (hdir : b.Dir) :
    (crOk b sh sl eh el = true ↔
      ∀ k x, x < 65536 → (sh < k ∨ sh = k ∧ sl ≤ x) → (k < eh ∨ k = eh ∧ x ≤ el) → x ∈ chunk b k) := by
  unfold crOk
  obtain ⟨pre, post, rfl, hpre, ⟨c, rest, rfl, rfl, _, hs⟩ | ⟨hpost, hs⟩⟩ := search_spec b sh hdir.1
  · rw [hs]
    simp only [List.drop_left']
    rw [crFrom_head c rest (hdir.sublist (List.sublist_append_right ..)) sl eh el hsl hel hse]
    -- the chunks from `c.key` on are those of `c :: rest`
    refine forall_congr' fun k => forall_congr' fun x => imp_congr_right fun _ => imp_congr_right fun h1 => ?_
    rw [chunk_append_of_ne fun d hd => Nat.ne_of_lt
      (Nat.lt_of_lt_of_le (hpre d hd) (h1.elim Nat.le_of_lt fun e => Nat.le_of_eq e.1))]
  · rw [hs]
    refine ⟨nofun, fun hall => ?_⟩
    have := hall sh sl hsl (Or.inr ⟨rfl, Nat.le_refl _⟩) hse
    rw [chunk_nil_of_ne fun d hd => (List.mem_append.mp hd).elim
      (fun h => Nat.ne_of_lt (hpre d h)) (fun h => Nat.ne_of_gt (hpost d h))] at this
    cases this

theorem containsRange_spec (b : Bitmap) (h : b.WF) (lo hi : Bound)
    (hlo : Bound.le u32Max lo) (hhi : Bound.le u32Max hi) :
    containsRange b lo hi = Spec.containsRange u32Max (elems b) lo hi := by
  rw [containsRange_eq]
  unfold Spec.containsRange
  cases hc : convertRange u32Max lo hi with
  | error e =>
    rw [convertRange_error u32Max lo hi hlo hhi e hc]
  | ok r =>
    obtain ⟨st, en⟩ := r
    have hiv := convertRange_ok u32Max lo hi hlo hhi st en hc
    rw [hiv]
    obtain ⟨hse, _, _⟩ := Spec.interval_some u32Max lo hi st en hiv
    have hsl := lo16_lt st
    have hel := lo16_lt en
    simp only []
    rw [Bool.eq_iff_iff, beq_iff_eq, Spec.count_eq_iff _ (sorted_elems b h.dir) st en hse,
      crOk_iff _ _ _ _ hsl hel (by rw [← join_le_join hsl hel, join_split, join_split]; exact hse) b h.dir]
    constructor
    · intro H y h1 h2
      obtain ⟨k, x, hx, rfl⟩ := exists_join y
      exact (mem_elems_join b h.dir k x hx).mpr (H k x hx ((le_join_iff st hx).mp h1) ((join_le_iff en hx).mp h2))
    · intro H k x hx h1 h2
      exact (mem_elems_join b h.dir k x hx).mp (H _ ((le_join_iff st hx).mpr h1) ((join_le_iff en hx).mpr h2))

/-- strictly ascending keys below 2^16: at most 2^16 containers -/
theorem dir_length_le (b : Bitmap) (h : b.Dir) : b.length ≤ 65536 :=
  Blk.length_le_of_keys h.1 fun c hc => (h.2 c hc).1

/-- `is_full` ⇔ the set is all of `0 ..= u32::MAX`: at most 2^16 containers of at most 2^16 values each -/
theorem isFull_spec (b : Bitmap) (h : b.WF) : isFull b = Spec.isFull u32Max (elems b) := by
  have hdir := h.dir
  rw [Bool.eq_iff_iff]
  simp only [isFull, Spec.isFull, Bool.and_eq_true, beq_iff_eq, List.all_eq_true]
  show _ ↔ (elems b).length = 65536 * 65536
  rw [elems_eq_blk, Blk.full_iff (by decide) hdir.1 (fun c hc => (hdir.2 c hc).1)
    (fun c hc => cStore_length_le c (hdir.inv hc))]
  exact and_congr_right fun _ => forall_congr' fun c => imp_congr_right fun hc => cIsFull_iff_length c (hdir.inv hc)

/-! ### `rank` and `select` are mutually inverse on members (`C07_rank_select`, `C07_select_rank`) -/

theorem rank_select (b : Bitmap) (h : b.WF) (n : Nat) (hn : n < (elems b).length) :
    ∃ v, select b n = some v ∧ rank b v = n + 1 := by
  have hdir := h.dir
  have hs := sorted_elems b hdir
  have h1 : (elems b)[n]? = some (elems b)[n] := List.getElem?_eq_getElem hn
  refine ⟨(elems b)[n], ?_, ?_⟩
  · rw [select_eq b hdir]; exact h1
  · rw [rank_eq _ b hdir, Arr.filter_le_length _ hs]
    obtain ⟨hm, hidx⟩ := (Arr.getElem?_eq_some_iff_sorted _ hs n _).mp h1
    rw [if_pos hm, ← hidx]

theorem select_rank (b : Bitmap) (h : b.WF) (v : Nat) (hv : v ∈ elems b) :
    select b (rank b v - 1) = some v := by
  have hdir := h.dir
  have hs := sorted_elems b hdir
  rw [rank_eq _ b hdir, select_eq b hdir, Arr.filter_le_length _ hs, if_pos hv, Nat.add_sub_cancel]
  exact (Arr.getElem?_eq_some_iff_sorted _ hs _ _).mpr ⟨hv, rfl⟩

end Bitmap
end Roaring
