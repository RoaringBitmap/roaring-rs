import RoaringModel.Fmt
import RoaringModel.TreemapFmt
import RoaringModel.Lemmas.TreemapIter32
import RoaringModel.Lemmas.TreemapIterCursor
import RoaringModel.Lemmas.IterRangeLemmas
import RoaringModel.Lemmas.TreemapCanonical
import RoaringModel.Lemmas.TreemapQuery
/-!
# `Debug` formatting through the mirrored iterators (fidelity audit)

`Bitmap.debugFmtM` / `Treemap.debugFmtM` print `self.iter().collect::<Vec<_>>()` by running the mirrored iterator
(`next()` until `None`); the proof-carrying `debugFmt` prints the abstraction `elems`.  They agree on every
well-formed value: `Iter.next_spec` with `Iter.iter_spec` (32-bit) and `TIter.Iter.next_spec` with `TIter.Iter.new_spec`
(64-bit) say that repeated `next` yields exactly `elems`.
-/
namespace Roaring
namespace Fidelity
open TIter

theorem collect_iter (b : Bitmap) (h : b.IterOK) (hu : ∀ x ∈ Bitmap.elems b, x ≤ u32Max) :
    Bitmap.collectFuel Bitmap.collectFuelMax (Bitmap.iter b) = Bitmap.elems b := by
  obtain ⟨h1, h2⟩ := Iter.iter_spec b h
  rw [collect_eq_rem (collect := Bitmap.collectFuel)
    (fun f s => by
      rw [Bitmap.collectFuel]
      rcases s.next with ⟨_, _ | _⟩ <;> rfl)
    Iter.next_spec _ _ h1 ?_, h2]
  exact Nat.lt_succ_of_le (Iter.length_le_of_sorted _ u32Max (Iter.rem_sorted _ h1) (h2 ▸ hu))

/-- **Debug (32-bit).** The formatter that runs the mirrored iterator prints what `debugFmt` prints, for a value the
    iterator accepts (`Bitmap.IterOK`) whose values are `u32`. -/
theorem debugFmtM_eq (b : Bitmap) (h : b.IterOK) (hu : ∀ x ∈ Bitmap.elems b, x ≤ u32Max) :
    Bitmap.debugFmtM b = Bitmap.debugFmt b := by
  unfold Bitmap.debugFmtM Bitmap.debugFmt
  rw [collect_iter b h hu]

theorem tcollect_iter (t : Treemap) (h : Treemap.TWF t) :
    Treemap.collectFuel Treemap.collectFuelMax (TIter.Iter.new (K := Inner.iter32) t) = Treemap.elems t := by
  obtain ⟨h1, h2⟩ := TIter.Iter.new_spec InnerSpec.iter32 h
  rw [collect_eq_rem (collect := Treemap.collectFuel) (rem := fun it => it.rem InnerSpec.iter32)
    (fun f s => by
      rw [Treemap.collectFuel]
      rcases s.next with ⟨_, _ | _⟩ <;> rfl)
    (fun s h => have ⟨h3, h2, h1⟩ := TIter.Iter.next_spec InnerSpec.iter32 s h; ⟨h1, h2, h3⟩) _ _ h1 ?_, h2]
  rw [h2]
  rcases Treemap.length_le_of_sorted_lt (Treemap.elems t) 0 18446744073709551616
    (Treemap.sorted_elems Treemap.elems32 h) (fun _ _ => Nat.zero_le _) (Treemap.elems_lt Treemap.elems32 h) with hl | hl
  · exact Nat.lt_succ_of_le hl
  · exact hl ▸ Nat.succ_pos _

/-- **Debug (64-bit).** The formatter that runs the mirrored `treemap::Iter` prints what `debugFmt` prints. -/
theorem tdebugFmtM_eq (t : Treemap) (h : Treemap.TWF t) : Treemap.debugFmtM t = Treemap.debugFmt t := by
  unfold Treemap.debugFmtM Treemap.debugFmt
  rw [tcollect_iter t h]

end Fidelity
end Roaring
