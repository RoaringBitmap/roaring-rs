import RoaringModel.SafeCodec
import RoaringModel.Lemmas.SafeLemmas
import RoaringModel.Lemmas.CodecKernel
import RoaringModel.Lemmas.MiscLsb0Aligned
import RoaringModel.Lemmas.SpecRoundTrip
import RoaringModel.Lemmas.IOLemmas
import RoaringModel.Lemmas.InterSer
/-!
# The `Safe_*` side conditions of the codec area hold (C16)

For every predicate of `RoaringModel/SafeCodec.lean` a theorem `safe_…` (except the per-call `Safe_seekCur`, which
`curOK_skip` establishes where the sequential loop needs it).  The decoders are handled for EVERY reader
that satisfies the `read_exact` contract `ReaderOK` ("a successful `read_exact(n)` returns `n` bytes") — the in-memory
slice reader `readN` and the `Cursor` of `SerOps.lean` are instances — and for every reader state, i.e. for arbitrary
input bytes.
-/
namespace Roaring
open Parser

/-- a successful `Cursor::read_exact(n)` returns `n` of the data bytes and leaves the position where it was or inside
    the data -/
theorem Cursor.readExact_ok {n : Nat} {c c' : Cursor} {out : List Nat} (he : Cursor.readExact n c = .ok (out, c')) :
    out.length = n ∧ (∀ x ∈ out, x ∈ c.data) ∧ c'.data = c.data ∧ (c'.pos = c.pos ∨ c'.pos ≤ c.data.length) := by
  unfold Cursor.readExact at he
  split at he
  · next h0 =>
    cases he
    exact ⟨h0.symm, fun _ hx => (List.not_mem_nil hx).elim, rfl, Or.inl rfl⟩
  · split at he
    · next h1 =>
      cases he
      exact ⟨by rw [List.length_take, List.length_drop]; exact Nat.min_eq_left (Nat.le_sub_of_add_le' h1),
        fun x hx => List.mem_of_mem_drop (List.mem_of_mem_take hx), rfl, Or.inr h1⟩
    · cases he

theorem readerOK_cursor : ReaderOK (fun c : Cursor => IsBytes c.data) Cursor.readExact := by
  intro n c bytes c' hc he
  obtain ⟨h1, h2, h3, -⟩ := Cursor.readExact_ok he
  exact ⟨h1, fun x hx => hc x (h2 x hx), fun x hx => hc x (h3 ▸ hx)⟩

/-- the scheduled reader of `IO.lean` (arbitrary chunking and `Interrupted` results of the underlying `read`) -/
theorem readerOK_sched : ReaderOK (fun r : SReader => IsBytes r.data) SReader.readExact := by
  intro n r bytes r' hr he
  have h := readExactS_eq r.sched r.data n
  unfold SReader.readExact at he
  rw [he] at h
  simp only [Except.map] at h
  obtain ⟨h1, h2, h3⟩ := readerOK_readN n r.data bytes r'.data hr h.symm
  exact ⟨h1, h2, h3⟩

theorem u64_of_le {n : Nat} (h : n ≤ 4294967296) : U64 n := Nat.lt_of_le_of_lt h (by decide)

/-- the run bitmap (`(size + 7) / 8` bytes) has a bit for each of the `size` containers -/
theorem le_mul_div_add (n : Nat) : n ≤ 8 * ((n + 7) / 8) := by omega

theorem leVal_lt_of_length (n : Nat) (bs : List Nat) (hl : bs.length = n) (hb : IsBytes bs) : leVal bs < 256 ^ n := by
  have := leVal_lt bs hb
  rw [hl] at this
  exact this

/-! ## the auxiliary `cookieSize` agrees with the model's `decodeHeader` -/

theorem pure_inv {σ α : Type} {a b : α} {s s' : σ} (h : (pure a : Parser σ α) s = .ok (b, s')) : b = a ∧ s' = s := by
  simp only [pure, Parser.pure, Except.ok.injEq, Prod.mk.injEq] at h
  exact ⟨h.1.symm, h.2.symm⟩

/-- the auxiliary `cookieSize` recomputes the first two steps of the model's `decodeHeader`: whenever the header is
    parsed, `cookieSize` succeeds with the header's `size`, and its run flag says whether a run bitmap was read -/
theorem decodeHeader_cookieSize {σ : Type} (R : Nat → Parser σ (List Nat)) (s s' : σ) (h : Header)
    (he : decodeHeader R s = .ok (h, s')) :
    ∃ cookie hasRun s1, cookieSize R s = .ok ((cookie, h.size, hasRun), s1) ∧ hasRun = h.runBitmap.isSome := by
  unfold decodeHeader at he
  obtain ⟨cb, s1, h1, he⟩ := bind_ok_inv he
  obtain ⟨⟨size, ho, hr⟩, s2, h2, he⟩ := bind_ok_inv he
  obtain ⟨rb, s3, h3, he⟩ := bind_ok_inv he
  dsimp only at h2 h3 he
  by_cases hsz : size > 65536
  · rw [if_pos hsz] at he
    cases he
  rw [if_neg hsz] at he
  obtain ⟨db, s4, _, he⟩ := bind_ok_inv he
  obtain ⟨ob, s5, _, he⟩ := bind_ok_inv he
  obtain ⟨rfl, _⟩ := pure_inv he
  have hrb : hr = rb.isSome := by
    cases hr with
    | true =>
      rw [if_pos rfl] at h3
      obtain ⟨bm, s4, _, h3⟩ := bind_ok_inv h3
      obtain ⟨rfl, _⟩ := pure_inv h3
      rfl
    | false =>
      obtain ⟨rfl, _⟩ := pure_inv h3
      rfl
  unfold cookieSize
  rw [h1]
  dsimp only
  by_cases hc : leVal cb = 12346
  · rw [if_pos hc] at h2 ⊢
    obtain ⟨sb, s4, h4, h2⟩ := bind_ok_inv h2
    obtain ⟨h2, rfl⟩ := pure_inv h2
    cases h2
    rw [h4]
    exact ⟨_, _, _, rfl, hrb⟩
  · rw [if_neg hc] at h2 ⊢
    by_cases hc2 : leVal cb % 65536 = 12347
    · rw [if_pos hc2] at h2 ⊢
      obtain ⟨h2, rfl⟩ := pure_inv h2
      cases h2
      exact ⟨_, _, _, rfl, hrb⟩
    · rw [if_neg hc2] at h2
      cases h2

/-! ## `deserialize_from_impl` -/

section decoder
variable {σ : Type} {Good : σ → Prop} {R : Nat → Parser σ (List Nat)}

theorem safe_decodeHeader (hR : ReaderOK Good R) (s : σ) (hs : Good s) : Safe_decodeHeader R s := by
  unfold Safe_decodeHeader
  split
  · trivial
  · next cookie size hasRun s' hc =>
    unfold cookieSize at hc
    split at hc
    · simp at hc
    · next cb s1 h1 =>
      obtain ⟨l1, b1, g1⟩ := hR 4 s cb s1 hs h1
      have hcb : leVal cb < 4294967296 := leVal_lt_of_length 4 cb l1 b1
      simp only [] at hc
      split at hc
      · split at hc
        · simp at hc
        · next sb s2 h2 =>
          obtain ⟨l2, b2, _⟩ := hR 4 s1 sb s2 g1 h2
          have hsb : leVal sb < 4294967296 := leVal_lt_of_length 4 sb l2 b2
          simp only [Except.ok.injEq, Prod.mk.injEq] at hc
          obtain ⟨⟨rfl, rfl, rfl⟩, _⟩ := hc
          exact ⟨hcb, hsb, by simp, fun hle => Nat.lt_of_le_of_lt (Nat.mul_le_mul_right 4 hle) (by decide)⟩
      · split at hc
        · simp only [Except.ok.injEq, Prod.mk.injEq] at hc
          obtain ⟨⟨rfl, rfl, rfl⟩, _⟩ := hc
          have hq : leVal cb / 65536 < 65536 := Nat.div_lt_of_lt_mul hcb
          have hq32 : U32 (leVal cb / 65536 + 1) := Nat.lt_of_le_of_lt hq (by decide)
          exact ⟨hcb, hq32, fun _ => ⟨by decide, hq32, Nat.lt_of_le_of_lt (Nat.add_le_add_right hq 7) (by decide)⟩,
            fun hle => Nat.lt_of_le_of_lt (Nat.mul_le_mul_right 4 hle) (by decide)⟩
        · simp at hc

theorem safe_replayRuns : ∀ (rs : List (Nat × Nat)) (st : Store), st.Inv → (∀ p ∈ rs, p.1 < 65536 ∧ p.2 < 65536) →
    Safe_replayRuns st rs := by
  intro rs
  induction rs with
  | nil => exact fun _ _ _ => trivial
  | cons r rs ih =>
    obtain ⟨s, len⟩ := r
    intro st hst h
    obtain ⟨hp, hrs⟩ := List.forall_mem_cons.1 h
    unfold Safe_replayRuns
    refine ⟨hp.1, hp.2, fun hle => ?_⟩
    have he : s + len < 65536 := Nat.lt_succ_of_le (Nat.le_of_not_lt hle)
    exact ⟨Nat.le_add_right _ _, Store.safe_insertRange st hst s (s + len) (Nat.le_add_right _ _) he,
      ih _ (Store.insertRange_spec st hst s (s + len) (Nat.le_add_right _ _) he).1 hrs⟩

theorem safe_decodeRunStore (hR : ReaderOK Good R) (s : σ) (hs : Good s) : Safe_decodeRunStore R s := by
  unfold Safe_decodeRunStore
  split
  · trivial
  · next rb s1 h1 =>
    obtain ⟨l1, b1, g1⟩ := hR 2 s rb s1 hs h1
    have hruns : leVal rb < 65536 := leVal_lt_of_length 2 rb l1 b1
    simp only []
    refine ⟨hruns, Nat.lt_of_le_of_lt (Nat.mul_le_mul_right 4 (Nat.le_of_lt hruns)) (by decide), ?_⟩
    split
    · trivial
    · next ib s2 h2 =>
      obtain ⟨l2, b2, _⟩ := hR _ s1 ib s2 g1 h2
      obtain ⟨p1, p2⟩ := pairs_leWords2 (leVal rb) ib l2 b2
      refine ⟨?_, safe_replayRuns _ _ (withCapacity_inv _) p2⟩
      have := foldl_add_le (·.2) 65535 (pairs (leWords 2 ib)) 0 fun p hp => Nat.le_of_lt_succ (p2 p hp).2
      rw [p1, Nat.zero_add] at this
      rw [List.foldl_map]
      exact Nat.lt_of_le_of_lt (Nat.le_trans this (Nat.mul_le_mul_left _ (Nat.le_of_lt hruns))) (by decide)

theorem postG_decodeRunStore (hR : ReaderOK Good R) : PostG Good Store.Inv (decodeRunStore R) := by
  unfold decodeRunStore
  apply postG_bind _ _ (postG_read hR _); intro rb ⟨hl1, hb1⟩
  apply postG_bind _ _ (postG_read hR _); intro ib ⟨hl2, hb2⟩
  apply postG_ofExcept
  intro st hst
  exact (replayRuns_spec _ _ st (withCapacity_inv _) hst).1

theorem safe_decodeBitmapStore (hR : ReaderOK Good R) (validate : Bool) (s : σ) (hs : Good s) :
    Safe_decodeBitmapStore R validate s := by
  unfold Safe_decodeBitmapStore
  split
  · trivial
  · next wb s1 h1 =>
    obtain ⟨l1, b1, _⟩ := hR 8192 s wb s1 hs h1
    have hl : (leWords 8 wb).length = 1024 := by rw [leWords_length, l1]
    refine ⟨hl, fun _ => ?_⟩
    have := BStore.popSum_le (leWords 8 wb) hl (fun w hw => by
      have := leWords_lt 8 wb b1 w hw
      simpa using this)
    exact Nat.lt_of_le_of_lt this (by decide)

theorem safe_decodeArrayStore (card : Nat) (h : card ≤ 65536) : Safe_decodeArrayStore card :=
  ⟨Nat.lt_of_le_of_lt h (by decide), Nat.lt_of_le_of_lt (Nat.mul_le_mul_right 2 h) (by decide)⟩

theorem safe_decodeStore (hR : ReaderOK Good R) (chk dbg : Bool) (card : Nat) (hcard : card ≤ 65536) (isRun : Bool)
    (s : σ) (hs : Good s) : Safe_decodeStore R chk dbg card isRun s := by
  unfold Safe_decodeStore
  split
  · refine ⟨safe_decodeRunStore hR s hs, ?_⟩
    split
    · next st s' he =>
      exact Container.safe_ensureCorrectStore _ (postG_decodeRunStore hR s st s' hs he).1
    · trivial
  · split
    · exact safe_decodeArrayStore card hcard
    · exact safe_decodeBitmapStore hR _ s hs

theorem postG_decodeStore (hR : ReaderOK Good R) (chk dbg : Bool) (card : Nat) (isRun : Bool) :
    PostG Good (fun _ => True) (decodeStore R chk dbg card isRun) :=
  (same_decodeStore (R' := R) (ok := fun _ => True) (fun _ _ => trivial) chk dbg (fun _ _ => trivial) card isRun).good hR

theorem safe_descr (rb : Option (List Nat)) (i cardM1 : Nat) (hc : cardM1 < 65536)
    (hrb : ∀ bm, rb = some bm → i < 8 * bm.length) : Safe_descr rb i cardM1 := by
  unfold Safe_descr
  refine ⟨hc, Nat.lt_of_le_of_lt hc (by decide), ?_⟩
  split
  · next bm => exact ⟨Nat.div_lt_of_lt_mul (hrb bm rfl), Nat.mod_lt _ (by decide)⟩
  · trivial

theorem safe_decodeContainers (hR : ReaderOK Good R) (chk dbg : Bool) (rb : Option (List Nat)) :
    ∀ (ds : List (Nat × Nat)) (i : Nat) (s : σ), Good s → (∀ d ∈ ds, d.2 < 65536) →
      (∀ bm, rb = some bm → i + ds.length ≤ 8 * bm.length) → Safe_decodeContainers R chk dbg rb ds i s := by
  intro ds
  induction ds with
  | nil => exact fun _ _ _ _ _ => trivial
  | cons d ds ih =>
    obtain ⟨key, cardM1⟩ := d
    intro i s hs hd hrb
    have hc : cardM1 < 65536 := hd (key, cardM1) List.mem_cons_self
    unfold Safe_decodeContainers
    refine ⟨safe_descr rb i cardM1 hc (fun bm h => Nat.lt_of_lt_of_le (Nat.lt_add_of_pos_right (Nat.succ_pos _)) (hrb bm h)),
      safe_decodeStore hR chk dbg _ hc _ s hs, ?_⟩
    split
    · next st s' he =>
      refine ih (i + 1) s'
        (postG_decodeStore hR chk dbg _ _ s st s' hs he).2 (fun d hd' => hd d (List.mem_cons_of_mem _ hd'))
        (fun bm h => by rw [Nat.add_right_comm]; exact hrb bm h)
    · trivial

/-- **`deserialize_from_impl` has no arithmetic panic on any input**, over any reader that honours `read_exact` -/
theorem safe_deserialize (hR : ReaderOK Good R) (chk dbg : Bool) (s : σ) (hs : Good s) :
    Safe_deserialize R chk dbg s := by
  unfold Safe_deserialize
  refine ⟨safe_decodeHeader hR s hs, ?_⟩
  split
  · trivial
  · next h s' he =>
    obtain ⟨⟨h1, h2, h3, h4, _, _⟩, hs'⟩ := postG_decodeHeader hR s h s' hs he
    refine ⟨h2, h1, safe_decodeContainers hR chk dbg _ _ 0 s' hs' (fun d hd => (h3 d hd).2) ?_⟩
    intro bm hbm
    rw [h2, h4 bm hbm, Nat.zero_add]
    exact le_mul_div_add _

end decoder

/-! ## `intersection_with_serialized_unchecked` -/

/-- the cursor reads `bytes` and is at most `M` past their end -/
def CurOK (bytes : List Nat) (M : Nat) (c : Cursor) : Prop := c.data = bytes ∧ c.pos ≤ bytes.length + M

theorem readerOK_curOK (bytes : List Nat) (hb : IsBytes bytes) (M : Nat) :
    ReaderOK (CurOK bytes M) Cursor.readExact := by
  intro n c out c' hc he
  obtain ⟨h1, h2, h3, h4⟩ := Cursor.readExact_ok he
  refine ⟨h1, fun x hx => hb x (hc.1 ▸ h2 x hx), h3.trans hc.1, ?_⟩
  rcases h4 with h4 | h4
  · rw [h4]; exact hc.2
  · exact Nat.le_trans (hc.1 ▸ h4) (Nat.le_add_right _ _)

section inter
variable {bytes : List Nat}

theorem safe_interReadStore (hb : IsBytes bytes) (M : Nat) (dbg : Bool) (card : Nat) (hcard : card ≤ 65536)
    (isRun : Bool) (c : Cursor) (hc : CurOK bytes M c) : Safe_interReadStore dbg card isRun c := by
  have hR := readerOK_curOK bytes hb M
  unfold Safe_interReadStore
  split
  · exact safe_decodeRunStore hR c hc
  · split
    · exact safe_decodeArrayStore card hcard
    · exact safe_decodeBitmapStore hR _ c hc

theorem postG_interReadStore (hb : IsBytes bytes) (M : Nat) (dbg : Bool) (card : Nat) (isRun : Bool) :
    PostG (CurOK bytes M) (fun _ => True) (interReadStore dbg card isRun) :=
  (same_readStoreG (R' := Cursor.readExact) (ok := fun _ => True) (fun _ _ => trivial) dbg (fun _ => trivial) card
    isRun).good (readerOK_curOK bytes hb M)

/-- skipping a chunk (`n ≤ 2·2·65535` bytes) with `k` more descriptions to go: the seek is safe, and the cursor is at
    most `n` bytes further past the end -/
theorem curOK_skip {c : Cursor} {M n k : Nat} (hc : CurOK bytes M c) (hn : n ≤ 262140)
    (hM : bytes.length + M + 262140 * (k + 1) < 18446744073709551616) :
    Safe_seekCur c n ∧ CurOK bytes (M + n) { c with pos := c.pos + n }
      ∧ bytes.length + (M + n) + 262140 * k < 18446744073709551616 := by
  have h1 : c.pos + n ≤ bytes.length + (M + n) := by
    rw [← Nat.add_assoc]
    exact Nat.add_le_add_right hc.2 n
  have h2 : bytes.length + (M + n) + 262140 * k < 18446744073709551616 := by
    rw [← Nat.add_assoc]
    exact counter_step hn hM
  exact ⟨⟨Nat.lt_of_le_of_lt hn (by decide),
    ⟨Int.le_trans (by decide) (Int.natCast_nonneg n), Int.lt_of_le_of_lt (Int.ofNat_le.2 hn) (by decide)⟩,
    Nat.lt_of_le_of_lt (Nat.le_trans h1 (Nat.le_add_right _ _)) h2⟩, ⟨hc.1, h1⟩, h2⟩

theorem safe_interSequential (hb : IsBytes bytes) (dbg : Bool) (a : Bitmap) (rb : Option (List Nat)) :
    ∀ (ds : List (Nat × Nat)) (i : Nat) (c : Cursor) (M : Nat), CurOK bytes M c → (∀ d ∈ ds, d.2 < 65536) →
      (∀ bm, rb = some bm → i + ds.length ≤ 8 * bm.length) →
      bytes.length + M + 262140 * ds.length < 18446744073709551616 →
      Safe_interSequential dbg a rb ds i c := by
  intro ds
  induction ds with
  | nil => exact fun _ _ _ _ _ _ _ => trivial
  | cons d ds ih =>
    obtain ⟨key, cardM1⟩ := d
    intro i c M hc hd hrb hM
    have hcm : cardM1 < 65536 := hd (key, cardM1) List.mem_cons_self
    have hd' : ∀ d ∈ ds, d.2 < 65536 := fun d h => hd d (List.mem_cons_of_mem _ h)
    have hrb' : ∀ bm, rb = some bm → i + 1 + ds.length ≤ 8 * bm.length := fun bm h => by
      rw [Nat.add_right_comm]; exact hrb bm h
    simp only [List.length_cons] at hM
    unfold Safe_interSequential
    simp only []
    refine ⟨safe_descr rb i cardM1 hcm (fun bm h => Nat.lt_of_lt_of_le (Nat.lt_add_of_pos_right (Nat.succ_pos _))
      (hrb bm h)), ?_⟩
    split
    · refine ⟨safe_interReadStore hb M dbg _ hcm _ c hc, ?_⟩
      split
      · next st c' he =>
        exact ih (i + 1) c' M
          (postG_interReadStore hb M dbg _ _ c st c' hc he).2 hd' hrb'
          (Nat.lt_of_le_of_lt (Nat.add_le_add_left (Nat.mul_le_mul_left _ (Nat.le_succ _)) _) hM)
      · trivial
    · split
      · split
        · trivial
        · next rbs c1 h1 =>
          obtain ⟨l1, b1, g1⟩ := readerOK_curOK bytes hb M 2 c rbs c1 hc h1
          have hruns : leVal rbs < 65536 := leVal_lt_of_length 2 rbs l1 b1
          obtain ⟨hs, hc', hM'⟩ := curOK_skip (n := 2 * 2 * leVal rbs) g1
            (Nat.mul_le_mul_left (2 * 2) (Nat.le_of_lt_succ hruns)) hM
          exact ⟨hruns, hs, ih (i + 1) _ _ hc' hd' hrb' hM'⟩
      · split
        · next hle =>
          obtain ⟨hs, hc', hM'⟩ := curOK_skip (n := 2 * (cardM1 + 1)) hc
            (Nat.le_trans (Nat.mul_le_mul_left 2 hle) (by decide)) hM
          exact ⟨Nat.lt_of_le_of_lt hcm (by decide), hs, ih (i + 1) _ _ hc' hd' hrb' hM'⟩
        · obtain ⟨hs, hc', hM'⟩ := curOK_skip (n := 8 * 1024) hc (by decide) hM
          exact ⟨hs, ih (i + 1) _ _ hc' hd' hrb' hM'⟩

theorem descrSearch_lt (descr : List (Nat × Nat)) (key i : Nat) (h : descrSearch descr key = some i) :
    i < descr.length := by
  unfold descrSearch at h
  simp only [] at h
  split at h
  · next d hd =>
    split at h
    · simp only [Option.some.injEq] at h
      subst h
      exact (List.getElem?_eq_some_iff.mp hd).1
    · simp at h
  · simp at h

theorem safe_interOffsets (hb : IsBytes bytes) (dbg : Bool) (h : Header) (hh : HeaderOK h)
    (ho : h.offsets.length = h.size) :
    ∀ (cs : List Container) (cur : Cursor), cur.data = bytes → Safe_interOffsets dbg h cs cur := by
  obtain ⟨-, h2, h3, h4, -, h6⟩ := hh
  intro cs
  induction cs with
  | nil => exact fun _ _ => trivial
  | cons c cs ih =>
    intro cur hcur
    unfold Safe_interOffsets
    split
    · exact ih cur hcur
    · next i hi =>
      have hil := descrSearch_lt _ _ _ hi
      have hio : i < h.offsets.length := by rw [ho, ← h2]; exact hil
      have hd : (h.descr.getD i (0, 0)).2 < 65536 := by
        rw [List.getD_eq_getElem?_getD, List.getElem?_eq_getElem hil]
        exact (h3 _ (List.getElem_mem hil)).2
      have ho32 : h.offsets.getD i 0 < 4294967296 := by
        rw [List.getD_eq_getElem?_getD, List.getElem?_eq_getElem hio]
        exact h6 _ (List.getElem_mem hio)
      have hc1 : CurOK bytes 4294967296 { cur with pos := h.offsets.getD i 0 } := ⟨hcur,
        Nat.le_trans (Nat.le_of_lt ho32) (Nat.le_add_left _ _)⟩
      simp only []
      refine ⟨hio, ho32, hil, safe_descr _ i _ hd ?_, safe_interReadStore hb _ dbg _ hd _ _ hc1, ?_⟩
      · intro bm hbm
        rw [h4 bm hbm]
        exact Nat.lt_of_lt_of_le (h2 ▸ hil) (le_mul_div_add _)
      · split
        · next st cur' he =>
          exact ih cur'
            (postG_interReadStore hb _ dbg _ _ _ st cur' hc1 he).2.1
        · trivial

/-- **`intersection_with_serialized_unchecked` has no arithmetic panic while reading / seeking, on any input bytes**
    (`bytes.length < 2^63`: a Rust slice / `Vec` never exceeds `isize::MAX` bytes) -/
theorem safe_interSer (dbg : Bool) (a : Bitmap) (bytes : List Nat) (hb : IsBytes bytes)
    (hlen : bytes.length < 9223372036854775808) : Safe_interSer dbg a bytes := by
  have hR := readerOK_curOK bytes hb 0
  have hc0 : CurOK bytes 0 ⟨bytes, 0⟩ := ⟨rfl, Nat.zero_le _⟩
  unfold Safe_interSer
  refine ⟨safe_decodeHeader hR _ hc0, ?_⟩
  split
  · trivial
  · next h c he =>
    obtain ⟨hh, hc⟩ := postG_decodeHeader hR _ h c hc0 he
    obtain ⟨h1, h2, h3, h4, h5, h6⟩ := hh
    refine ⟨h2, ?_⟩
    split
    · next hoff =>
      exact ⟨h5 hoff, safe_interOffsets hb dbg h ⟨h1, h2, h3, h4, h5, h6⟩ (h5 hoff) a c hc.1⟩
    · refine safe_interSequential hb dbg a _ _ 0 c 0 hc (fun d hd => (h3 d hd).2) ?_ ?_
      · intro bm hbm
        rw [h2, h4 bm hbm, Nat.zero_add]
        exact le_mul_div_add _
      · rw [h2]
        have : 262140 * h.size ≤ 262140 * 65536 := Nat.mul_le_mul_left _ h1
        omega

end inter

/-! ## `from_lsb0_bytes` -/
namespace Lsb0
open MiscLemmas

theorem safe_shiftBytes (bytes : List Nat) (amount : Nat) (h1 : 1 ≤ amount) (h7 : amount ≤ 7)
    (hl : bytes.length < 4294967296) : Safe_shiftBytes bytes amount :=
  ⟨Nat.lt_of_le_of_lt hl (by decide), fun _ => ⟨Nat.lt_succ_of_le h7, Nat.le_succ_of_le h7,
    Nat.lt_of_lt_of_le (Nat.sub_lt (by decide) h1) (Nat.le_refl _)⟩⟩

/-- the values pushed by one `while word != 0` loop over a word of width `n` lie in `base .. base + n` -/
theorem drainWord_lt (base w n : Nat) (hn : n ≤ 64) (hw : w < 2 ^ n) : ∀ x ∈ drainWord base 64 w, x < base + n := by
  intro x hx
  rw [Roaring.drainWord_eq base w (Nat.lt_of_lt_of_le hw (Nat.pow_le_pow_right (by decide) hn))] at hx
  obtain ⟨p, hp, rfl⟩ := List.mem_map.mp hx
  exact Nat.add_lt_add_left (lt_of_testBit hw ((Roaring.mem_bitPos w p).1 hp).2) base

/-- one `while word != 0` loop over a word of width `n` (64 for a word, 8 for a remainder byte) whose bits lie inside
    the chunk: the `as u32` cast of the bit index, the `u32` sum and the `as u16` cast of every pushed value -/
theorem safe_drain (base w n : Nat) (hn : n ≤ 64) (hw : w < 2 ^ n) (hfit : base + n ≤ 65536) :
    U64 base ∧ U32 base ∧ ∀ x ∈ drainWord base 64 w, U32 x ∧ U16 x :=
  have hb : base ≤ 65536 := Nat.le_trans (Nat.le_add_right _ _) hfit
  ⟨u64_of_le (Nat.le_trans hb (by decide)), Nat.lt_of_le_of_lt hb (by decide), fun x hx =>
    have hx : x < 65536 := Nat.lt_of_lt_of_le (drainWord_lt base w n hn hw x hx) hfit
    ⟨Nat.lt_trans hx (by decide), hx⟩⟩

theorem safe_arrWords (bo : Nat) : ∀ (ws : List Nat) (idx : Nat), (∀ w ∈ ws, w < 2 ^ 64) →
    bo + (idx + ws.length) * 8 ≤ 8192 → Safe_arrWords bo idx ws := by
  intro ws
  induction ws with
  | nil => exact fun _ _ _ => trivial
  | cons w ws ih =>
    intro idx hw hfit
    rw [List.length_cons] at hfit
    -- the word at `idx` lies inside the chunk
    have k : bo + idx * 8 + 8 ≤ 8192 := by omega
    have k8 := Nat.mul_le_mul_right 8 k
    rw [Nat.add_mul] at k8
    have hd := safe_drain ((bo + idx * 8) * 8) w 64 (Nat.le_refl _) (hw w List.mem_cons_self) k8
    have h32 : bo + idx * 8 ≤ 4294967296 := Nat.le_trans (Nat.le_add_right _ _) (Nat.le_trans k (by decide))
    unfold Safe_arrWords
    exact ⟨u64_of_le (Nat.le_trans (Nat.le_add_left _ _) h32), u64_of_le h32, hd.1, hd.2.1, hd.2.2,
      ih (idx + 1) (fun x hx => hw x (List.mem_cons_of_mem _ hx)) (by
        rw [Nat.add_assoc, Nat.add_comm 1]; exact hfit)⟩

theorem safe_arrRem (bo done : Nat) : ∀ (bs : List Nat) (idx : Nat), (∀ b ∈ bs, b < 256) →
    bo + done + idx + bs.length ≤ 8192 → Safe_arrRem bo done idx bs := by
  intro bs
  induction bs with
  | nil => exact fun _ _ _ => trivial
  | cons b bs ih =>
    intro idx hb hfit
    rw [List.length_cons] at hfit
    have k : bo + done + idx + 1 ≤ 8192 := Nat.le_trans (Nat.add_le_add_left (Nat.le_add_left 1 _) _) hfit
    have k8 := Nat.mul_le_mul_right 8 k
    rw [Nat.add_mul] at k8
    have hd := safe_drain ((bo + done + idx) * 8) b 8 (by decide) (hb b List.mem_cons_self) k8
    have h32 : bo + done + idx ≤ 4294967296 := Nat.le_trans (Nat.le_add_right _ _) (Nat.le_trans k (by decide))
    unfold Safe_arrRem
    exact ⟨u64_of_le (Nat.le_trans (Nat.le_add_right _ _) h32), u64_of_le h32, hd.1, hd.2.1, hd.2.2,
      ih (idx + 1) (fun x hx => hb x (List.mem_cons_of_mem _ hx)) (by
        rw [← Nat.add_assoc (bo + done), Nat.add_assoc _ 1, Nat.add_comm 1]; exact hfit)⟩

theorem bitsSet_le (bytes : List Nat) (hb : IsBytes bytes) : bitsSet bytes ≤ 8 * bytes.length := by
  rw [bitsSet_eq_sum bytes hb, List.sum_eq_foldl, List.foldl_map]
  exact Nat.le_trans (foldl_add_le popcount 8 bytes 0 fun x hx => Word.popcount_le 8 x (hb x hx))
    (Nat.le_of_eq (Nat.zero_add _))

theorem safe_arrFromLsb0 (bytes : List Nat) (bo : Nat) (hb : IsBytes bytes) (hfit : bo + bytes.length ≤ 8192) :
    Safe_arrFromLsb0 bytes bo (bitsSet bytes) := by
  have hlen : bytes.length ≤ 8192 := Nat.le_trans (Nat.le_add_left _ _) hfit
  have hrem : (chunkRem bytes).length ≤ bytes.length := by
    rw [chunkRem, List.length_drop]; exact Nat.sub_le _ _
  unfold Safe_arrFromLsb0
  refine ⟨u64_of_le (Nat.le_trans (bitsSet_le bytes hb) (Nat.le_trans (Nat.mul_le_mul_left 8 hlen) (by decide))),
    hrem, ?_, ?_⟩
  · refine safe_arrWords bo _ 0 (leWords8_lt bytes hb) ?_
    rw [Nat.zero_add, chunkWords, leWords_length]
    exact Nat.le_trans (Nat.add_le_add_left (Nat.div_mul_le_self _ _) _) hfit
  · refine safe_arrRem bo _ _ 0 (fun x hx => hb x (List.mem_of_mem_drop hx)) ?_
    rw [Nat.add_zero, Nat.add_assoc, Nat.sub_add_cancel hrem]
    exact hfit

theorem safe_bmFromLsb0 (dbg : Bool) (bytes : List Nat) (bo : Nat) (hb : IsBytes bytes)
    (hfit : bo + bytes.length ≤ 8192) : Safe_bmFromLsb0 dbg bytes bo := by
  unfold Safe_bmFromLsb0
  simp only []
  rw [buf_eq_padded bytes bo hfit]
  have hl : (leWords 8 (padded bo bytes)).length = 1024 := by
    rw [leWords_length, padded_length bo bytes hfit]
  refine ⟨by simp only [BITMAP_BYTES]; exact hfit, ?_, ?_, hl, fun _ => ?_⟩
  · intro h
    rw [h] at hfit
    exact Nat.le_zero.1 (Nat.le_of_add_le_add_right (Nat.le_trans hfit (Nat.le_of_eq (Nat.zero_add _).symm)))
  · intro _
    exact ⟨Nat.le_trans (Nat.le_add_right _ _) hfit, Nat.le_sub_of_add_le' hfit⟩
  · exact Nat.lt_of_le_of_lt (BStore.popSum_le _ hl (leWords8_lt _ (padded_bytes bo bytes hb))) (by decide)

theorem safe_storeFromLsb0 (dbg : Bool) (bytes : List Nat) (bo : Nat) (hb : IsBytes bytes)
    (hfit : bo + bytes.length ≤ 8192) : Safe_storeFromLsb0 dbg bytes bo := by
  have hbs : bitsSet bytes ≤ 8 * 8192 := Nat.le_trans (bitsSet_le bytes hb)
    (Nat.mul_le_mul_left 8 (Nat.le_trans (Nat.le_add_left _ _) hfit))
  unfold Safe_storeFromLsb0
  refine ⟨Nat.lt_of_le_of_lt hfit (by decide), hfit, Nat.lt_of_le_of_lt hbs (by decide), fun _ => ?_⟩
  split
  · exact safe_arrFromLsb0 bytes bo hb hfit
  · exact safe_bmFromLsb0 dbg bytes bo hb hfit

theorem safe_fullLoop (dbg : Bool) : ∀ (keys bytes : List Nat), (∀ k ∈ keys, k < 65536) → IsBytes bytes →
    8192 * keys.length ≤ bytes.length → Safe_fullLoop dbg keys bytes := by
  intro keys
  induction keys with
  | nil => exact fun _ _ _ _ => trivial
  | cons key keys ih =>
    intro bytes hk hb hl
    rw [List.length_cons, Nat.mul_succ] at hl
    unfold Safe_fullLoop
    refine ⟨Nat.le_trans (Nat.le_add_left _ _) hl, hk key List.mem_cons_self, ?_, ?_⟩
    · exact safe_storeFromLsb0 dbg _ 0 (fun x hx => hb x (List.mem_of_mem_take hx))
        (by rw [Nat.zero_add]; exact List.length_take_le _ _)
    · exact ih _ (fun k h => hk k (List.mem_cons_of_mem _ h))
        (fun x hx => hb x (List.mem_of_mem_drop hx)) (by rw [List.length_drop]; exact Nat.le_sub_of_add_le hl)

/-- what the loop over the full chunks starts with: a suffix of the slice that holds one full chunk for each
    remaining key below the last chunk, and at most one more chunk (`sc so ec eo` as in `aligned_split`) -/
theorem afterFirst_spec {off sc so ec eo : Nat} {bytes : List Nat} (hsc : off / 65536 = sc)
    (hso : off % 65536 / 8 = so) (hec : (off + (bytes.length * 8 - 1)) / 65536 = ec)
    (heo : ((off + (bytes.length * 8 - 1)) % 65536 + 1) / 8 = eo) (h1 : off = sc * 65536 + 8 * so)
    (h2 : so < 8192) (h5 : eo ≤ 8192) (hle : sc ≤ ec) (hlen : so + bytes.length = 8192 * (ec - sc) + eo) :
    ∃ d r, (afterFirst off bytes).1 = bytes.drop d ∧ r ≤ 8192 ∧
      (afterFirst off bytes).1.length = 8192 * (ec - (afterFirst off bytes).2) + r := by
  unfold afterFirst
  simp only [BITMAP_BYTES, hsc, hso, hec, heo]
  by_cases hso0 : so = 0
  · rw [if_neg (not_not_intro hso0)]
    rw [hso0, Nat.zero_add] at hlen
    exact ⟨0, eo, rfl, h5, hlen⟩
  · obtain ⟨-, -, -, r, hr, hrest, -⟩ := first_piece h1 h2 h5 hle hlen
    rw [if_pos hso0]
    exact ⟨_, r, rfl, hr, (List.length_drop ..).trans hrest⟩

theorem lt_of_mem_range'_sub {a b k : Nat} (hk : k ∈ List.range' a (b - a)) : k < b := by
  rw [List.mem_range'_1] at hk
  omega

/-- inherent.rs:110-170 on the documented domain, for a multiple-of-8 offset -/
theorem safe_fromLsb0Aligned (dbg : Bool) (off : Nat) (bytes : List Nat) (hal : off % 8 = 0) (hb : IsBytes bytes)
    (hfit : off + 8 * bytes.length ≤ 4294967296) : Safe_fromLsb0Aligned dbg off bytes := by
  intro hne
  have hl : 0 < bytes.length := List.length_pos_iff.2 hne
  simp only [u32Max, wMax, BITMAP_BYTES, List.length_range']
  generalize hsc : off / 65536 = sc
  generalize hso : off % 65536 / 8 = so
  generalize hec : (off + (bytes.length * 8 - 1)) / 65536 = ec
  generalize heo : ((off + (bytes.length * 8 - 1)) % 65536 + 1) / 8 = eo
  obtain ⟨h1, h2, -, h5, hle, hec', h⟩ := aligned_split hal hl hfit hsc hso hec heo
  obtain ⟨d, r, hd, hr, hlen⟩ := afterFirst_spec hsc hso hec heo h1 h2 h5 hle h
  obtain ⟨e1, e2, e3, -⟩ := first_piece h1 h2 h5 hle h
  clear hsc hso hec heo hal h1
  have hbaf : IsBytes (afterFirst off bytes).1 := fun x hx => hb x (List.mem_of_mem_drop (hd ▸ hx))
  generalize afterFirst off bytes = af at hlen hbaf ⊢
  have hsc' : sc < 65536 := Nat.lt_of_le_of_lt hle hec'
  refine ⟨fun _ _ => Nat.mul_pos hl (by decide), fun _ => ⟨u64_of_le (Nat.le_trans (Nat.le_add_right _ _) hfit),
    u64_of_le (Nat.le_trans (Nat.add_le_add_left (Nat.le_trans (Nat.sub_le _ _) (Nat.le_of_eq (Nat.mul_comm _ _))) _) hfit),
    by decide, u64_of_le (Nat.le_trans (Nat.mod_lt _ (by decide)) (by decide)),
    u64_of_le (Nat.le_trans hec' (by decide)), Nat.le_succ_of_le hle, ?_, ?_, ?_⟩⟩
  · intro hso
    refine ⟨e1, e2, hsc', ?_, u64_of_le (Nat.le_trans hsc' (by decide))⟩
    refine safe_storeFromLsb0 dbg _ _ (fun x hx => hb x (List.mem_of_mem_take hx)) ?_
    exact Nat.le_trans (Nat.add_le_add_left (List.length_take_le _ _) so) e3
  · refine safe_fullLoop dbg _ _ (fun k hk => Nat.lt_trans (lt_of_mem_range'_sub hk) hec') hbaf ?_
    rw [List.length_range', hlen]
    exact Nat.le_add_right _ _
  · intro _
    refine ⟨hec', safe_storeFromLsb0 dbg _ 0 (fun x hx => hbaf x (List.mem_of_mem_drop hx)) ?_⟩
    rw [List.length_drop, hlen, Nat.add_sub_cancel_left, Nat.zero_add]
    exact hr

/-- **`from_lsb0_bytes` on the documented domain `offset + 8·len ≤ 2^32`** -/
theorem safe_fromLsb0 (dbg : Bool) (off : Nat) (bytes : List Nat) (hb : IsBytes bytes)
    (hfit : off + 8 * bytes.length ≤ 4294967296) : Safe_fromLsb0 dbg off bytes := by
  have hl32 : bytes.length < 4294967296 := by omega
  unfold Safe_fromLsb0
  split
  · next hne =>
    have hk0 : 0 < off % 8 := Nat.pos_of_ne_zero hne
    have hk : off % 8 < 8 := Nat.mod_lt _ (by decide)
    refine ⟨u64_of_le (Nat.le_trans (Nat.le_add_right _ _) hfit),
      safe_shiftBytes bytes _ hk0 (Nat.le_of_lt_succ hk) hl32, Nat.lt_trans hk (by decide), Nat.mod_le _ _, ?_⟩
    refine safe_fromLsb0Aligned dbg _ _ (Nat.sub_mod_eq_zero_of_mod_eq (Nat.mod_mod _ _).symm)
      (shiftLoop_bytes (off % 8) hk bytes 0 hb (Nat.two_pow_pos _)) ?_
    -- the shifted slice is at most one byte longer; `off + 8·len ≡ off (mod 8)` leaves room for it below `2^32`
    have hlen := (shiftLoop_length (off % 8) bytes 0).2
    unfold shiftBytes
    omega
  · next he => exact safe_fromLsb0Aligned dbg off bytes (Decidable.not_not.1 he) hb hfit

end Lsb0

/-! ## treemap serialization -/
namespace Treemap

/-- `serialized_size` of a treemap with well-formed partitions (at most `2^32` of them: the keys are distinct `u32`s) -/
theorem safe_serializedSize (t : Treemap) (h : PartsWF t) (hl : t.length ≤ 4294967296) : Safe_serializedSize t := by
  refine ⟨fun p hp => Bitmap.safe_serializedSize p.2 (h p hp).2, ?_⟩
  unfold serializedSize
  have h1 := foldl_add_le (fun p : Nat × Bitmap => 4 + Bitmap.serializedSize p.2) (4 + 537395208) t 8
    fun p hp => Nat.add_le_add_left (Bitmap.serializedSize_le p.2 (h p hp).2) 4
  simp only [← Nat.add_assoc] at h1
  have h2 : (4 + 537395208) * t.length ≤ (4 + 537395208) * 4294967296 := Nat.mul_le_mul_left _ hl
  exact Nat.lt_of_le_of_lt (Nat.le_trans h1 (Nat.add_le_add_left h2 8)) (by decide)

theorem safe_serialize (t : Treemap) (h : PartsWF t) (hl : t.length ≤ 4294967296) : Safe_serialize t :=
  ⟨Nat.lt_of_le_of_lt hl (by decide), fun p hp => ⟨(h p hp).1, Bitmap.safe_serialize p.2 (h p hp).2⟩⟩

section tdecoder
variable {σ : Type} {Good : σ → Prop} {R : Nat → Parser σ (List Nat)}

theorem safe_decodeParts (hR : ReaderOK Good R) (chk dbg : Bool) :
    ∀ (n : Nat) (s : σ), Good s → Safe_decodeParts R chk dbg n s := by
  intro n
  induction n with
  | zero => exact fun _ _ => trivial
  | succ n ih =>
    intro s hs
    unfold Safe_decodeParts
    split
    · trivial
    · next kb s1 h1 =>
      obtain ⟨l1, b1, g1⟩ := hR 4 s kb s1 hs h1
      refine ⟨leVal_lt_of_length 4 kb l1 b1, Roaring.safe_deserialize hR chk dbg s1 g1, ?_⟩
      split
      · next bm s2 h2 =>
        exact ih s2 ((same_deserializeG (R' := R) (ok := fun _ => True) (fun _ _ => trivial) chk dbg fun _ _ => trivial).good hR s1 bm s2 g1 h2).2
      · trivial

/-- **the treemap decoder has no arithmetic panic on any input**, over any reader that honours `read_exact` -/
theorem safe_deserialize (hR : ReaderOK Good R) (chk dbg : Bool) (s : σ) (hs : Good s) :
    Safe_deserialize R chk dbg s := by
  unfold Safe_deserialize
  split
  · trivial
  · next sb s1 h1 =>
    obtain ⟨l1, b1, g1⟩ := hR 8 s sb s1 hs h1
    exact ⟨leVal_lt_of_length 8 sb l1 b1, safe_decodeParts hR chk dbg _ s1 g1⟩

end tdecoder
end Treemap

end Roaring
