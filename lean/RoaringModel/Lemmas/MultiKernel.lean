import RoaringModel.Lemmas.MultiSpec
import RoaringModel.Lemmas.MultiList
import RoaringModel.Lemmas.BitmapMerge
/-!
# C09: the store-level facts `Kernel` that multiops.rs rests on; the invariants of its accumulator and operands

`Kernel` is a record of facts about functions that `multiops.rs` merely calls (`Store::{bitor,bitxor}_assign`,
`Store::to_bitmap`, `Container::ensure_correct_store`, the element lists of valid stores, and the three whole-bitmap
operators of ops.rs); `Multi.kernel : Kernel` (`Lemmas/MultiKernelProof.lean`) proves it.  The invariants `StoreValid`,
`StoreWF`, `WF` spell out DESIGN §4 for this file and coincide with those of `Inv.lean` (`storeValid_iff`, `storeWF_iff`,
`wf_iff`); the accumulator invariant `Acc` is `Bitmap.DirQ StoreValid`, so one step of `merge_container_owned/ref` is
`Bitmap.orStep_view` and the whole merge `Bitmap.foldl_orStep_spec` (`Lemmas/BitmapMerge.lean`; `Lemmas/MultiMerge.lean`
instantiates them, with promotion, copy-on-write and the clean-up).
-/
namespace Roaring.Multi
open Roaring Roaring.Spec Roaring.Multi.SpecL

/-! ## invariants (DESIGN §4; local forms of the shared ones of `Inv.lean` — `storeValid_iff`, `storeWF_iff`,
    `wf_iff : Multi.WF b ↔ Bitmap.WF b` below) -/

/-- a store whose representation is sound but not necessarily of the canonical *kind* (what the merge
    algorithms hold between the first merge and the final `ensure_correct_store`) -/
def StoreValid : Store → Prop
  | .array v => v.Pairwise (· < ·) ∧ ∀ x ∈ v, x < 65536
  | .bitmap b => b.bits.length = 1024 ∧ (∀ w ∈ b.bits, w < W) ∧ b.len = BStore.popSum b.bits

def StoreWF (s : Store) : Prop :=
  StoreValid s ∧ match s with
    | .array v => 0 < v.length ∧ v.length ≤ 4096
    | .bitmap b => 4096 < b.len

/-- reachable `RoaringBitmap` values -/
def WF (b : Bitmap) : Prop :=
  (b.map (·.key)).Pairwise (· < ·) ∧ ∀ c ∈ b, c.key < 65536 ∧ StoreWF c.store

/-- the accumulator of the merge algorithms: ascending keys, valid (possibly non-canonical, possibly
    empty) stores -/
def Acc (cs : List Container) : Prop :=
  (cs.map (·.key)).Pairwise (· < ·) ∧ ∀ c ∈ cs, c.key < 65536 ∧ StoreValid c.store

theorem WF.acc {b : Bitmap} (h : WF b) : Acc b := ⟨h.1, fun c hc => ⟨(h.2 c hc).1, (h.2 c hc).2.1⟩⟩

theorem wf_nil : WF [] := ⟨by simp, by simp⟩

/-- membership law of a store-level assignment operator `op` for the connective `P` (`POr`, `PXor`): valid operands
    give a valid result whose members are `P` of the operands' -/
def OpLaw (P : Prop → Prop → Prop) (op : Store → Store → Store) : Prop :=
  ∀ a b, StoreValid a → StoreValid b →
    StoreValid (op a b) ∧ ∀ i, i ∈ (op a b).elems ↔ P (i ∈ a.elems) (i ∈ b.elems)

abbrev POr : Prop → Prop → Prop := fun p q => p ∨ q
abbrev PXor : Prop → Prop → Prop := fun p q => ¬ (p ↔ q)

/-- The kernel facts C09 rests on (each is a statement about code *outside* multiops.rs). -/
structure Kernel : Prop where
  /-- `iter()` of a valid store is strictly ascending … -/
  elems_sorted : ∀ s, StoreValid s → (Store.elems s).Pairwise (· < ·)
  /-- … and yields `u16`s -/
  elems_lt : ∀ s, StoreValid s → ∀ i ∈ Store.elems s, i < 65536
  /-- `is_empty()` (vector empty / cached `len == 0`) means "no elements" -/
  isEmpty_iff : ∀ s, StoreValid s → (s.isEmpty = true ↔ Store.elems s = [])
  /-- `Store::to_bitmap` keeps the elements -/
  toBitmap : ∀ s, StoreValid s → StoreValid (storeToBitmap s) ∧ ∀ i, i ∈ (storeToBitmap s).elems ↔ i ∈ s.elems
  /-- `BitOrAssign<Store> for Store` -/
  orOwned : OpLaw POr Store.orAssignOwned
  /-- `BitOrAssign<&Store> for Store` -/
  orRef : OpLaw POr Store.orAssignRef
  /-- `BitXorAssign<Store> for Store` -/
  xorOwned : OpLaw PXor Store.xorAssignOwned
  /-- `BitXorAssign<&Store> for Store` -/
  xorRef : OpLaw PXor Store.xorAssignRef
  /-- `ensure_correct_store` on a non-empty valid store: canonical kind, same elements -/
  ensure : ∀ c : Container, StoreValid c.store → c.isEmpty = false →
    StoreWF c.ensureCorrectStore.store ∧ ∀ i, i ∈ c.ensureCorrectStore.store.elems ↔ i ∈ c.store.elems
  /-- `BitAndAssign<RoaringBitmap>` (ops.rs:236) -/
  andOwned : ∀ a b, WF a → WF b → WF (andAssignOwned a b) ∧
    Bitmap.elems (andAssignOwned a b) = sAnd (Bitmap.elems a) (Bitmap.elems b)
  /-- `BitAndAssign<&RoaringBitmap>` (ops.rs:259) -/
  andRef : ∀ a b, WF a → WF b → WF (andAssignRef a b) ∧
    Bitmap.elems (andAssignRef a b) = sAnd (Bitmap.elems a) (Bitmap.elems b)
  /-- `SubAssign<&RoaringBitmap>` (ops.rs:336) -/
  subRef : ∀ a b, WF a → WF b → WF (subAssignRef a b) ∧
    Bitmap.elems (subAssignRef a b) = sSub (Bitmap.elems a) (Bitmap.elems b)

theorem search_nil (k : Nat) : Bitmap.search [] k = (false, 0) := rfl

/-! ## the invariants are those of `Inv.lean` -/

theorem storeValid_iff : ∀ s : Store, StoreValid s ↔ s.Inv
  | .array _ => Iff.rfl
  | .bitmap b => (Store.inv_bitmap b).symm

theorem StoreValid.inv {s : Store} (h : StoreValid s) : s.Inv := (storeValid_iff s).1 h

theorem storeWF_iff (s : Store) : StoreWF s ↔ s.WF := by
  unfold StoreWF
  rw [storeValid_iff]
  cases s with
  | array v => exact Iff.rfl
  | bitmap b => exact Iff.rfl

theorem wf_iff (b : Bitmap) : WF b ↔ Bitmap.WF b := by
  unfold WF Bitmap.WF Container.WF
  constructor
  · rintro ⟨h1, h2⟩; exact ⟨h1, fun c hc => ⟨(h2 c hc).1, (storeWF_iff _).1 (h2 c hc).2⟩⟩
  · rintro ⟨h1, h2⟩; exact ⟨h1, fun c hc => ⟨(h2 c hc).1, (storeWF_iff _).2 (h2 c hc).2⟩⟩

theorem wf_of_all {l : List Bitmap} (h : ∀ b ∈ l, Bitmap.WF b) : ∀ b ∈ l, WF b :=
  fun b hb => (wf_iff b).2 (h b hb)

theorem Acc.elems_sorted {cs : List Container} (h : Acc cs) : Sorted (Bitmap.elems cs) :=
  (Bitmap.DirQ.view (fun _ => StoreValid.inv) h).sorted

theorem WF.elems_sorted {b : Bitmap} (h : WF b) : Sorted (Bitmap.elems b) := h.acc.elems_sorted

theorem WF.map_elems_sorted {l : List Bitmap} (h : ∀ b ∈ l, WF b) : ∀ s ∈ l.map Bitmap.elems, Sorted s :=
  List.forall_mem_map.2 fun b hb => (h b hb).elems_sorted

/-! ## what `∪` and `⊕` share -/

/-- a SPEC operation with the empty set as unit and a symmetric membership law: what `merge_container_owned/ref` need of
    the operation they fold (the swapped arm uses the symmetry) -/
structure MergeLaw (P : Prop → Prop → Prop) (sop : List Nat → List Nat → List Nat) : Prop
    extends Treemap.TA.SetOp sop P where
  comm : ∀ p q, P p q ↔ P q p
  nilL : ∀ l, sop [] l = l
  nilR : ∀ l, sop l [] = l

theorem mergeLaw_or : MergeLaw POr sOr :=
  { mem := fun l r _ _ => mem_sOr l r, sorted := sorted_sOr, comm := fun _ _ => Or.comm, nilL := sOr_nil_left,
    nilR := sOr_nil_right }

theorem mergeLaw_xor : MergeLaw PXor sXor :=
  { mem := mem_sXor_iff, sorted := sorted_sXor, comm := fun _ _ => not_congr ⟨Iff.symm, Iff.symm⟩,
    nilL := sXor_nil_left, nilR := sXor_nil_right }

/-- a store-level operator with the membership law `P`, on the value lists: `sop` -/
theorem OpLaw.elems {P : Prop → Prop → Prop} {sop : List Nat → List Nat → List Nat} {op : Store → Store → Store}
    (hop : OpLaw P op) (L : MergeLaw P sop) {a b : Store} (ha : StoreValid a) (hb : StoreValid b) :
    StoreValid (op a b) ∧ (op a b).elems = sop a.elems b.elems :=
  have h := hop a b ha hb
  ⟨h.1, L.ext (Store.sorted_elems _ ha.inv) (Store.sorted_elems _ hb.inv) (Store.sorted_elems _ h.1.inv) h.2⟩

end Roaring.Multi
