import RoaringModel.UnsafeIter
import RoaringModel.Lemmas.BIterCore
import RoaringModel.Lemmas.ArrMerge
/-!
# Lemmas about the index-level model (`Unsafe.lean`, `UnsafeIter.lean`) — support for `Props/C15.lean`

* `Merge`: what the four two-pointer merges share.  `Merge.only`: every access of such a loop is an in-bounds access of
  the right site on the right slice (arbitrary arrays).  `Merge.loop_eq`: the loop hands the visitor exactly the list the
  list-level model (`Arr.or/and/sub/xor`) computes, on arbitrary inputs, as soon as `|lhs| + |rhs| ≤ fuel + i + j` — so
  the fuel never runs out;
* `retainLoop_spec`, `retain_eq`: the `retain` loop is in bounds and keeps what the list-level `retainList` keeps;
  `retainList_sim` ties the closures that carry the Rust's index state to the list-level ones;
* `rank_spec`, `stdBinarySearch_spec`, `fromLsb0_spec`;
* `BIter`: erasure (`(fT it).1 = f it`), the indices read (`*_reads`), how the four functions move `key`/`keyBack`,
  and the invariants of the reachable states (`keyOk_*`, `reach_inv`; `reach_ok`: over `u64` words they satisfy the
  invariant of the cursor lemmas, `BIterCore.lean`).
-/
namespace Roaring.Unsafe
open Roaring

theorem safe_nil : Safe [] := fun _ h => nomatch h
theorem safe_cons {a : Access} {t : Trace} : Safe (a :: t) ↔ a.index < a.len ∧ Safe t := List.forall_mem_cons
theorem safe_append {s t : Trace} : Safe (s ++ t) ↔ Safe s ∧ Safe t := List.forall_mem_append

/-! ### the two-pointer merges: index-level loop = list-level merge -/

theorem drop_cons_rd (a : Array Nat) (i : Nat) (h : i < a.size) :
    a.toList.drop i = rd a i :: a.toList.drop (i + 1) := by
  rw [List.drop_eq_getElem_cons (by simpa using h)]
  simp [rd, Array.getD_eq_getD_getElem?, h]

theorem drop_nil (a : Array Nat) (i : Nat) (h : ¬ i < a.size) : a.toList.drop i = [] :=
  List.drop_eq_nil_of_le (Nat.le_of_not_lt h)

/-- What the four merges of `scalar.rs` share.  The index-level two-pointer `loop` over `lhs` and `rhs` (unchecked reads
    at the sites `sl`, `sr`) and the list-level `op` both hand the visitor `lt a` when `a < b`, `gt b` when `b < a` and
    `eq a` otherwise, and `tail` of what is left once one side is exhausted. -/
structure Merge (lhs rhs : Array Nat) (sl sr : Nat) (lt gt eq : Nat → List Nat)
    (tail : List Nat → List Nat → List Nat) (loop : Nat → Nat → Nat → List Nat × Trace)
    (op : List Nat → List Nat → List Nat) : Prop where
  loop_zero : ∀ i j, loop 0 i j = (tail (lhs.toList.drop i) (rhs.toList.drop j), [])
  loop_succ : ∀ fuel i j, loop (fuel + 1) i j =
    if i < lhs.size ∧ j < rhs.size then
      let here : Trace := [⟨sl, i, lhs.size⟩, ⟨sr, j, rhs.size⟩]
      if rd lhs i < rd rhs j then emit (lt (rd lhs i)) here (loop fuel (i + 1) j)
      else if rd rhs j < rd lhs i then emit (gt (rd rhs j)) here (loop fuel i (j + 1))
      else emit (eq (rd lhs i)) here (loop fuel (i + 1) (j + 1))
    else (tail (lhs.toList.drop i) (rhs.toList.drop j), [])
  op_nil_left : ∀ r, op [] r = tail [] r
  op_nil_right : ∀ l, op l [] = tail l []
  op_cons : ∀ a l b r, op (a :: l) (b :: r) =
    if a < b then lt a ++ op l (b :: r) else if b < a then gt b ++ op (a :: l) r else eq a ++ op l r

namespace Merge
variable {lhs rhs : Array Nat} {sl sr : Nat} {lt gt eq : Nat → List Nat} {tail : List Nat → List Nat → List Nat}
  {loop : Nat → Nat → Nat → List Nat × Trace} {op : List Nat → List Nat → List Nat}

/-- every access of the loop is an in-bounds access of `sl` on `lhs` or of `sr` on `rhs`, from every state -/
theorem only (m : Merge lhs rhs sl sr lt gt eq tail loop op) : ∀ fuel i j, ∀ a ∈ (loop fuel i j).2,
    (a.site = sl ∧ a.len = lhs.size ∨ a.site = sr ∧ a.len = rhs.size) ∧ a.index < a.len := by
  intro fuel
  induction fuel with
  | zero => intro i j; rw [m.loop_zero]; exact nofun
  | succ n ih =>
    intro i j
    rw [m.loop_succ]
    by_cases h : i < lhs.size ∧ j < rhs.size
    · rw [if_pos h]
      repeat' split
      all_goals exact List.forall_mem_cons.2 ⟨⟨.inl ⟨rfl, rfl⟩, h.1⟩,
        List.forall_mem_cons.2 ⟨⟨.inr ⟨rfl, rfl⟩, h.2⟩, ih _ _⟩⟩
    · rw [if_neg h]; exact nofun

theorem exit (m : Merge lhs rhs sl sr lt gt eq tail loop op) {i j : Nat} (h : ¬ (i < lhs.size ∧ j < rhs.size)) :
    tail (lhs.toList.drop i) (rhs.toList.drop j) = op (lhs.toList.drop i) (rhs.toList.drop j) := by
  by_cases hi : i < lhs.size
  · rw [drop_nil rhs j fun hj => h ⟨hi, hj⟩, m.op_nil_right]
  · rw [drop_nil lhs i hi, m.op_nil_left]

/-- `i + j` grows in every iteration, so `fuel = |lhs| + |rhs|` from `(0, 0)` never runs out. -/
theorem loop_eq (m : Merge lhs rhs sl sr lt gt eq tail loop op) :
    ∀ fuel i j, lhs.size + rhs.size ≤ fuel + i + j →
      (loop fuel i j).1 = op (lhs.toList.drop i) (rhs.toList.drop j) := by
  intro fuel
  induction fuel with
  | zero => intro i j h; rw [m.loop_zero]; exact m.exit (by omega)
  | succ n ih =>
    intro i j h
    rw [m.loop_succ]
    by_cases hg : i < lhs.size ∧ j < rhs.size
    · have hl := drop_cons_rd lhs i hg.1
      have hr := drop_cons_rd rhs j hg.2
      -- unfold `op` on the two heads, fold the heads back, and put the loop's results in place of the recursive calls
      rw [if_pos hg, hl, hr, m.op_cons, ← hl, ← hr, ← ih (i + 1) j (by omega), ← ih i (j + 1) (by omega),
        ← ih (i + 1) (j + 1) (by omega)]
      simp only [apply_ite Prod.fst, emit]
    · rw [if_neg hg]; exact m.exit hg

end Merge

theorem orLoop_merge (lhs rhs : Array Nat) :
    Merge lhs rhs 1 2 (fun a => [a]) (fun b => [b]) (fun a => [a]) (· ++ ·) (orLoop lhs rhs) Arr.or where
  loop_zero _ _ := rfl
  loop_succ _ _ _ := rfl
  op_nil_left _ := by rw [Arr.or]; rfl
  op_nil_right l := by rw [Arr.or_nil_right, List.append_nil]
  op_cons a l b r := by rw [Arr.or]; rfl

theorem andLoop_merge (lhs rhs : Array Nat) :
    Merge lhs rhs 3 4 (fun _ => []) (fun _ => []) (fun a => [a]) (fun _ _ => []) (andLoop lhs rhs) Arr.and where
  loop_zero _ _ := rfl
  loop_succ _ _ _ := rfl
  op_nil_left _ := by rw [Arr.and]
  op_nil_right := Arr.and_nil_right
  op_cons a l b r := by rw [Arr.and]; rfl

theorem subLoop_merge (lhs rhs : Array Nat) :
    Merge lhs rhs 5 6 (fun a => [a]) (fun _ => []) (fun _ => []) (fun l _ => l) (subLoop lhs rhs) Arr.sub where
  loop_zero _ _ := rfl
  loop_succ _ _ _ := rfl
  op_nil_left _ := by rw [Arr.sub]
  op_nil_right := Arr.sub_nil_right
  op_cons a l b r := by rw [Arr.sub]; rfl

theorem xorLoop_merge (lhs rhs : Array Nat) :
    Merge lhs rhs 7 8 (fun a => [a]) (fun b => [b]) (fun _ => []) (· ++ ·) (xorLoop lhs rhs) Arr.xor where
  loop_zero _ _ := rfl
  loop_succ _ _ _ := rfl
  op_nil_left _ := by rw [Arr.xor]; rfl
  op_nil_right l := by rw [Arr.xor_nil_right, List.append_nil]
  op_cons a l b r := by rw [Arr.xor]; rfl

/-! ### `retain`: the index-level loop is in bounds and computes the list-level `retainList` -/

/-- what one iteration of `retain` keeps: `pos ≤ i` (the SAFETY comment of the crate) and the iterations left -/
theorem retain_step {pos i k size : Nat} (b : Bool) (hp : pos ≤ i) (hk : i + (k + 1) = size) :
    pos + b.toNat ≤ i + 1 ∧ i + 1 + k = size ∧ i < size :=
  ⟨Nat.add_le_add hp (Bool.toNat_le b), (Nat.add_right_comm i 1 k).trans hk,
    hk ▸ Nat.lt_add_of_pos_right (Nat.succ_pos k)⟩

theorem retainLoop_spec {σ : Type} (f : σ → Nat → σ × Bool) :
    ∀ k s (slice : Array Nat) pos i, pos ≤ i → i + k = slice.size →
      (∀ a ∈ (retainLoop f k s slice pos i).trace, a.site = 9 ∧ a.len = slice.size ∧ a.index < a.len)
      ∧ (retainLoop f k s slice pos i).pos ≤ slice.size
      ∧ (retainLoop f k s slice pos i).slice.size = slice.size := by
  intro k s slice pos i
  fun_induction retainLoop f k s slice pos i with
  | case1 s slice pos i => exact fun hp hk => ⟨nofun, Nat.le_trans hp (Nat.le_of_eq hk), rfl⟩
  | case2 k s slice pos i val slice' r out ih =>
    intro hp hk
    obtain ⟨h1, h2, h3⟩ := retain_step r.2 hp hk
    have := ih h1 (by rw [Array.size_setIfInBounds]; exact h2)
    rw [Array.size_setIfInBounds] at this
    exact ⟨List.forall_mem_cons.2 ⟨⟨rfl, rfl, Nat.lt_of_le_of_lt hp h3⟩, this.1⟩, this.2⟩

theorem retainLoop_eq {σ : Type} (f : σ → Nat → σ × Bool) :
    ∀ k s (slice : Array Nat) pos i, pos ≤ i → i + k = slice.size →
      (retainLoop f k s slice pos i).slice.toList.take (retainLoop f k s slice pos i).pos
          = slice.toList.take pos ++ (retainList f s (slice.toList.drop i)).1
      ∧ (retainLoop f k s slice pos i).state = (retainList f s (slice.toList.drop i)).2 := by
  intro k s slice pos i
  fun_induction retainLoop f k s slice pos i with
  | case1 s slice pos i =>
    intro hp hk
    rw [drop_nil slice i (Nat.not_lt.2 (Nat.le_of_eq hk.symm))]
    exact ⟨(List.append_nil _).symm, rfl⟩
  | case2 k s slice pos i val slice' r out ih =>
    intro hp hk
    obtain ⟨h1, h2, h3⟩ := retain_step r.2 hp hk
    have := ih h1 (by rw [Array.size_setIfInBounds]; exact h2)
    rw [drop_cons_rd slice i h3]
    simp only [retainList]
    rw [this.1, this.2]
    simp only [slice', Array.toList_setIfInBounds]
    rw [List.drop_set_of_lt (Nat.lt_succ_of_le hp)]
    refine ⟨?_, rfl⟩
    cases hb : (f s (rd slice i)).2 with
    | false =>
      simp only [r, val, Bool.toNat_false, Nat.add_zero]
      rw [List.take_set_of_le (Nat.le_refl _)]
      rfl
    | true =>
      simp only [r, val, Bool.toNat_true]
      rw [List.take_add_one, List.getElem?_set_self (by rw [Array.length_toList]; exact Nat.lt_of_le_of_lt hp h3),
        List.take_set_of_le (Nat.le_refl _), List.append_assoc]
      rfl

theorem retain_eq {σ : Type} (f : σ → Nat → σ × Bool) (s : σ) (vec : Array Nat) :
    (retain f s vec).1.toList = (retainList f s vec.toList).1 ∧ (retain f s vec).2.1 = (retainList f s vec.toList).2 := by
  have := retainLoop_eq f vec.size s vec 0 0 (Nat.le_refl _) (Nat.zero_add _)
  rw [List.take_zero, List.nil_append, List.drop_zero] at this
  exact ⟨by rw [← this.1, retain, Array.toList_extract, List.extract_eq_take_drop, List.drop_zero, Nat.sub_zero], this.2⟩

/-- the closure of `bitand_assign(&Self)` (scalar path): its state is the not yet galloped-over part of `rhs` -/
def andClosure (rest : List Nat) (x : Nat) : List Nat × Bool :=
  let rest' := Arr.gallop rest x
  (rest', rest'.head? == some x)

/-- the closure of `sub_assign(&Self)` (scalar path) -/
def subClosure (rest : List Nat) (x : Nat) : List Nat × Bool :=
  let rest' := Arr.gallop rest x
  (rest', !(rest'.head? == some x))

theorem retainList_and (l : List Nat) : ∀ rest, (retainList andClosure rest l).1 = Arr.andAssign l rest := by
  induction l with
  | nil => intro rest; rfl
  | cons x l ih =>
    intro rest
    simp only [retainList, Arr.andAssign, andClosure, ih]

theorem retainList_sub (l : List Nat) : ∀ rest, (retainList subClosure rest l).1 = Arr.subAssign l rest := by
  induction l with
  | nil => intro rest; rfl
  | cons x l ih =>
    intro rest
    simp only [retainList, Arr.subAssign, subClosure, ih]
    cases (Arr.gallop rest x).head? == some x <;> rfl

/-- `retain` with a stateless predicate (the closures `|x| rhs.contains(x)` / `|x| !rhs.contains(x)` of
    `ArrayStore &= &BitmapStore` / `-= &BitmapStore`) keeps exactly `List.filter` -/
theorem retainList_filter (p : Nat → Bool) : ∀ l : List Nat,
    (retainList (fun (_ : Unit) x => ((), p x)) () l).1 = l.filter p := by
  intro l
  induction l with
  | nil => rfl
  | cons x l ih =>
    simp only [retainList, ih, List.filter_cons]

theorem retain_filter (p : Nat → Bool) (vec : Array Nat) :
    (retain (fun (_ : Unit) x => ((), p x)) () vec).1.toList = vec.toList.filter p := by
  rw [(retain_eq _ _ _).1, retainList_filter]

/-! ### the in-place `&=` / `-=` closures with the index state of the Rust (fidelity audit) -/

/-- two closures whose states stay related and that decide alike keep the same elements -/
theorem retainList_sim {σ τ : Type} (f : σ → Nat → σ × Bool) (g : τ → Nat → τ × Bool) (R : σ → τ → Prop)
    (h : ∀ s t x, R s t → R (f s x).1 (g t x).1 ∧ (f s x).2 = (g t x).2) (l : List Nat) :
    ∀ s t, R s t → (retainList f s l).1 = (retainList g t l).1 := by
  induction l with
  | nil => intro _ _ _; rfl
  | cons x l ih =>
    intro s t hr
    simp only [retainList]
    rw [ih _ _ (h s t x hr).1, (h s t x hr).2]

theorem drop_position (p : Nat → Bool) (t : List Nat) (n : Nat) (hn : t.length ≤ n) :
    t.drop ((position p t).getD n) = t.dropWhile (fun y => !p y) := by
  fun_induction position p t with
  | case1 => exact List.drop_nil
  | case2 y ys hp => simp [hp]
  | case3 y ys hp ih =>
    rw [List.dropWhile_cons_of_pos (by simpa using hp), ← ih (Nat.le_of_succ_le hn)]
    cases position p ys with
    | none => exact (List.drop_eq_nil_of_le hn).trans (List.drop_eq_nil_of_le (Nat.le_of_succ_le hn)).symm
    | some k => rfl

theorem gallop_idx (rhs : List Nat) (i x : Nat) :
    rhs.drop (i + ((position (fun y => decide (y ≥ x)) (rhs.drop i)).getD rhs.length)) = Arr.gallop (rhs.drop i) x := by
  rw [← List.drop_drop, drop_position _ _ _ (by simp), Arr.gallop]
  congr
  funext y
  simp only [← decide_not, Nat.not_le]
/-- `rhs.vec.get(i)` after the gallop is the head of the suffix the list-level closure carries -/
theorem gallop_idx_get (rhs : List Nat) (i x : Nat) :
    rhs[i + ((position (fun y => decide (y ≥ x)) (rhs.drop i)).getD rhs.length)]? = (Arr.gallop (rhs.drop i) x).head? := by
  rw [← gallop_idx, List.head?_drop]

theorem andClosureIdx_eq (rhs : List Nat) (i x : Nat) :
    rhs.drop (andClosureIdx rhs i x).1 = (andClosure (rhs.drop i) x).1
    ∧ (andClosureIdx rhs i x).2 = (andClosure (rhs.drop i) x).2 := by
  refine ⟨gallop_idx rhs i x, ?_⟩
  simp only [andClosureIdx, andClosure, gallop_idx_get]
  cases (Arr.gallop (rhs.drop i) x).head? with
  | none => rfl
  | some y => exact Bool.beq_comm

theorem subClosureIdx_eq (rhs : List Nat) (i x : Nat) :
    rhs.drop (subClosureIdx rhs i x).1 = (subClosure (rhs.drop i) x).1
    ∧ (subClosureIdx rhs i x).2 = (subClosure (rhs.drop i) x).2 := by
  refine ⟨gallop_idx rhs i x, ?_⟩
  simp only [subClosureIdx, subClosure, gallop_idx_get]
  cases (Arr.gallop (rhs.drop i) x).head? with
  | none => rfl
  | some y => exact congrArg (!·) Bool.beq_comm

/-- `ArrayStore &= &ArrayStore` exactly as written (index-level `retain` loop, closure state = the index `i` into `rhs`,
    started at `i = 0`) is the list-level model -/
theorem retain_andIdx (vec rhs : Array Nat) :
    (retain (andClosureIdx rhs.toList) 0 vec).1.toList = Arr.andAssign vec.toList rhs.toList := by
  rw [(retain_eq _ _ _).1, ← retainList_and]
  exact retainList_sim _ _ (rhs.toList.drop · = ·) (fun i _ x e => e ▸ andClosureIdx_eq _ i x) _ 0 _ rfl

theorem retain_subIdx (vec rhs : Array Nat) :
    (retain (subClosureIdx rhs.toList) 0 vec).1.toList = Arr.subAssign vec.toList rhs.toList := by
  rw [(retain_eq _ _ _).1, ← retainList_sub]
  exact retainList_sim _ _ (rhs.toList.drop · = ·) (fun i _ x e => e ▸ subClosureIdx_eq _ i x) _ 0 _ rfl

/-! ### `rank`, std's binary search, `from_lsb0_bytes_unchecked` -/

theorem rank_spec (keys : Array Nat) (key : Nat) (r : Search) (h : r.Contract keys key) :
    Safe (rankAccesses keys r) ∧ rankSliceOk keys r := by
  cases r with
  | ok i => exact ⟨safe_cons.2 ⟨h.1, safe_nil⟩, Nat.le_of_lt h.1⟩
  | err i => exact ⟨safe_nil, h⟩

/-- one halving step of the binary search: the window `[base, base + size)` stays non-empty and inside the slice -/
theorem halve {base size half fuel len : Nat} (h1 : 1 ≤ half) (h2 : half < size) (hf : size ≤ fuel + 2)
    (hl : base + size ≤ len) :
    1 ≤ size - half ∧ size - half ≤ fuel + 1 ∧ base + half + (size - half) ≤ len ∧ base + half < len := by
  omega

theorem bsLoop_spec (keys : Array Nat) (key : Nat) :
    ∀ fuel base size, 1 ≤ size → size ≤ fuel + 1 → base + size ≤ keys.size →
      (bsLoop keys key fuel base size).1 < keys.size ∧ Safe (bsLoop keys key fuel base size).2 := by
  intro fuel base size
  fun_induction bsLoop keys key fuel base size with
  | case1 base size => exact fun h1 h2 h3 => ⟨by rw [if_neg (by omega)]; omega, safe_nil⟩
  | case2 fuel base size hs half mid cmp base' r ih =>
    intro h1 h2 h3
    obtain ⟨a1, a2, a3, a4⟩ := halve (Nat.div_pos hs (by decide)) (Nat.div_lt_self (Nat.lt_of_succ_lt hs) (by decide)) h2 h3
    have hb : base' ≤ mid := by
      unfold base'
      split
      · exact Nat.le_add_right _ _
      · exact Nat.le_refl _
    have := ih a1 a2 (Nat.le_trans (Nat.add_le_add_right hb _) a3)
    exact ⟨this.1, safe_cons.2 ⟨a4, this.2⟩⟩
  | case3 base size hs => exact fun h1 h2 h3 => ⟨by omega, safe_nil⟩

theorem rd_eq (a : Array Nat) (i : Nat) (h : i < a.size) : a[i]? = some (rd a i) := by
  simp [rd, Array.getD_eq_getD_getElem?, h]

theorem stdBinarySearch_spec (keys : Array Nat) (key : Nat) :
    (stdBinarySearch keys key).1.Contract keys key ∧ Safe (stdBinarySearch keys key).2 := by
  have hb := fun hn : ¬ keys.size = 0 => bsLoop_spec keys key keys.size 0 keys.size
    (Nat.pos_of_ne_zero hn) (Nat.le_succ _) (Nat.le_of_eq (Nat.zero_add _))
  fun_cases stdBinarySearch keys key with
  | case1 => exact ⟨Nat.zero_le _, safe_nil⟩
  | case2 hn r base x tr hx =>
    exact ⟨⟨(hb hn).1, (rd_eq _ _ (hb hn).1).trans (congrArg some hx)⟩,
      safe_append.2 ⟨(hb hn).2, safe_cons.2 ⟨(hb hn).1, safe_nil⟩⟩⟩
  | case3 hn r base x tr hx =>
    have := (hb hn).1
    exact ⟨by show (bsLoop keys key keys.size 0 keys.size).1 + _ ≤ keys.size; split <;> omega,
      safe_append.2 ⟨(hb hn).2, safe_cons.2 ⟨(hb hn).1, safe_nil⟩⟩⟩

theorem fromLsb0_spec (n off : Nat) :
    (fromLsb0Accesses n off = none ↔ ¬ off + n ≤ 8192) ∧
    ∀ t, fromLsb0Accesses n off = some t → Safe t ∧ fromLsb0SliceOk n off ∧ (n = 8192 → off = 0) := by
  have ok : off + n ≤ 8192 → fromLsb0SliceOk n off := fun h =>
    ⟨Nat.le_trans (Nat.le_add_right _ _) h, Nat.le_sub_of_add_le' h⟩
  fun_cases fromLsb0Accesses n off with
  | case1 h => exact ⟨⟨fun _ => h, fun _ => rfl⟩, nofun⟩
  | case2 h hn =>
    refine ⟨⟨nofun, fun h' => (h h').elim⟩, ?_⟩
    rintro t ⟨⟩
    have h : off + n ≤ 8192 := Decidable.of_not_not h
    exact ⟨safe_cons.2 ⟨by show BITMAP_BYTES - 1 < n; rw [hn]; decide, safe_nil⟩, ok h, fun _ => by omega⟩
  | case3 h hn =>
    refine ⟨⟨nofun, fun h' => (h h').elim⟩, ?_⟩
    rintro t ⟨⟩
    exact ⟨safe_cons.2 ⟨by decide, safe_nil⟩, ok (Decidable.of_not_not h), fun e => absurd e hn⟩

end Roaring.Unsafe

/-! ### `BitmapIter`: erasure, the indices read, reachable states -/

namespace Roaring.BIter
open Roaring Roaring.Unsafe

/-- all accesses of `t` are reads of site `s` on the 1024-word array at an index satisfying `P` -/
def Reads (s : Nat) (P : Nat → Prop) (t : Trace) : Prop :=
  ∀ a ∈ t, a.site = s ∧ a.len = 1024 ∧ P a.index

theorem reads_nil {s P} : Reads s P [] := fun _ h => nomatch h
theorem reads_cons {s P k t} (hk : P k) (h : Reads s P t) : Reads s P (⟨s, k, 1024⟩ :: t) :=
  List.forall_mem_cons.2 ⟨⟨rfl, rfl, hk⟩, h⟩
theorem Reads.mono {s P Q t} (h : Reads s P t) (hpq : ∀ k, P k → Q k) : Reads s Q t :=
  fun a ha => ⟨(h a ha).1, (h a ha).2.1, hpq _ (h a ha).2.2⟩
theorem Reads.safe {s P t} (h : Reads s P t) (hp : ∀ k, P k → k < 1024) : Safe t :=
  fun a ha => Nat.lt_of_lt_of_le (hp _ (h a ha).2.2) (Nat.le_of_eq (h a ha).2.1.symm)

theorem scanT_fst (bits : List Nat) (k n : Nat) :
    (scanT bits k n).1 = (List.range' k n).find? (fun k => BStore.word bits k != 0) := by
  fun_induction scanT bits k n with
  | case1 => rfl
  | case2 k n h => simp only [List.range'_succ, List.find?_cons, h]
  | case3 k n h r ih =>
    rw [Bool.not_eq_true] at h
    simp only [List.range'_succ, List.find?_cons, h]
    exact ih

theorem scanT_reads (bits : List Nat) (k n : Nat) : Reads 14 (fun x => k ≤ x ∧ x < k + n) (scanT bits k n).2 := by
  fun_induction scanT bits k n with
  | case1 => exact reads_nil
  | case2 k n h => exact reads_cons ⟨Nat.le_refl k, Nat.lt_add_of_pos_right (Nat.succ_pos n)⟩ reads_nil
  | case3 k n h r ih => exact reads_cons (by omega) (ih.mono fun x hx => by omega)

theorem nextT_fst (it : BIter) : (nextT it).1 = it.next := by
  fun_cases nextT it
  · next h => rw [next, if_pos h]
  · next h hk => rw [next, if_neg h, if_pos hk]
  · next h hk r => rw [next, if_neg h, if_neg hk, ← scanT_fst]; rfl

theorem nextT_reads (it : BIter) : Reads 14 (fun k => it.key < k ∧ k < it.keyBack) (nextT it).2 := by
  fun_cases nextT it
  · exact reads_nil
  · exact reads_nil
  · exact (scanT_reads it.bits _ _).mono fun x hx => by omega

theorem dec16_pos {x : Nat} (h : 0 < x) : dec16 x = x - 1 := if_neg (Nat.ne_of_gt h)

theorem nextBackT_fst (it : BIter) : (nextBackT it).1 = it.nextBack := by
  fun_induction nextBackT it with
  | case1 it hk hv => rw [nextBack, if_pos hk, if_pos hv]
  | case2 it hk hv => rw [nextBack, if_pos hk, if_neg hv]
  | case3 it hk hv kb r ih =>
    rw [nextBack, if_neg hk, if_pos hv, ← dec16_pos (Nat.zero_lt_of_lt (Nat.lt_of_not_le hk))]
    exact ih
  | case4 it hk hv => rw [nextBack, if_neg hk, if_neg hv]

theorem nextBackT_reads (it : BIter) : Reads 15 (fun k => it.key ≤ k ∧ k < it.keyBack) (nextBackT it).2 := by
  fun_induction nextBackT it with
  | case1 | case2 | case4 => exact reads_nil
  | case3 it hk hv kb r ih =>
    have hd : kb = it.keyBack - 1 := dec16_pos (Nat.zero_lt_of_lt (Nat.lt_of_not_le hk))
    have hkb : it.key ≤ kb ∧ kb < it.keyBack := by omega
    exact reads_cons hkb (ih.mono fun x hx => ⟨hx.1, Nat.lt_trans hx.2 hkb.2⟩)

theorem advanceToT_fst (it : BIter) (index : Nat) : (advanceToT it index).1 = it.advanceTo index := by
  simp only [advanceToT, advanceTo, apply_ite Prod.fst]

theorem advanceBackToT_fst (it : BIter) (index : Nat) : (advanceBackToT it index).1 = it.advanceBackTo index := by
  simp only [advanceBackToT, advanceBackTo, apply_ite Prod.fst]

theorem advanceToT_reads (it : BIter) (index : Nat) :
    Reads 12 (fun k => k = wkey index ∧ it.key < k ∧ k < it.keyBack) (advanceToT it index).2 := by
  fun_cases advanceToT it index
  -- the one branch that reads: `key < new_key < key_back`
  case case3 h1 h2 h3 =>
    exact reads_cons ⟨rfl, Nat.lt_of_le_of_ne (Nat.le_of_not_lt h1) fun h => h2 h.symm, h3⟩ reads_nil
  all_goals exact reads_nil

theorem advanceBackToT_reads (it : BIter) (index : Nat) :
    Reads 13 (fun k => k = wkey index ∧ it.key < k ∧ k < it.keyBack) (advanceBackToT it index).2 := by
  fun_cases advanceBackToT it index
  -- the one branch that reads: `key < new_key < key_back`
  case case4 h1 h2 h3 => exact reads_cons ⟨rfl, h3, Nat.lt_of_le_of_ne (Nat.le_of_not_lt h1) h2⟩ reads_nil
  all_goals exact reads_nil

theorem wkey_le (index : Nat) (h : index < 65536) : wkey index ≤ 1023 :=
  Nat.le_of_lt_succ (Nat.div_lt_of_lt_mul h)

theorem emit_keyBack (it : BIter) : it.emit.1.keyBack = it.keyBack := rfl
theorem emit_key (it : BIter) : it.emit.1.key = it.key := rfl

theorem next_keyBack (it : BIter) : it.next.1.keyBack = it.keyBack := by
  fun_cases next it <;> rfl

theorem next_bits (it : BIter) : it.next.1.bits = it.bits := by
  fun_cases next it <;> rfl

theorem next_key (it : BIter) : it.next.1.key = it.key ∨ (it.key < it.next.1.key ∧ it.next.1.key ≤ it.keyBack) := by
  fun_cases next it
  · exact .inl rfl
  · exact .inl rfl
  · next k hk =>
    have := List.mem_range'_1.1 (List.mem_of_find?_eq_some hk)
    exact .inr (by show it.key < k ∧ k ≤ it.keyBack; omega)
  all_goals exact .inr ⟨Nat.lt_of_not_le ‹_›, Nat.le_refl _⟩

theorem nextBack_keys (it : BIter) : it.nextBack.1.keyBack ≤ it.keyBack ∧ it.nextBack.1.key = it.key := by
  fun_induction nextBack it with
  | case1 | case2 | case4 => exact ⟨Nat.le_refl _, rfl⟩
  | case3 it _ _ ih => exact ⟨Nat.le_trans ih.1 (Nat.sub_le _ _), ih.2⟩

theorem advanceTo_keyBack (it : BIter) (index : Nat) : (it.advanceTo index).keyBack = it.keyBack := by
  fun_cases advanceTo it index <;> rfl

theorem advanceTo_key (it : BIter) (index : Nat) :
    (it.advanceTo index).key = it.key ∨ (it.advanceTo index).key = wkey index ∨ (it.advanceTo index).key = it.keyBack := by
  fun_cases advanceTo it index
  · exact .inl rfl
  · exact .inr (.inl rfl)
  · exact .inr (.inl rfl)
  · exact .inr (.inl rfl)
  · exact .inr (.inr rfl)

theorem advanceBackTo_keys (it : BIter) (index : Nat) :
    ((it.advanceBackTo index).keyBack = it.keyBack ∨ (it.advanceBackTo index).keyBack = wkey index)
      ∧ (it.advanceBackTo index).key = it.key := by
  fun_cases advanceBackTo it index
  · exact ⟨.inl rfl, rfl⟩
  all_goals exact ⟨.inr rfl, rfl⟩

theorem keyOk_next (it : BIter) (h : Inv it) (hk : KeyOk it) : KeyOk it.next.1 :=
  (next_key it).elim (fun e => Nat.le_trans (Nat.le_of_eq e) hk) fun e => Nat.le_trans e.2 h

theorem keyOk_advanceTo (it : BIter) (index : Nat) (hi : index < 65536) (h : Inv it) (hk : KeyOk it) :
    KeyOk (it.advanceTo index) := by
  unfold KeyOk
  rcases advanceTo_key it index with e | e | e <;> rw [e]
  · exact hk
  · exact wkey_le index hi
  · exact h

theorem inv_advanceBackTo (it : BIter) (index : Nat) (hi : index < 65536) (h : Inv it) :
    Inv (it.advanceBackTo index) := by
  unfold Inv
  rcases (advanceBackTo_keys it index).1 with e | e <;> rw [e]
  · exact h
  · exact wkey_le index hi

theorem reach_inv {bits : List Nat} {it : BIter} (h : Reach bits it) : Inv it ∧ KeyOk it := by
  unfold Inv KeyOk
  induction h with
  | new => exact ⟨Nat.le_refl _, Nat.zero_le _⟩
  | @next it _ ih => exact ⟨next_keyBack it ▸ ih.1, keyOk_next it ih.1 ih.2⟩
  | @nextBack it _ ih => exact ⟨Nat.le_trans (nextBack_keys it).1 ih.1, (nextBack_keys it).2 ▸ ih.2⟩
  | @advanceTo it index hi _ ih =>
    exact ⟨advanceTo_keyBack it index ▸ ih.1, keyOk_advanceTo it index hi ih.1 ih.2⟩
  | @advanceBackTo it index hi _ ih =>
    exact ⟨inv_advanceBackTo it index hi ih.1, (advanceBackTo_keys it index).2 ▸ ih.2⟩

/-- the states a safe caller can produce over `u64` words satisfy the invariant of the cursor lemmas -/
theorem reach_ok {bits : List Nat} (hb : ∀ w ∈ bits, w < 2^64) {it : BIter} (h : Reach bits it) : it.OK := by
  induction h with
  | new => exact new_ok bits hb
  | next _ ih => exact (next_cursor _ ih).2.2
  | nextBack _ ih => exact (nextBack_cursor _ ih).2.2
  | advanceTo index _ _ ih => exact (advanceTo_cursor _ ih index).2
  | advanceBackTo index _ _ ih => exact (advanceBackTo_cursor _ ih index).2

theorem reach_u64 {bits : List Nat} (hb : ∀ w ∈ bits, w < 2^64) {it : BIter} (h : Reach bits it) : U64 it :=
  have h := reach_ok hb h
  ⟨h.v, h.vb, Mask.words_of_word _ fun k _ => h.ws k⟩

end Roaring.BIter
