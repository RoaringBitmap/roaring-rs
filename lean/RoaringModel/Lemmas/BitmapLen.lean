import RoaringModel.Lemmas.BitmapCmp
/-!
# Cardinality-only operations (ops.rs:29-104): `intersection_len` is the `len()` of `&a & &b` (chunk by chunk and along
`Pairs`), and the inclusion–exclusion arithmetic (the `wrapping_*` never wrap); before them the counting laws of the SPEC
merges
-/
namespace Roaring

/-- subtracting `i` again, modulo `n`, from a sum that was reduced modulo `n` -/
theorem add_mod_sub_mod {n : Nat} (hn : 0 < n) (u i : Nat) : ((u + i) % n % n + n - i % n) % n = u % n := by
  have hb := Nat.le_of_lt (Nat.mod_lt i hn)
  rw [Nat.mod_mod, Nat.add_mod u i n, Nat.add_sub_assoc hb, Nat.mod_add_mod, Nat.add_assoc, Nat.add_sub_of_le hb,
    Nat.add_mod_right, Nat.mod_mod]

namespace Spec

/-- along the merge of `sOr`, `sAnd` takes the same branch: each step moves one or two heads -/
theorem length_sOr_add_sAnd (l r : List Nat) :
    (sOr l r).length + (sAnd l r).length = l.length + r.length := by
  fun_induction sOr l r with
  | case1 r => rw [sAnd]; exact Nat.add_comm _ _
  | case2 l hl => rw [sAnd_nil_right]
  | case3 a l b r h ih =>
    rw [sAnd, if_pos h, List.length_cons, Nat.add_right_comm, ih]
    exact Nat.add_right_comm _ _ _
  | case4 a l b r h1 h2 ih =>
    rw [sAnd, if_neg h1, if_pos h2, List.length_cons, Nat.add_right_comm, ih]
    exact Nat.add_assoc _ _ _
  | case5 a l b r h1 h2 ih =>
    rw [sAnd, if_neg h1, if_neg h2, List.length_cons, List.length_cons, Nat.add_add_add_comm, ih]
    exact Nat.add_add_add_comm _ _ _ _

theorem length_sSub_add_sAnd (l r : List Nat) : (sSub l r).length + (sAnd l r).length = l.length := by
  fun_induction sSub l r with
  | case1 r => rw [sAnd]; rfl
  | case2 l hl => rw [sAnd_nil_right]; rfl
  | case3 a l b r h ih =>
    rw [sAnd, if_pos h, List.length_cons, Nat.add_right_comm, ih]
    rfl
  | case4 a l b r h1 h2 ih => rw [sAnd, if_neg h1, if_pos h2, ih]
  | case5 a l b r h1 h2 ih =>
    rw [sAnd, if_neg h1, if_neg h2, List.length_cons, ← Nat.add_assoc, ih]
    rfl

theorem sAnd_eq_filter (l r : List Nat) (hl : Roaring.Sorted l) (hr : Roaring.Sorted r) :
    sAnd l r = l.filter (fun x => decide (x ∈ r)) := by
  rw [sAnd_eq]; exact Arr.and_eq_filter l r hl hr

theorem length_sXor (l r : List Nat) (hl : Roaring.Sorted l) (hr : Roaring.Sorted r) :
    (sXor l r).length + 2 * (sAnd l r).length = l.length + r.length := by
  have h1 := length_sOr_add_sAnd (sSub l r) (sSub r l)
  have hdis : sAnd (sSub l r) (sSub r l) = [] := by
    apply List.eq_nil_iff_forall_not_mem.mpr
    intro x hx
    rw [mem_sAnd _ _ (sorted_sSub l r hl hr) (sorted_sSub r l hr hl), mem_sSub l r hl hr,
      mem_sSub r l hr hl] at hx
    exact hx.1.2 hx.2.1
  rw [hdis, List.length_nil, Nat.add_zero] at h1
  have h3 := length_sSub_add_sAnd r l
  rw [sAnd_comm r l hr hl] at h3
  rw [sXor, h1, ← length_sSub_add_sAnd l r, ← h3, Nat.two_mul]
  exact Nat.add_add_add_comm _ _ _ _

end Spec

namespace Container

theorem len_of_isEmpty {c : Container} (h : c.isEmpty = true) : c.len = 0 := by
  unfold isEmpty Store.isEmpty at h
  unfold len Store.len
  cases hs : c.store with
  | array v =>
    rw [hs] at h
    exact List.length_eq_zero_iff.2 (List.isEmpty_iff.1 h)
  | bitmap b =>
    rw [hs] at h
    exact beq_iff_eq.1 h

/-- container.rs `intersection_len` is the cardinality of `&a & &b` -/
theorem interLen_eq_len_and (a b : Container) (ha : a.store.Inv) (hb : b.store.Inv) :
    a.interLen b = (a.andRef b).len := by
  obtain ⟨_, hc, he⟩ := Bitmap.isOp_spec Bitmap.oper_and.toSetOp (f := andRef) (fun _ _ => rfl) Store.andRef_spec a b ha hb
  rw [interLen_spec a b ha hb, len, Store.len_eq _ (Store.canon_inv _ hc), he,
    Spec.sAnd_eq_filter _ _ (Store.sorted_elems _ ha) (Store.sorted_elems _ hb)]

end Container

namespace Bitmap

theorem len_consOpt (o : Option Container) (rest : Bitmap) : len (consOpt o rest) = o.elim 0 Container.len + len rest := by
  cases o with
  | none => exact (Nat.zero_add _).symm
  | some c => exact len_cons c rest

theorem interLen_cons {a b a' b' : Bitmap} : ∀ {p : Option Container × Option Container},
    pairs a b = p :: pairs a' b' →
    interLen a b = (match p with
      | (some l, some r) => l.interLen r
      | _ => 0) + interLen a' b' := by
  intro p hp
  unfold interLen
  rw [hp, List.map_cons, List.foldl_cons, foldl_add_init, Nat.zero_add]
  rfl

/-- ops.rs:29 `intersection_len` is the `len()` of `&a & &b` -/
theorem interLen_eq_len_and : ∀ a b : Bitmap, WF a → WF b → interLen a b = len (andRR a b) := by
  simp only [andRR_eq]
  refine pairs_induction ?_ ?_ ?_ ?_
  · rw [interLen, pairsOp, pairs]
    rfl
  · intro l ls bs ha hb hbs hp ih
    rw [interLen_cons hp, pairsOp_cons hp, ih]
    exact Nat.zero_add _
  · intro r as rs ha hb has hp ih
    rw [interLen_cons hp, pairsOp_cons hp, ih]
    exact Nat.zero_add _
  · intro l r ls rs ha hb hkey hp ih
    rw [interLen_cons hp, pairsOp_cons hp, ih, len_consOpt]
    show l.interLen r + _ = _
    rw [Container.interLen_eq_len_and l r (Store.wf_inv _ (ha.2 l List.mem_cons_self).2) (Store.wf_inv _ (hb.2 r List.mem_cons_self).2)]
    congr 1
    show _ = (if (true && (l.andRef r).isEmpty) = true then none else some (l.andRef r)).elim 0 Container.len
    cases he : (l.andRef r).isEmpty
    · rfl
    · exact Container.len_of_isEmpty he

theorem length_elems_le (b : Bitmap) (hb : WF b) : (elems b).length ≤ 4294967296 :=
  sorted_length_le _ _ (sorted_elems b hb.dir) (elems_lt b hb.dir)

/-- `wrapping_sub(i)` of a value that is `u + i` modulo 2^64 (a `wrapping_add`, or another `wrapping_sub`) -/
theorem wrappingSub_add (v u i : Nat) (h : v % W = (u + i) % W) : wrappingSub v i = u % W := by
  have hj : i % W ≤ W := Nat.le_of_lt (Nat.mod_lt _ (by decide))
  have := add_mod_sub_mod (n := W) (by decide) u i
  rwa [Nat.mod_mod, ← h, Nat.add_sub_assoc hj, Nat.mod_add_mod, ← Nat.add_sub_assoc hj] at this

/-- a count bounded by the two cardinalities fits a `u64` (each is at most 2^32) -/
theorem mod_W_of_le {a b : Bitmap} (ha : WF a) (hb : WF b) {n : Nat} (h : n ≤ (elems a).length + (elems b).length) :
    n % W = n :=
  Nat.mod_eq_of_lt (Nat.lt_of_le_of_lt (Nat.le_trans h (Nat.add_le_add (length_elems_le a ha) (length_elems_le b hb)))
    (by decide))

/-- ops.rs:29 `intersection_len` -/
theorem interLen_spec (a b : Bitmap) (ha : WF a) (hb : WF b) : interLen a b = Spec.interLen (elems a) (elems b) := by
  have h := pairsOp_exact oper_and (f := Container.andRef) (fun _ _ => rfl) Store.andRef_spec a b ha hb
  rw [interLen_eq_len_and a b ha hb, andRR_eq, len_spec _ h.1, h.2]
  rfl

/-- ops.rs:56 `union_len` = `len + other.len - intersection_len`; the `wrapping_*` never wrap -/
theorem unionLen_spec (a b : Bitmap) (ha : WF a) (hb : WF b) : unionLen a b = Spec.unionLen (elems a) (elems b) := by
  have h := Spec.length_sOr_add_sAnd (elems a) (elems b)
  unfold unionLen wrappingAdd
  rw [len_spec a ha, len_spec b hb, interLen_spec a b ha hb, Spec.interLen,
    wrappingSub_add _ (Spec.sOr (elems a) (elems b)).length _ (by rw [Nat.mod_mod, ← h])]
  exact mod_W_of_le ha hb (h ▸ Nat.le_add_right _ _)

/-- ops.rs:77 `difference_len`: the plain `-` never overflows (`some`), and the value is exact -/
theorem diffLen_spec (a b : Bitmap) (ha : WF a) (hb : WF b) : diffLen a b = some (Spec.diffLen (elems a) (elems b)) := by
  have h := Spec.length_sSub_add_sAnd (elems a) (elems b)
  unfold diffLen
  rw [len_spec a ha, interLen_spec a b ha hb, Spec.interLen, ← h, if_pos (Nat.le_add_left _ _), Nat.add_sub_cancel]
  rfl

/-- ops.rs:98 `symmetric_difference_len` -/
theorem xorLen_spec (a b : Bitmap) (ha : WF a) (hb : WF b) : xorLen a b = Spec.xorLen (elems a) (elems b) := by
  have h := Spec.length_sXor (elems a) (elems b) (sorted_elems a ha.dir) (sorted_elems b hb.dir)
  rw [Nat.two_mul, ← Nat.add_assoc] at h
  unfold xorLen wrappingAdd
  dsimp only
  rw [len_spec a ha, len_spec b hb, interLen_spec a b ha hb, Spec.interLen,
    wrappingSub_add ((_ + _) % W) ((Spec.sXor (elems a) (elems b)).length + (Spec.sAnd (elems a) (elems b)).length) _
      (by rw [Nat.mod_mod, ← h]),
    wrappingSub_add _ (Spec.sXor (elems a) (elems b)).length _ (Nat.mod_mod _ _)]
  exact mod_W_of_le ha hb (h ▸ Nat.le_trans (Nat.le_add_right _ _) (Nat.le_add_right _ _))

end Bitmap
end Roaring
