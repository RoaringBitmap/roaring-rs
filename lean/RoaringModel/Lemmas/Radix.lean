/-!
# Numbers as (high part, low part) in base `B`

A value `v` is `k * B + x` with `x < B`: a `u32` is (chunk key, `u16`) with `B = 2^16`, a `u64` is (partition key, `u32`)
with `B = 2^32`, a bit index is (word, bit) with `B = 64`.  The order of values is the lexicographic order of the pairs,
and a whole block `k` lies on one side of `n` as soon as `k ≠ n / B`.  Everything is stated for a variable `B`, so that
no proof has to reason about a large literal.
-/
namespace Roaring.Radix

theorem mul_add_div {B x : Nat} (k : Nat) (hx : x < B) : (k * B + x) / B = k := by
  rw [Nat.mul_comm, Nat.mul_add_div (Nat.zero_lt_of_lt hx), Nat.div_eq_of_lt hx, Nat.add_zero]

theorem mul_add_mod {B x : Nat} (k : Nat) (hx : x < B) : (k * B + x) % B = x := by
  rw [Nat.mul_comm, Nat.mul_add_mod, Nat.mod_eq_of_lt hx]

theorem le_iff_lex {B a b c d : Nat} (hb : b < B) (hd : d < B) :
    a * B + b ≤ c * B + d ↔ a < c ∨ a = c ∧ b ≤ d := by
  rcases Nat.lt_trichotomy a c with h | h | h
  · have := Nat.mul_le_mul_right B (Nat.succ_le_of_lt h)
    rw [Nat.succ_mul] at this
    exact ⟨fun _ => Or.inl h, fun _ => by omega⟩
  · subst h
    exact ⟨fun h' => Or.inr ⟨rfl, Nat.le_of_add_le_add_left h'⟩, fun h' => by omega⟩
  · have := Nat.mul_le_mul_right B (Nat.succ_le_of_lt h)
    rw [Nat.succ_mul] at this
    exact ⟨fun _ => by omega, fun h' => by omega⟩

theorem lt_iff_lex {B a b c d : Nat} (hb : b < B) (hd : d < B) :
    a * B + b < c * B + d ↔ a < c ∨ a = c ∧ b < d := by
  rw [← Nat.not_le, le_iff_lex hd hb]; omega

theorem mul_add_eq_iff {B x : Nat} (k : Nat) (hx : x < B) (v : Nat) : k * B + x = v ↔ k = v / B ∧ x = v % B :=
  ⟨fun h => h ▸ ⟨(mul_add_div k hx).symm, (mul_add_mod k hx).symm⟩,
   fun ⟨h1, h2⟩ => h1 ▸ h2 ▸ Nat.div_add_mod' v B⟩

theorem le_mul_add_iff {B x : Nat} (v k : Nat) (hx : x < B) :
    v ≤ k * B + x ↔ v / B < k ∨ v / B = k ∧ v % B ≤ x := by
  rw [← le_iff_lex (Nat.mod_lt v (Nat.zero_lt_of_lt hx)) hx, Nat.div_add_mod']

theorem mul_add_le_iff {B x : Nat} (k : Nat) (hx : x < B) (v : Nat) :
    k * B + x ≤ v ↔ k < v / B ∨ k = v / B ∧ x ≤ v % B := by
  rw [← le_iff_lex hx (Nat.mod_lt v (Nat.zero_lt_of_lt hx)), Nat.div_add_mod']

theorem mul_add_lt_iff {B x : Nat} (k : Nat) (hx : x < B) (v : Nat) :
    k * B + x < v ↔ k < v / B ∨ k = v / B ∧ x < v % B := by
  rw [← lt_iff_lex hx (Nat.mod_lt v (Nat.zero_lt_of_lt hx)), Nat.div_add_mod']

theorem lt_iff_divMod {B : Nat} (hB : 0 < B) (x v : Nat) :
    x < v ↔ x / B < v / B ∨ x / B = v / B ∧ x % B < v % B := by
  rw [← lt_iff_lex (Nat.mod_lt x hB) (Nat.mod_lt v hB), Nat.div_add_mod', Nat.div_add_mod']

theorem exists_mul_add {B : Nat} (hB : 0 < B) (v : Nat) : ∃ k x, x < B ∧ v = k * B + x :=
  ⟨v / B, v % B, Nat.mod_lt v hB, (Nat.div_add_mod' v B).symm⟩

theorem forall_mul_add {B : Nat} (hB : 0 < B) {P : Nat → Prop} : (∀ y, P y) ↔ ∀ k x, x < B → P (k * B + x) :=
  ⟨fun h _ _ _ => h _, fun h y => Nat.div_add_mod' y B ▸ h (y / B) (y % B) (Nat.mod_lt y hB)⟩

/-! ### whole blocks against a bound

`advance_to(n)` keeps `n ≤ x`, `advance_back_to(n)` keeps `x ≤ n`; a list whose values all lie in blocks before
(after) the block of `n` is dropped or kept whole. -/

theorem filterGE_drop_of_div_lt (B : Nat) {n : Nat} {l : List Nat} (h : ∀ x ∈ l, x / B < n / B) :
    l.filter (fun x => decide (n ≤ x)) = [] :=
  List.filter_eq_nil_iff.mpr fun x hx => by simpa using Nat.lt_of_div_lt_div (h x hx)

theorem filterGE_keep_of_div_gt (B : Nat) {n : Nat} {l : List Nat} (h : ∀ x ∈ l, n / B < x / B) :
    l.filter (fun x => decide (n ≤ x)) = l :=
  List.filter_eq_self.mpr fun x hx => decide_eq_true (Nat.le_of_lt (Nat.lt_of_div_lt_div (h x hx)))

theorem filterLE_keep_of_div_lt (B : Nat) {n : Nat} {l : List Nat} (h : ∀ x ∈ l, x / B < n / B) :
    l.filter (fun x => decide (x ≤ n)) = l :=
  List.filter_eq_self.mpr fun x hx => decide_eq_true (Nat.le_of_lt (Nat.lt_of_div_lt_div (h x hx)))

theorem filterLE_drop_of_div_gt (B : Nat) {n : Nat} {l : List Nat} (h : ∀ x ∈ l, n / B < x / B) :
    l.filter (fun x => decide (x ≤ n)) = [] :=
  List.filter_eq_nil_iff.mpr fun x hx => by simpa using Nat.lt_of_div_lt_div (h x hx)

theorem mod_le_mod_of_div_eq {B a b : Nat} (h : a ≤ b) (hd : a / B = b / B) : a % B ≤ b % B := by
  rw [← Nat.div_add_mod a B, ← Nat.div_add_mod b B, hd] at h
  exact Nat.le_of_add_le_add_left h

theorem mul_add_lt {A B k x : Nat} (hk : k < A) (hx : x < B) : k * B + x < A * B :=
  Nat.lt_of_lt_of_le (Nat.add_lt_add_left hx _) (Nat.succ_mul k B ▸ Nat.mul_le_mul_right B hk)

/-- the block of a smaller key ends where, or before, that of a larger one begins -/
theorem add_le_mul_of_lt {B a b : Nat} (h : a < b) : a * B + B ≤ b * B :=
  Nat.succ_mul a B ▸ Nat.mul_le_mul_right B h

theorem succ_mul_add_zero {B : Nat} (hB : 0 < B) (k : Nat) : (k + 1) * B + 0 = k * B + (B - 1) + 1 := by
  rw [Nat.succ_mul, Nat.add_zero, Nat.add_assoc, Nat.sub_add_cancel hB]

/-- a value inside `[k·B + a, k·B + b]` with `b < B` lies in block `k` -/
theorem div_eq_of_mem_window {B k a b x : Nat} (hb : b < B) (h1 : k * B + a ≤ x) (h2 : x ≤ k * B + b) : x / B = k := by
  obtain ⟨y, rfl⟩ := Nat.exists_eq_add_of_le (Nat.le_trans (Nat.le_add_right _ a) h1)
  exact mul_add_div k (Nat.lt_of_le_of_lt (Nat.le_of_add_le_add_left h2) hb)

/-! ### an interval `[sh·B + sl, eh·B + el]` as block `k` sees it

`insert_range`, `remove_range`, `range_cardinality` and `contains_range` all hand block `k` the bounds `spanLo ..= spanHi`:
the interval's own end in its first and last block, the block's end (`0`, `top = B - 1`) elsewhere. -/

def spanLo (sh sl k : Nat) : Nat := if k = sh then sl else 0
def spanHi (top eh el k : Nat) : Nat := if k = eh then el else top

/-- the interval meets the window of block `k` iff `sh ≤ k ≤ eh`, and then in the low parts `[spanLo, spanHi]` -/
theorem span_iff {B top sh sl eh el k y : Nat} (htop : B = top + 1) (hsl : sl < B) (hel : el < B) (hy : y < B) :
    (sh * B + sl ≤ k * B + y ∧ k * B + y ≤ eh * B + el) ↔
      (sh ≤ k ∧ k ≤ eh) ∧ spanLo sh sl k ≤ y ∧ y ≤ spanHi top eh el k := by
  subst htop
  have lower : (sh < k ∨ sh = k ∧ sl ≤ y) ↔ sh ≤ k ∧ spanLo sh sl k ≤ y := by
    by_cases h : k = sh
    · subst h
      rw [spanLo, if_pos rfl]
      exact ⟨fun h => ⟨Nat.le_refl _, (h.resolve_left (Nat.lt_irrefl _)).2⟩, fun h => Or.inr ⟨rfl, h.2⟩⟩
    · rw [spanLo, if_neg h]
      exact ⟨fun h' => ⟨h'.elim Nat.le_of_lt fun e => absurd e.1.symm h, Nat.zero_le _⟩,
        fun h' => Or.inl (Nat.lt_of_le_of_ne h'.1 (Ne.symm h))⟩
  have upper : (k < eh ∨ k = eh ∧ y ≤ el) ↔ k ≤ eh ∧ y ≤ spanHi top eh el k := by
    by_cases h : k = eh
    · subst h
      rw [spanHi, if_pos rfl]
      exact ⟨fun h => ⟨Nat.le_refl _, (h.resolve_left (Nat.lt_irrefl _)).2⟩, fun h => Or.inr ⟨rfl, h.2⟩⟩
    · rw [spanHi, if_neg h]
      exact ⟨fun h' => ⟨h'.elim Nat.le_of_lt fun e => absurd e.1 h, Nat.le_of_lt_succ hy⟩,
        fun h' => Or.inl (Nat.lt_of_le_of_ne h'.1 h)⟩
  rw [le_iff_lex hsl hy, le_iff_lex hy hel, lower, upper, and_and_and_comm]

/-- `span_iff` as the filters of `Spec.removeIv` and `Spec.rangeCardinality` read it -/
theorem span_decide {B top sh sl eh el k y : Nat} (htop : B = top + 1) (hsl : sl < B) (hel : el < B) (hy : y < B) :
    (decide (sh * B + sl ≤ k * B + y) && decide (k * B + y ≤ eh * B + el)) =
      (decide (sh ≤ k ∧ k ≤ eh) && (decide (spanLo sh sl k ≤ y) && decide (y ≤ spanHi top eh el k))) := by
  rw [← Bool.decide_and, ← Bool.decide_and, ← Bool.decide_and]
  exact decide_eq_decide.mpr (span_iff htop hsl hel hy)

/-- the part of a non-empty interval that falls into a block is a non-empty range of low parts -/
theorem span_le {top sh sl eh el : Nat} (hsl : sl ≤ top) (hel : el ≤ top) (hord : sh = eh → sl ≤ el) (k : Nat) :
    spanLo sh sl k ≤ spanHi top eh el k ∧ spanHi top eh el k ≤ top := by
  refine ⟨?_, ?_⟩
  · rw [spanLo, spanHi]
    split
    · next hk =>
      split
      · next hk' => exact hord (hk.symm.trans hk')
      · exact hsl
    · exact Nat.zero_le _
  · rw [spanHi]
    split
    · exact hel
    · exact Nat.le_refl _

/-- the two ends of an interval that lies in one block, as low parts -/
theorem low_le_of_key_eq {B sh sl eh el : Nat} (hse : sh * B + sl ≤ eh * B + el) (e : sh = eh) : sl ≤ el :=
  Nat.le_of_add_le_add_left (e ▸ hse)

end Roaring.Radix
