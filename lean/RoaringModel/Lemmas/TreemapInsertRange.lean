import RoaringModel.Lemmas.TreemapKernel32
import RoaringModel.Lemmas.TreemapRangeConv
import RoaringModel.Lemmas.SpecFacts
/-!
# `RoaringTreemap::insert_range` (treemap/inherent.rs:70) refines `Spec.insertRange u64Max`

The span `[start, en]` touches the partitions `start / 2^32 ..= en / 2^32`.  Each iteration of the loop
(`insertRangeStep`) inserts the part of the span that lies in one partition; whole middle partitions are replaced
by `RoaringBitmap::full()`.  The fold is handled by peeling the *last* partition and `Spec.insertIv_comp`
(`[a, m]` then `[m+1, b]` is `[a, b]`, for the set and for the count).
Everything is relative to a bundle `K : Kernel32` of 32-bit facts.
The steps, as the docstrings label them: (a) replacing one partition by `part ∪ [a, b]`; (b1) the three partial-partition
branches and (b2) the whole-partition branch of one iteration, (b) one iteration; (c) the fold, by induction on the number
of partitions; (d) the theorem.
-/
namespace Roaring
namespace Treemap
open TL

variable (K : Kernel32)

/-- the values of `t` inside the window `[k·2^32 + a, k·2^32 + b]` are those of partition `k` inside `[a, b]` -/
theorem insertRange_filter_part {t : Treemap} (hw : WF K t) {k a b : Nat} (hb : b < P32) :
    (elems t).filter (fun x => decide (k * P32 + a ≤ x) && decide (x ≤ k * P32 + b)) =
      ((partElems t k).filter (fun y => decide (a ≤ y) && decide (y ≤ b))).map (fun y => k * P32 + y) := by
  apply sorted_ext (Arr.sorted_filter (sorted_elems (kE K) hw) _)
    (sorted_map_add _ (Arr.sorted_filter (K.elems_sorted _ (wf_getD K hw k)) _))
  intro x
  simp only [List.mem_filter, List.mem_map, Bool.and_eq_true, decide_eq_true_eq]
  constructor
  · rintro ⟨hm, h1, h2⟩
    obtain ⟨y, rfl⟩ := Nat.exists_eq_add_of_le (Nat.le_trans (Nat.le_add_right _ a) h1)
    have h1 := Nat.le_of_add_le_add_left h1
    have h2 := Nat.le_of_add_le_add_left h2
    exact ⟨y, ⟨(mem_elems_mul_add K hw k (Nat.lt_of_le_of_lt h2 hb)).1 hm, h1, h2⟩, rfl⟩
  · rintro ⟨y, ⟨hy, h1, h2⟩, rfl⟩
    exact ⟨(mem_elems_mul_add K hw k (Nat.lt_of_le_of_lt h2 hb)).2 hy, Nat.add_le_add_left h1 _,
      Nat.add_le_add_left h2 _⟩

/-- (a) one partition: replacing partition `k` by a bitmap holding `part k ∪ [a, b]` is inserting
    `[k·2^32 + a, k·2^32 + b]` into the treemap, and the two counts of new values agree -/
theorem insertRange_part {t : Treemap} (hw : WF K t) {k a b : Nat} {nb : Bitmap}
    (hk : k < P32) (hab : a ≤ b) (hb : b < P32) (hnb : K.WF nb)
    (he : Bitmap.elems nb = (Spec.insertIv (partElems t k) a b).1) :
    WF K (insertKV t k nb) ∧
    elems (insertKV t k nb) = (Spec.insertIv (elems t) (k * P32 + a) (k * P32 + b)).1 ∧
    (Spec.insertIv (partElems t k) a b).2 = (Spec.insertIv (elems t) (k * P32 + a) (k * P32 + b)).2 := by
  have hab' : k * P32 + a ≤ k * P32 + b := Nat.add_le_add_left hab _
  have hne : Bitmap.elems nb ≠ [] :=
    List.ne_nil_of_mem (a := a) (by rw [he, Spec.mem_insertIv _ _ _ _ hab]; exact Or.inl ⟨Nat.le_refl _, hab⟩)
  obtain ⟨hw', he'⟩ := insertKV_elems K hw hk hnb hne
    (Spec.sorted_insertIv _ (sorted_elems (kE K) hw) (k * P32 + a) (k * P32 + b) hab')
    (fun y hy => by
      rw [he, Spec.mem_insertIv _ _ _ _ hab, Spec.mem_insertIv _ _ _ _ hab', mem_elems_mul_add K hw _ hy,
        Nat.add_le_add_iff_left, Nat.add_le_add_iff_left])
    (fun x hx => by
      rw [Spec.mem_insertIv _ _ _ _ hab']
      exact or_iff_right fun h => hx (Radix.div_eq_of_mem_window hb h.1 h.2))
  refine ⟨hw', he', ?_⟩
  simp only [Spec.insertIv]
  rw [insertRange_filter_part K hw hb, List.length_map, Nat.add_sub_add_left]

/-- (b1) the three `entry(hi).or_default().insert_range(a..=b)` branches -/
theorem insertRange_entry {t : Treemap} (hw : WF K t) {k a b : Nat}
    (hk : k < P32) (hab : a ≤ b) (hb : b < P32) :
    WF K (entryOrDefault t k (fun bm => Bitmap.insertRange bm (.incl a) (.incl b))).1 ∧
    elems (entryOrDefault t k (fun bm => Bitmap.insertRange bm (.incl a) (.incl b))).1 =
      (Spec.insertIv (elems t) (k * P32 + a) (k * P32 + b)).1 ∧
    (entryOrDefault t k (fun bm => Bitmap.insertRange bm (.incl a) (.incl b))).2 =
      (Spec.insertIv (elems t) (k * P32 + a) (k * P32 + b)).2 := by
  obtain ⟨h1, h2, h3⟩ := K.insertRange_spec _ a b (wf_getD K hw k) hab hb
  obtain ⟨g1, g2, g3⟩ := insertRange_part K hw hk hab hb h1 h2
  exact ⟨g1, g2, h3.trans g3⟩

/-- (b2) a whole partition: `RoaringBitmap::full()` replaces partition `k`; the counter grows by
    `full.len()` (vacant entry) or `full.len() - old.len()` (occupied entry) -/
theorem insertRange_full {t : Treemap} (hw : WF K t) {k : Nat} (hk : k < P32) :
    WF K (insertKV t k fullBitmap) ∧
    elems (insertKV t k fullBitmap) = (Spec.insertIv (elems t) (k * P32 + 0) (k * P32 + u32Max)).1 ∧
    Bitmap.len fullBitmap - (partElems t k).length =
      (Spec.insertIv (elems t) (k * P32 + 0) (k * P32 + u32Max)).2 := by
  obtain ⟨hfw, hfe⟩ := K.full_spec
  have hpw := wf_getD K hw k
  have hsub : ∀ y ∈ partElems t k, y < P32 := K.elems_lt _ hpw
  -- every `u32` is in `[0, u32::MAX]`, and the old partition holds nothing else
  have he : Bitmap.elems fullBitmap = (Spec.insertIv (partElems t k) 0 u32Max).1 := by
    rw [hfe]
    refine sorted_ext List.pairwise_lt_range'
      (Spec.sorted_insertIv _ (K.elems_sorted _ hpw) _ _ (Nat.zero_le _)) fun x => ?_
    rw [List.mem_range'_1, Nat.zero_add, Spec.mem_insertIv _ _ _ _ (Nat.zero_le _)]
    exact ⟨fun h => Or.inl ⟨h.1, Nat.le_of_lt_succ h.2⟩,
      fun h => h.elim (fun h => ⟨h.1, Nat.lt_succ_of_le h.2⟩) fun h => ⟨Nat.zero_le _, hsub x h⟩⟩
  obtain ⟨g1, g2, g3⟩ := insertRange_part K hw hk (b := u32Max) (Nat.zero_le _) (Nat.lt_succ_self _) hfw he
  refine ⟨g1, g2, ?_⟩
  have hid : (partElems t k).filter (fun x => decide (0 ≤ x) && decide (x ≤ u32Max)) = partElems t k :=
    List.filter_eq_self.mpr fun y hy => by
      rw [Bool.and_eq_true, decide_eq_true_eq, decide_eq_true_eq]
      exact ⟨Nat.zero_le _, Nat.le_of_lt_succ (hsub y hy)⟩
  rw [← g3, K.len_spec _ hfw, hfe, List.length_range']
  dsimp only [Spec.insertIv]
  rw [hid]
  rfl

/-- (b) one iteration of the loop inserts `[hi·2^32 + lo, hi·2^32 + up]` -/
theorem insertRangeStep_spec {t : Treemap} (hw : WF K t) {sh sl eh el hi : Nat}
    (hsl : sl < P32) (hel : el < P32) (hhi : hi < P32) (hse : hi = sh → hi = eh → sl ≤ el) :
    WF K (insertRangeStep sh sl eh el t hi).1 ∧
    elems (insertRangeStep sh sl eh el t hi).1 =
      (Spec.insertIv (elems t) (hi * P32 + Radix.spanLo sh sl hi) (hi * P32 + Radix.spanHi u32Max eh el hi)).1 ∧
    (insertRangeStep sh sl eh el t hi).2 =
      (Spec.insertIv (elems t) (hi * P32 + Radix.spanLo sh sl hi) (hi * P32 + Radix.spanHi u32Max eh el hi)).2 := by
  unfold insertRangeStep Radix.spanLo Radix.spanHi
  by_cases h1 : hi = sh
  · by_cases h2 : hi = eh
    · have hc : (decide (hi = eh) && decide (hi = sh)) = true := by
        rw [Bool.and_eq_true]; exact ⟨decide_eq_true h2, decide_eq_true h1⟩
      rw [if_pos hc, if_pos h1, if_pos h2]
      exact insertRange_entry K hw hhi (hse h1 h2) hel
    · have hc : ¬ (decide (hi = eh) && decide (hi = sh)) = true := by simp [h2]
      rw [if_neg hc, if_pos h1, if_pos h1, if_neg h2]
      exact insertRange_entry K hw hhi (Nat.le_of_lt_succ hsl) (Nat.lt_succ_self _)
  · have hc : ¬ (decide (hi = eh) && decide (hi = sh)) = true := by simp [h1]
    rw [if_neg hc, if_neg h1, if_neg h1]
    by_cases h2 : hi = eh
    · rw [if_pos h2, if_pos h2]
      exact insertRange_entry K hw hhi (Nat.zero_le _) hel
    · rw [if_neg h2, if_neg h2]
      obtain ⟨g1, g2, g3⟩ := insertRange_full K hw hhi
      cases hg : get t hi with
      | none =>
        dsimp only
        refine ⟨g1, g2, ?_⟩
        -- by rewriting only: a definitional check of `fullBitmap.len - 0` would evaluate the closed term
        rw [← g3, partElems_of_get_none hg, List.length_nil, Nat.sub_zero]
      | some old => exact ⟨g1, g2, by rw [← g3, partElems_of_get hg, ← K.len_spec _ (hw.get hg).2.1]⟩

/-- the loop of `insert_range` over the first `m` partitions of the span -/
def irFold (sh sl eh el : Nat) (t : Treemap) (m : Nat) : Treemap × Nat :=
  (List.range' sh m).foldl (fun (st : Treemap × Nat) hi =>
    let r := insertRangeStep sh sl eh el st.1 hi
    (r.1, st.2 + r.2)) (t, 0)

theorem irFold_succ (sh sl eh el : Nat) (t : Treemap) (m : Nat) :
    irFold sh sl eh el t (m + 1) =
      ((insertRangeStep sh sl eh el (irFold sh sl eh el t m).1 (sh + m)).1,
       (irFold sh sl eh el t m).2 + (insertRangeStep sh sl eh el (irFold sh sl eh el t m).1 (sh + m)).2) := by
  unfold irFold
  rw [List.range'_concat, List.foldl_append, Nat.one_mul]
  rfl

/-- (c) after the partitions `sh ..= sh + n` the state is `insertIv` of the span cut at the end of
    partition `sh + n` (or at `en` if that is the last partition) -/
theorem irFold_spec (t : Treemap) (hw : WF K t) (sh sl eh el : Nat)
    (hsl : sl < P32) (hel : el < P32) (heh : eh < P32) (hse : sh = eh → sl ≤ el) :
    ∀ n, sh + n ≤ eh →
      WF K (irFold sh sl eh el t (n + 1)).1 ∧
      elems (irFold sh sl eh el t (n + 1)).1 =
        (Spec.insertIv (elems t) (sh * P32 + sl) ((sh + n) * P32 + Radix.spanHi u32Max eh el (sh + n))).1 ∧
      (irFold sh sl eh el t (n + 1)).2 =
        (Spec.insertIv (elems t) (sh * P32 + sl) ((sh + n) * P32 + Radix.spanHi u32Max eh el (sh + n))).2 := by
  have hsort := sorted_elems (kE K) hw
  intro n
  induction n with
  | zero =>
    intro hn
    obtain ⟨g1, g2, g3⟩ := insertRangeStep_spec K hw (sh := sh) (eh := eh) (hi := sh) hsl hel
      (Nat.lt_of_le_of_lt hn heh) (fun _ h => hse h)
    rw [Radix.spanLo, if_pos rfl] at g2 g3
    rw [irFold_succ]
    exact ⟨g1, g2, (Nat.zero_add _).trans g3⟩
  | succ n ih =>
    intro hn
    have hlt : sh + n < eh := hn
    obtain ⟨i1, i2, i3⟩ := ih (Nat.le_of_lt hlt)
    rw [irFold_succ]
    generalize irFold sh sl eh el t (n + 1) = st at i1 i2 i3 ⊢
    rw [Radix.spanHi, if_neg (Nat.ne_of_lt hlt)] at i2 i3
    obtain ⟨g1, g2, g3⟩ := insertRangeStep_spec K i1 (sh := sh) (eh := eh) (hi := sh + (n + 1)) hsl hel
      (Nat.lt_of_le_of_lt hn heh) (fun h => absurd h (Nat.ne_of_gt (Nat.lt_add_of_pos_right (Nat.succ_pos n))))
    rw [Radix.spanLo, if_neg (Nat.ne_of_gt (Nat.lt_add_of_pos_right (Nat.succ_pos n)))] at g2 g3
    -- the next partition starts right after the end of this one
    have hstart : (sh + (n + 1)) * P32 + 0 = ((sh + n) * P32 + u32Max) + 1 := Radix.succ_mul_add_zero (by decide) (sh + n)
    rw [i2, hstart] at g2 g3
    obtain ⟨c1, c2⟩ := Spec.insertIv_comp (elems t) hsort (sh * P32 + sl) ((sh + n) * P32 + u32Max)
      ((sh + (n + 1)) * P32 + Radix.spanHi u32Max eh el (sh + (n + 1)))
      (Nat.add_le_add (Nat.mul_le_mul_right _ (Nat.le_add_right sh n)) (Nat.le_of_lt_succ hsl))
      (Nat.le_trans (Nat.le_of_eq hstart.symm) (Nat.add_le_add_left (Nat.zero_le _) _))
    exact ⟨g1, g2.trans c1, by rw [i3, g3]; exact c2⟩

/-- the whole loop: the partitions `sh ..= eh` of the span `[sh·2^32 + sl, eh·2^32 + el]` -/
theorem irFold_full (t : Treemap) (hw : WF K t) {sh sl eh el : Nat}
    (hsl : sl < P32) (hel : el < P32) (heh : eh < P32) (hse : sh * P32 + sl ≤ eh * P32 + el) :
    WF K (irFold sh sl eh el t (eh + 1 - sh)).1 ∧
    elems (irFold sh sl eh el t (eh + 1 - sh)).1 = (Spec.insertIv (elems t) (sh * P32 + sl) (eh * P32 + el)).1 ∧
    (irFold sh sl eh el t (eh + 1 - sh)).2 = (Spec.insertIv (elems t) (sh * P32 + sl) (eh * P32 + el)).2 := by
  have hle : sh ≤ eh := by
    rcases (Radix.le_iff_lex hsl hel).1 hse with h | h
    · exact Nat.le_of_lt h
    · exact Nat.le_of_eq h.1
  have h := irFold_spec K t hw sh sl eh el hsl hel heh
    (fun e => by subst e; exact Nat.le_of_add_le_add_left hse) (eh - sh) (Nat.le_of_eq (Nat.add_sub_cancel' hle))
  rw [Nat.add_sub_cancel' hle, Radix.spanHi, if_pos rfl, ← Nat.sub_add_comm hle] at h
  exact h

/-- (d) `insert_range` refines `Spec.insertRange u64Max`: well-formedness is preserved, the set becomes
    `s ∪ range`, the result is the number of new values (as a `Nat`: the model's counter does not wrap) -/
theorem insertRange_spec (t : Treemap) (hw : WF K t) (lo hi : Bound)
    (hlo : Bound.le u64Max lo) (hhi : Bound.le u64Max hi) :
    WF K (insertRange t lo hi).1 ∧
    elems (insertRange t lo hi).1 = (Spec.insertRange u64Max (elems t) lo hi).1 ∧
    (insertRange t lo hi).2 = (Spec.insertRange u64Max (elems t) lo hi).2 := by
  rw [insertRange, convertRange64_interval lo hi hlo hhi]
  unfold Spec.insertRange
  cases hi' : Spec.interval u64Max lo hi with
  | none => exact ⟨hw, rfl, rfl⟩
  | some p =>
    obtain ⟨start, en⟩ := p
    obtain ⟨hse, hen⟩ := interval64_bounds hi'
    have hen' : en < P32 * P32 := Nat.lt_succ_of_le hen
    obtain ⟨sh, sl, hsl, rfl⟩ := Radix.exists_mul_add (B := P32) (by decide) start
    obtain ⟨eh, el, hel, rfl⟩ := Radix.exists_mul_add (B := P32) (by decide) en
    dsimp only
    rw [split_mul_add hsl (Nat.lt_of_le_of_lt hse hen'), split_mul_add hel hen']
    exact irFold_full K t hw hsl hel (Nat.lt_of_mul_lt_mul_right (Nat.lt_of_le_of_lt (Nat.le_add_right _ _) hen')) hse

end Treemap
end Roaring
