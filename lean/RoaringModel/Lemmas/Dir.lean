import RoaringModel.Lemmas.ContainerFacts
import RoaringModel.Lemmas.Radix
import RoaringModel.Lemmas.Blocks
/-!
# The chunk directory (inherent.rs): a key-sorted vector of containers seen as a finite map `key ↦ low values`

`Bitmap.chunk b k` is the list of low 16-bit values stored under key `k` (`[]` if absent).  For key-sorted
directories `y ∈ elems b ↔ y % 65536 ∈ chunk b (y / 65536)`, so every operation is characterised by what it
does to each chunk.
-/
namespace Roaring
namespace Bitmap

/-- structural invariant of a directory: keys strictly ascending and < 2^16, every store canonical
    (possibly empty — `Bitmap.WF` adds non-emptiness) -/
def Dir (b : Bitmap) : Prop :=
  (b.map Container.key).Pairwise (· < ·) ∧ ∀ c ∈ b, c.key < 65536 ∧ c.store.Canon

theorem wf_iff (b : Bitmap) : b.WF ↔ b.Dir ∧ ∀ c ∈ b, c.store.elems ≠ [] := by
  unfold Bitmap.WF Bitmap.Dir Container.WF
  constructor
  · rintro ⟨h1, h2⟩
    exact ⟨⟨h1, fun c hc => ⟨(h2 c hc).1, Store.wf_canon _ (h2 c hc).2⟩⟩,
           fun c hc => Store.wf_elems_ne _ (h2 c hc).2⟩
  · rintro ⟨⟨h1, h2⟩, h3⟩
    exact ⟨h1, fun c hc => ⟨(h2 c hc).1, Store.wf_of_canon _ (h2 c hc).2 (h3 c hc)⟩⟩

theorem WF.dir {b : Bitmap} (h : b.WF) : b.Dir := ((wf_iff b).mp h).1

theorem Dir.tail {c : Container} {cs : Bitmap} (h : Dir (c :: cs)) : Dir cs :=
  ⟨(List.pairwise_cons.mp h.1).2, fun d hd => h.2 d (List.mem_cons_of_mem _ hd)⟩

theorem wf_of_dir (b : Bitmap) (h : b.Dir) (hne : ∀ c ∈ b, c.store.elems ≠ []) : b.WF :=
  (wf_iff b).mpr ⟨h, hne⟩

theorem WF.ne {b : Bitmap} (h : b.WF) : ∀ c ∈ b, c.store.elems ≠ [] := ((wf_iff b).mp h).2

theorem WF.tail {c : Container} {cs : Bitmap} (h : Bitmap.WF (c :: cs)) : Bitmap.WF cs :=
  wf_of_dir _ h.dir.tail (fun d hd => h.ne d (List.mem_cons_of_mem _ hd))

/-- keys strictly ascending and `< 2^16`, every store satisfies `Q`: `Dir` is `DirQ Store.Canon`, `Bitmap.WF` is
    `DirQ Store.WF`, and the accumulator and operand invariants of multiops.rs (`Multi.Acc`, `Multi.WF`) are `DirQ` at
    theirs -/
def DirQ (Q : Store → Prop) (b : Bitmap) : Prop :=
  (b.map Container.key).Pairwise (· < ·) ∧ ∀ c ∈ b, c.key < 65536 ∧ Q c.store

theorem DirQ.sublist {Q : Store → Prop} {a b : Bitmap} (h : DirQ Q b) (hs : a.Sublist b) : DirQ Q a :=
  ⟨h.1.sublist (hs.map _), fun c hc => h.2 c (hs.subset hc)⟩

theorem Dir.sublist {a b : Bitmap} (h : Dir b) (hs : a.Sublist b) : Dir a := DirQ.sublist h hs

theorem Dir.head_lt {c : Container} {cs : Bitmap} (h : Dir (c :: cs)) : ∀ d ∈ cs, c.key < d.key := by
  intro d hd
  exact (List.pairwise_cons.mp h.1).1 d.key (List.mem_map_of_mem hd)

theorem Dir.nil : Dir [] := ⟨List.Pairwise.nil, by simp⟩

theorem DirQ.insert {Q : Store → Prop} {pre r : Bitmap} {x : Container} (h : DirQ Q (pre ++ r))
    (hpre : ∀ d ∈ pre, d.key < x.key) (hr : ∀ d ∈ r, x.key < d.key) (hx : x.key < 65536 ∧ Q x.store) :
    DirQ Q (pre ++ x :: r) := by
  obtain ⟨h1, h2⟩ := h
  rw [List.map_append, List.pairwise_append] at h1
  refine ⟨?_, fun d hd => ?_⟩
  · rw [List.map_append, List.map_cons, List.pairwise_append, List.pairwise_cons]
    refine ⟨h1.1, ⟨fun k hk' => ?_, h1.2.1⟩, fun a ha k hk' => ?_⟩
    · obtain ⟨d, hd, rfl⟩ := List.mem_map.mp hk'
      exact hr d hd
    · obtain ⟨d, hd, rfl⟩ := List.mem_map.mp ha
      rcases List.mem_cons.mp hk' with rfl | hk'
      · exact hpre d hd
      · exact h1.2.2 _ (List.mem_map_of_mem hd) k hk'
  · rcases List.mem_append.mp hd with hd | hd
    · exact h2 d (List.mem_append_left _ hd)
    · rcases List.mem_cons.mp hd with rfl | hd
      · exact hx
      · exact h2 d (List.mem_append_right _ hd)

theorem Dir.insert {pre r : Bitmap} {x : Container} (h : Dir (pre ++ r)) (hpre : ∀ d ∈ pre, d.key < x.key)
    (hr : ∀ d ∈ r, x.key < d.key) (hk : x.key < 65536) (hx : x.store.Canon) : Dir (pre ++ x :: r) :=
  DirQ.insert h hpre hr ⟨hk, hx⟩

theorem Dir.cons {c : Container} {cs : Bitmap} (hcs : Dir cs) (hk : c.key < 65536) (hc : c.store.Canon)
    (hlt : ∀ d ∈ cs, c.key < d.key) : Dir (c :: cs) :=
  Dir.insert (pre := []) hcs nofun hlt hk hc

/-! ### a value as chunk key and low 16 bits

`Radix` at base 65536: every value is `k * 65536 + x` with `x < 65536`, and the proofs downstream compare such
sums, which is linear. -/

theorem hi16_join (k x : Nat) (hx : x < 65536) : hi16 (k * 65536 + x) = k := Radix.mul_add_div k hx

theorem lo16_join (k x : Nat) (hx : x < 65536) : lo16 (k * 65536 + x) = x := Radix.mul_add_mod k hx

theorem lo16_lt (v : Nat) : lo16 v < 65536 := Nat.mod_lt v (by decide)

theorem join_split (v : Nat) : hi16 v * 65536 + lo16 v = v := Nat.div_add_mod' v 65536

theorem split_lt (v : Nat) (hv : v < 4294967296) : hi16 v < 65536 ∧ lo16 v < 65536 :=
  ⟨Nat.div_lt_of_lt_mul hv, lo16_lt v⟩

/-- the order of values is the lexicographic order of (chunk key, low bits) -/
theorem join_le_join {k x k' x' : Nat} (hx : x < 65536) (hx' : x' < 65536) :
    k * 65536 + x ≤ k' * 65536 + x' ↔ k < k' ∨ k = k' ∧ x ≤ x' := Radix.le_iff_lex hx hx'

theorem join_eq_iff {k x : Nat} (hx : x < 65536) (v : Nat) : k * 65536 + x = v ↔ k = hi16 v ∧ x = lo16 v :=
  Radix.mul_add_eq_iff k hx v

theorem le_join_iff (v : Nat) {k x : Nat} (hx : x < 65536) :
    v ≤ k * 65536 + x ↔ hi16 v < k ∨ hi16 v = k ∧ lo16 v ≤ x := Radix.le_mul_add_iff v k hx

theorem join_le_iff (v : Nat) {k x : Nat} (hx : x < 65536) :
    k * 65536 + x ≤ v ↔ k < hi16 v ∨ k = hi16 v ∧ x ≤ lo16 v := Radix.mul_add_le_iff k hx v

theorem exists_join (v : Nat) : ∃ k x, x < 65536 ∧ v = k * 65536 + x := Radix.exists_mul_add (by decide) v

/-! ### the abstraction, container by container -/

theorem elems_cons (c : Container) (cs : Bitmap) : elems (c :: cs) = c.elems ++ elems cs := by
  simp [elems]

theorem elems_append (a b : Bitmap) : elems (a ++ b) = elems a ++ elems b := by
  simp [elems]

theorem elems_single (c : Container) : elems [c] = c.elems := by simp [elems]

theorem length_cElems (c : Container) : c.elems.length = c.store.elems.length := by
  simp [Container.elems]

theorem cLen_eq (c : Container) (hc : c.store.Inv) : c.len = c.store.elems.length :=
  Store.len_eq _ hc

theorem cLen_eq' (c : Container) (hc : c.store.Inv) : c.len = c.elems.length := by
  rw [length_cElems]; exact Store.len_eq _ hc

theorem mem_elems_iff_exists (b : Bitmap) (y : Nat) : y ∈ elems b ↔ ∃ c ∈ b, y ∈ c.elems := by
  simp [elems, List.mem_flatMap]

theorem Dir.inv {b : Bitmap} (h : Dir b) {c : Container} (hc : c ∈ b) : c.store.Inv :=
  Store.canon_inv _ (h.2 c hc).2

theorem WF.storesInv {b : Bitmap} (h : b.WF) : ∀ c ∈ b, c.store.Inv := fun _ hc => h.dir.inv hc

/-! ### the directory as a list of blocks (`Lemmas/Blocks.lean`): key `c.key`, low values `c.store.elems`, base `2^16` -/

abbrev cLow (c : Container) : List Nat := c.store.elems

theorem elems_eq_blk (b : Bitmap) : elems b = Blk.elems Container.key cLow 65536 b := rfl

theorem DirQ.ok {Q : Store → Prop} (hQ : ∀ s, Q s → s.Inv) {b : Bitmap} (h : DirQ Q b) :
    Blk.Ok Container.key cLow 65536 b :=
  ⟨h.1, fun c hc => Store.sorted_elems _ (hQ _ (h.2 c hc).2), fun c hc => Store.elems_lt _ (hQ _ (h.2 c hc).2)⟩

theorem Dir.ok {b : Bitmap} (h : Dir b) : Blk.Ok Container.key cLow 65536 b := DirQ.ok Store.canon_inv h

/-- the low values stored under chunk key `k` (`[]` if the chunk is absent) -/
def chunk : Bitmap → Nat → List Nat
  | [], _ => []
  | c :: cs, k => if c.key = k then c.store.elems else chunk cs k

theorem chunk_cons_eq (c : Container) (cs : Bitmap) (k : Nat) (h : c.key = k) :
    chunk (c :: cs) k = c.store.elems := if_pos h

theorem chunk_cons_ne (c : Container) (cs : Bitmap) (k : Nat) (h : c.key ≠ k) :
    chunk (c :: cs) k = chunk cs k := if_neg h

theorem chunk_eq_part (b : Bitmap) (k : Nat) : chunk b k = Blk.part Container.key cLow b k := by
  induction b with
  | nil => rfl
  | cons c cs ih => rw [chunk, Blk.part, ih]

theorem chunk_append_of_ne {a b : Bitmap} {k : Nat} (h : ∀ d ∈ a, d.key ≠ k) : chunk (a ++ b) k = chunk b k := by
  induction a with
  | nil => rfl
  | cons c cs ih =>
    rw [List.cons_append, chunk_cons_ne c _ k (h c (List.mem_cons_self ..))]
    exact ih (fun d hd => h d (List.mem_cons_of_mem _ hd))

theorem chunk_append_cons_ne {a : Bitmap} {x : Container} {r : Bitmap} {k : Nat} (h : x.key ≠ k) :
    chunk (a ++ x :: r) k = chunk (a ++ r) k := by
  induction a with
  | nil => exact chunk_cons_ne x r k h
  | cons c cs ih =>
    by_cases hc : c.key = k
    · rw [List.cons_append, List.cons_append, chunk_cons_eq _ _ k hc, chunk_cons_eq _ _ k hc]
    · rw [List.cons_append, List.cons_append, chunk_cons_ne _ _ k hc, chunk_cons_ne _ _ k hc, ih]

theorem chunk_nil_of_ne {b : Bitmap} {k : Nat} (h : ∀ d ∈ b, d.key ≠ k) : chunk b k = [] := by
  rw [← List.append_nil b, chunk_append_of_ne h]
  rfl

theorem chunk_nil_of_lt {b : Bitmap} {k : Nat} (h : ∀ d ∈ b, k < d.key) : chunk b k = [] :=
  chunk_nil_of_ne fun d hd => Nat.ne_of_gt (h d hd)

theorem chunk_nil_of_gt {b : Bitmap} {k : Nat} (h : ∀ d ∈ b, d.key < k) : chunk b k = [] :=
  chunk_nil_of_ne fun d hd => Nat.ne_of_lt (h d hd)

theorem mem_chunk_exists (b : Bitmap) (k x : Nat) (h : x ∈ chunk b k) :
    ∃ d ∈ b, d.key = k ∧ x ∈ d.store.elems := by
  induction b with
  | nil => cases h
  | cons c cs ih =>
    by_cases hk : c.key = k
    · rw [chunk_cons_eq c cs k hk] at h
      exact ⟨c, List.mem_cons_self .., hk, h⟩
    · rw [chunk_cons_ne c cs k hk] at h
      obtain ⟨d, hd, h1, h2⟩ := ih h
      exact ⟨d, List.mem_cons_of_mem _ hd, h1, h2⟩

theorem DirQ.chunk_of_mem {Q : Store → Prop} {b : Bitmap} (h : DirQ Q b) {d : Container} (hd : d ∈ b) :
    chunk b d.key = d.store.elems := by
  induction b with
  | nil => cases hd
  | cons c cs ih =>
    obtain ⟨hlt, hs⟩ := List.pairwise_cons.mp h.1
    rcases List.mem_cons.mp hd with rfl | hd'
    · exact chunk_cons_eq _ cs _ rfl
    · rw [chunk_cons_ne c cs _ (Nat.ne_of_lt (hlt _ (List.mem_map_of_mem hd')))]
      exact ih ⟨hs, fun e he => h.2 e (List.mem_cons_of_mem _ he)⟩ hd'

theorem chunk_of_mem (b : Bitmap) (h : b.Dir) (d : Container) (hd : d ∈ b) :
    chunk b d.key = d.store.elems := DirQ.chunk_of_mem h hd

theorem chunk_lt (b : Bitmap) (h : b.Dir) (k : Nat) : ∀ x ∈ chunk b k, x < 65536 := by
  intro x hx
  obtain ⟨d, hd, _, hxd⟩ := mem_chunk_exists b k x hx
  exact Store.elems_lt _ (h.inv hd) x hxd

theorem chunk_sorted (b : Bitmap) (h : b.Dir) (k : Nat) : Sorted (chunk b k) := by
  rw [chunk_eq_part]
  rcases Blk.part_cases (key := Container.key) (low := cLow) b k with e | ⟨c, hc, _, e⟩
  · rw [e]
    exact List.Pairwise.nil
  · rw [e]
    exact Store.sorted_elems _ (h.inv hc)

theorem chunk_nil_of_key_ge (b : Bitmap) (h : b.Dir) (k : Nat) (hk : 65536 ≤ k) : chunk b k = [] := by
  apply chunk_nil_of_gt
  intro d hd; have := (h.2 d hd).1; omega

theorem mem_cElems (c : Container) (hc : c.store.Inv) (y : Nat) :
    y ∈ c.elems ↔ y / 65536 = c.key ∧ y % 65536 ∈ c.store.elems := by
  unfold Container.elems
  rw [List.mem_map]
  constructor
  · rintro ⟨l, hl, rfl⟩
    have := Store.elems_lt _ hc l hl
    exact ⟨Radix.mul_add_div _ this, (Radix.mul_add_mod _ this).symm ▸ hl⟩
  · rintro ⟨hk, h⟩
    exact ⟨_, h, hk ▸ Nat.div_add_mod' y 65536⟩

theorem mem_chunk_iff (b : Bitmap) (h : b.Dir) (k x : Nat) :
    x ∈ chunk b k ↔ ∃ c ∈ b, c.key = k ∧ x ∈ c.store.elems :=
  ⟨mem_chunk_exists b k x, fun ⟨c, hc, hk, hx⟩ => hk ▸ (chunk_of_mem b h c hc).symm ▸ hx⟩

theorem mem_elems_join (b : Bitmap) (h : b.Dir) (k x : Nat) (hx : x < 65536) :
    k * 65536 + x ∈ elems b ↔ x ∈ chunk b k :=
  (Blk.mem_elems_mul_add h.ok.lt k hx).trans (mem_chunk_iff b h k x).symm

theorem mem_elems (b : Bitmap) (h : b.Dir) (y : Nat) :
    y ∈ elems b ↔ y % 65536 ∈ chunk b (y / 65536) := by
  rw [chunk_eq_part]
  exact Blk.mem_elems_part h.ok y

theorem mem_elems_split (b : Bitmap) (h : b.Dir) (v : Nat) : v ∈ elems b ↔ lo16 v ∈ chunk b (hi16 v) :=
  mem_elems b h v

/-- a value of a container, as (chunk key, low bits) -/
theorem exists_of_mem_cElems {c : Container} (hc : c.store.Inv) {y : Nat} (hy : y ∈ c.elems) :
    ∃ l, l < 65536 ∧ y = c.key * 65536 + l :=
  let ⟨l, hl, e⟩ := List.mem_map.mp hy
  ⟨l, Store.elems_lt _ hc l hl, e.symm⟩

theorem cElems_bounds (c : Container) (hc : c.store.Inv) :
    ∀ y ∈ c.elems, c.key * 65536 ≤ y ∧ y < c.key * 65536 + 65536 := by
  intro y hy
  obtain ⟨l, hl, rfl⟩ := exists_of_mem_cElems hc hy
  exact ⟨Nat.le_add_right _ _, Nat.add_lt_add_left hl _⟩

/-- whole containers against a value: `Radix.mul_add_lt`, the block of a smaller key ends before that of a larger one begins -/
theorem cElems_lt_join (c : Container) (hc : c.store.Inv) {k : Nat} (h : c.key < k) (x : Nat) :
    ∀ y ∈ c.elems, y < k * 65536 + x := by
  intro y hy
  obtain ⟨l, hl, rfl⟩ := exists_of_mem_cElems hc hy
  exact Nat.lt_of_lt_of_le (Radix.mul_add_lt h hl) (Nat.le_add_right _ _)

theorem join_lt_cElems (c : Container) (hc : c.store.Inv) {k x : Nat} (hx : x < 65536) (h : k < c.key) :
    ∀ y ∈ c.elems, k * 65536 + x < y := by
  intro y hy
  obtain ⟨l, _, rfl⟩ := exists_of_mem_cElems hc hy
  exact Nat.lt_of_lt_of_le (Radix.mul_add_lt h hx) (Nat.le_add_right _ _)

theorem elems_tail_bounds {c : Container} {cs : Bitmap} (h : Dir (c :: cs)) :
    ∀ y ∈ elems cs, c.key * 65536 + 65536 ≤ y := by
  intro y hy
  obtain ⟨d, hd, hy⟩ := (mem_elems_iff_exists cs y).mp hy
  exact Nat.le_trans (Radix.add_le_mul_of_lt (h.head_lt d hd)) (cElems_bounds d (h.tail.inv hd) y hy).1

theorem elems_lt_of_keys (b : Bitmap) (h : b.Dir) (K : Nat) (hK : ∀ d ∈ b, d.key < K) :
    ∀ x ∈ elems b, x < K * 65536 := by
  intro x hx
  obtain ⟨c, hc, hxc⟩ := (mem_elems_iff_exists b x).mp hx
  obtain ⟨l, hl, rfl⟩ := exists_of_mem_cElems (h.inv hc) hxc
  exact Radix.mul_add_lt (hK c hc) hl

theorem join_lt_elems_of_keys (b : Bitmap) (h : b.Dir) {k x : Nat} (hx : x < 65536) (hk : ∀ d ∈ b, k < d.key) :
    ∀ y ∈ elems b, k * 65536 + x < y := by
  intro y hy
  obtain ⟨d, hd, hyd⟩ := (mem_elems_iff_exists b y).mp hy
  exact join_lt_cElems d (h.inv hd) hx (hk d hd) y hyd

theorem join_lt_elems_tail {c : Container} {cs : Bitmap} (hdir : Dir (c :: cs)) {k x : Nat} (hx : x < 65536)
    (h : k ≤ c.key) : ∀ y ∈ elems cs, k * 65536 + x < y :=
  join_lt_elems_of_keys cs hdir.tail hx fun d hd => Nat.lt_of_le_of_lt h (hdir.head_lt d hd)

theorem sorted_elems (b : Bitmap) (h : b.Dir) : Sorted (elems b) := Blk.sorted_elems h.ok

theorem elems_lt (b : Bitmap) (h : b.Dir) : ∀ y ∈ elems b, y < 4294967296 := fun _ hy =>
  let ⟨c, hc, e⟩ := Blk.div_of_mem h.ok.lt hy
  Nat.lt_of_div_lt_div (c := 65536) (e ▸ (h.2 c hc).1)

/-- a directory whose chunks are those of a sorted list `s` has `s` as its elements -/
theorem elems_eq_of_mem_chunk (b : Bitmap) (h : b.Dir) (s : List Nat) (hs : Sorted s)
    (hmem : ∀ k x, x < 65536 → (x ∈ chunk b k ↔ k * 65536 + x ∈ s)) : elems b = s :=
  Blk.elems_eq_of_mem h.ok (by decide) hs fun k x hx => (hmem k x hx).symm.trans (mem_chunk_iff b h k x)

theorem elems_eq_of_chunk (a b : Bitmap) (ha : a.Dir) (hb : b.Dir) (h : ∀ k, chunk a k = chunk b k) :
    elems a = elems b :=
  elems_eq_of_mem_chunk a ha _ (sorted_elems b hb) (fun k x hx => by rw [h, mem_elems_join b hb k x hx])

/-! ### `binary_search_by_key`, and `find_container_by_key` followed by an update in place -/

theorem search_cons (c : Container) (cs : Bitmap) (key : Nat) :
    search (c :: cs) key =
      if c.key < key then ((search cs key).1, (search cs key).2 + 1) else (c.key == key, 0) := by
  unfold search
  by_cases h : c.key < key
  · simp [h]
  · simp [h]

theorem search_nil (key : Nat) : search [] key = (false, 0) := by simp [search]

/-- What `binary_search_by_key` returns, `Ok(i)` as `(true, i)` and `Err(i)` as `(false, i)`: the chunks below `key` come
    first; the next one is the hit, or it is absent or has a larger key (the insertion point). -/
theorem search_split (b : Bitmap) (key : Nat) :
    ∃ pre post, b = pre ++ post ∧ (∀ c ∈ pre, c.key < key) ∧
      ((∃ c rest, post = c :: rest ∧ c.key = key ∧ search b key = (true, pre.length)) ∨
       ((∀ c ∈ post.head?, key < c.key) ∧ search b key = (false, pre.length))) := by
  induction b with
  | nil => exact ⟨[], [], rfl, nofun, Or.inr ⟨nofun, rfl⟩⟩
  | cons c cs ih =>
    rw [search_cons]
    by_cases h : c.key < key
    · obtain ⟨pre, post, e, h1, h2⟩ := ih
      rw [if_pos h]
      refine ⟨c :: pre, post, congrArg _ e, List.forall_mem_cons.2 ⟨h, h1⟩, h2.imp ?_ ?_⟩
      · rintro ⟨c', rest, hp, hk, hs⟩
        exact ⟨c', rest, hp, hk, by rw [hs]; rfl⟩
      · rintro ⟨hr, hs⟩
        exact ⟨hr, by rw [hs]; rfl⟩
    · rw [if_neg h]
      refine ⟨[], c :: cs, rfl, nofun, ?_⟩
      by_cases hk : c.key = key
      · exact Or.inl ⟨c, cs, rfl, hk, by rw [beq_iff_eq.2 hk]; rfl⟩
      · refine Or.inr ⟨fun d hd => ?_, by rw [beq_false_of_ne hk]; rfl⟩
        cases Option.mem_some.mp hd
        omega

theorem search_true {b : Bitmap} {key i : Nat} (h : search b key = (true, i)) :
    ∃ c, b[i]? = some c ∧ c.key = key := by
  obtain ⟨pre, post, rfl, _, ⟨c, rest, rfl, hk, hs⟩ | ⟨_, hs⟩⟩ := search_split b key
  · cases hs.symm.trans h
    exact ⟨c, by simp, hk⟩
  · cases hs.symm.trans h

/-- In a key-sorted directory all chunks after the hit, or from the insertion point on, lie above `key`. -/
theorem search_spec (b : Bitmap) (key : Nat) (hs : (b.map Container.key).Pairwise (· < ·)) :
    ∃ pre post, b = pre ++ post ∧ (∀ c ∈ pre, c.key < key) ∧
      ((∃ c rest, post = c :: rest ∧ c.key = key ∧ (∀ d ∈ rest, key < d.key) ∧
          search b key = (true, pre.length)) ∨
       ((∀ d ∈ post, key < d.key) ∧ search b key = (false, pre.length))) := by
  obtain ⟨pre, post, rfl, hpre, h⟩ := search_split b key
  rw [List.map_append, List.pairwise_append] at hs
  refine ⟨pre, post, rfl, hpre, h.imp ?_ ?_⟩
  · rintro ⟨c, rest, rfl, rfl, h⟩
    exact ⟨c, rest, rfl, rfl, fun d hd => (List.pairwise_cons.mp hs.2.1).1 _ (List.mem_map_of_mem hd), h⟩
  · rintro ⟨hh, h⟩
    refine ⟨fun d hd => ?_, h⟩
    cases post with
    | nil => cases hd
    | cons c rest =>
      have hc := hh c rfl
      rcases List.mem_cons.mp hd with rfl | hd
      · exact hc
      · exact Nat.lt_trans hc ((List.pairwise_cons.mp hs.2.1).1 _ (List.mem_map_of_mem hd))

theorem search_append (pre post : Bitmap) (key : Nat) (h : ∀ d ∈ pre, d.key < key) :
    search (pre ++ post) key = ((search post key).1, pre.length + (search post key).2) := by
  induction pre with
  | nil => simp
  | cons c cs ih =>
    rw [List.cons_append, search_cons, if_pos (h c (List.mem_cons_self ..)), ih (fun d hd => h d (List.mem_cons_of_mem _ hd)),
      List.length_cons, Nat.add_right_comm]

theorem search_hit (pre : Bitmap) (c : Container) (r : Bitmap) (h : ∀ d ∈ pre, d.key < c.key) :
    search (pre ++ c :: r) c.key = (true, pre.length) := by
  rw [search_append _ _ _ h, search_cons, if_neg (Nat.lt_irrefl _), beq_self_eq_true]
  rfl

/-- on a directory, `Ok(i)` points at the container that holds the chunk of `key`; `Err` means the chunk is empty -/
theorem Dir.search_cases {b : Bitmap} (h : b.Dir) (key : Nat) :
    (∃ pre c rest, b = pre ++ c :: rest ∧ search b key = (true, pre.length) ∧ c.key = key ∧
      chunk b key = c.store.elems) ∨
    (∃ i, search b key = (false, i) ∧ chunk b key = []) := by
  obtain ⟨pre, post, rfl, hpre, ⟨c, rest, rfl, hk, _, hs⟩ | ⟨hpost, hs⟩⟩ := search_spec b key h.1
  · exact Or.inl ⟨pre, c, rest, rfl, hs, hk, hk ▸ chunk_of_mem _ h c (by simp)⟩
  · refine Or.inr ⟨_, hs, chunk_nil_of_ne fun d hd => ?_⟩
    rcases List.mem_append.mp hd with hd | hd
    · exact Nat.ne_of_lt (hpre d hd)
    · exact Nat.ne_of_gt (hpost d hd)

theorem modifyAt_append {α : Type} (pre : Bitmap) (c : Container) (rest : Bitmap) (f : Container → Container × α)
    (d : α) : modifyAt (pre ++ c :: rest) pre.length f d = (pre ++ (f c).1 :: rest, (f c).2) := by
  simp [modifyAt]

/-- `find_container_by_key` followed by an update in place; the index is in range, `dflt` is never used -/
def findModify {α : Type} (key : Nat) (g : Container → Container × α) (dflt : α) (b : Bitmap) : Bitmap × α :=
  modifyAt (findContainerByKey b key).1 (findContainerByKey b key).2 g dflt

/-- `find_container_by_key` returns the directory with a chunk `c0` for `key` in place, the one that was there or a
    fresh empty one, and its index -/
theorem Dir.findContainerByKey {b : Bitmap} (h : b.Dir) (key : Nat) :
    ∃ pre c0 r, findContainerByKey b key = (pre ++ c0 :: r, pre.length) ∧ (∀ d ∈ pre, d.key < key) ∧
      c0.key = key ∧ (∀ d ∈ r, key < d.key) ∧ (b = pre ++ c0 :: r ∨ b = pre ++ r ∧ c0 = Container.new key) := by
  unfold Bitmap.findContainerByKey
  obtain ⟨pre, post, rfl, hpre, ⟨c, rest, rfl, hk, hr, hs⟩ | ⟨hr, hs⟩⟩ := search_spec b key h.1
  · rw [hs]
    exact ⟨pre, c, rest, rfl, hpre, hk, hr, Or.inl rfl⟩
  · rw [hs]
    simp only [List.take_left', List.drop_left']
    exact ⟨pre, Container.new key, post, rfl, hpre, rfl, hr, Or.inr ⟨rfl, rfl⟩⟩

/-- the (possibly empty) container `find_container_by_key` leaves behind is found again -/
theorem findModify_find {α : Type} (key : Nat) (g : Container → Container × α) (dflt : α) (b : Bitmap) (h : b.Dir) :
    findModify key g dflt (findContainerByKey b key).1 = findModify key g dflt b := by
  obtain ⟨pre, c0, r, e, hpre, rfl, _, _⟩ := h.findContainerByKey key
  have : findContainerByKey (pre ++ c0 :: r) c0.key = (pre ++ c0 :: r, pre.length) := by
    unfold Bitmap.findContainerByKey
    rw [search_hit pre c0 r hpre]
  unfold findModify
  rw [e, this]

/-- what `findModify` does to the directory: `g` is applied to the chunk `c0` with key `key` (a fresh empty one if
    the key was absent), nothing else changes -/
theorem findModify_spec {α : Type} (key : Nat) (hkey : key < 65536) (g : Container → Container × α) (dflt : α)
    (hg : ∀ c, c.key = key → c.store.Canon → (g c).1.key = key ∧ (g c).1.store.Canon) (b : Bitmap) (hdir : b.Dir) :
      ∃ c0, c0.key = key ∧ c0.store.Canon ∧ c0.store.elems = chunk b key ∧
        (findModify key g dflt b).2 = (g c0).2 ∧ (findModify key g dflt b).1.Dir ∧
        (∀ k, chunk (findModify key g dflt b).1 k = if k = key then (g c0).1.store.elems else chunk b k) ∧
        (b.WF → (g c0).1.store.elems ≠ [] → (findModify key g dflt b).1.WF) := by
  obtain ⟨pre, c0, r, e, hpre, hk, hr, hb⟩ := hdir.findContainerByKey key
  have hfm : findModify key g dflt b = (pre ++ (g c0).1 :: r, (g c0).2) := by
    unfold findModify
    rw [e]
    exact modifyAt_append ..
  have hne : ∀ d ∈ pre, d.key ≠ key := fun d hd => Nat.ne_of_lt (hpre d hd)
  -- what is known of `c0` and of the other chunks, in both cases
  have hc0 : c0.store.Canon ∧ c0.store.elems = chunk b key ∧ (pre ++ r).Sublist b ∧
      ∀ k, k ≠ key → chunk b k = chunk (pre ++ r) k := by
    rcases hb with rfl | ⟨rfl, rfl⟩
    · exact ⟨(hdir.2 c0 (by simp)).2, by rw [chunk_append_of_ne hne, chunk_cons_eq _ _ _ hk],
        List.Sublist.append_left (List.sublist_cons_self ..) _,
        fun k hkk => chunk_append_cons_ne (fun e => hkk (e.symm.trans hk))⟩
    · exact ⟨Container.new_canon key, by
        rw [chunk_nil_of_ne fun d hd => (List.mem_append.mp hd).elim (hne d) (fun h => Nat.ne_of_gt (hr d h))]
        rfl, List.Sublist.refl _, fun _ _ => rfl⟩
  obtain ⟨cn0, e0, hsub, hch⟩ := hc0
  obtain ⟨g1, g2⟩ := hg c0 hk cn0
  rw [hfm]
  have hd := (hdir.sublist hsub).insert (g1 ▸ hpre) (g1 ▸ hr) (g1 ▸ hkey) g2
  refine ⟨c0, hk, cn0, e0, rfl, hd, fun k => ?_, fun hw hne => wf_of_dir _ hd fun d hd => ?_⟩
  · by_cases hkk : k = key
    · rw [if_pos hkk, hkk, chunk_append_of_ne hne, chunk_cons_eq _ _ _ g1]
    · rw [if_neg hkk, hch k hkk, chunk_append_cons_ne (fun e => hkk (e.symm.trans g1))]
  · rcases List.mem_append.mp hd with hd | hd
    · exact hw.ne d (hsub.subset (List.mem_append_left _ hd))
    · rcases List.mem_cons.mp hd with rfl | hd
      · exact hne
      · exact hw.ne d (hsub.subset (List.mem_append_right _ hd))

end Bitmap
end Roaring
