import RoaringModel.SafeTreemapIter
import RoaringModel.Lemmas.SafeLemmas
/-!
# `TIter.Safe_advanceTo` / `Safe_advanceBackTo` hold at every iterator state, for every `u64` argument

The `BTreeMap::range` bounds are ordered because of the comparisons that guard the calls; `split` is lossless for a
`u64`.  No iterator invariant is needed.
-/
namespace Roaring
namespace TIter

theorem PIter.safe_advanceTo (p : PIter) (k : Nat) : p.Safe_advanceTo k := by
  unfold PIter.Safe_advanceTo
  split
  · split
    · exact Nat.le_refl _
    · rename_i h
      split
      · exact Nat.le_of_not_lt h
      · trivial
  · trivial

theorem PIter.safe_advanceBackTo (p : PIter) (k : Nat) : p.Safe_advanceBackTo k := by
  unfold PIter.Safe_advanceBackTo
  split
  · split
    · exact Nat.le_refl _
    · rename_i h
      split
      · exact Nat.le_of_not_lt h
      · trivial
  · trivial

/-- the early returns of `advance_to` / `advance_back_to` have nothing to check -/
theorem ite_True {c : Prop} [Decidable c] {p : Prop} (h : p) : if c then True else p :=
  (Decidable.em c).elim (fun hc => if_pos hc ▸ trivial) (fun hc => if_neg hc ▸ h)

theorem Iter.safe_advanceTo {K : Inner} (it : Iter K) (n : Nat) (hn : n < 2^64) : it.Safe_advanceTo n := by
  refine ⟨Treemap.safe_split n hn, ?_⟩
  cases it.front with
  | none => exact PIter.safe_advanceTo _ _
  | some f => exact ite_True (ite_True (PIter.safe_advanceTo _ _))

theorem Iter.safe_advanceBackTo {K : Inner} (it : Iter K) (n : Nat) (hn : n < 2^64) : it.Safe_advanceBackTo n := by
  refine ⟨Treemap.safe_split n hn, ?_⟩
  cases it.back with
  | none => exact PIter.safe_advanceBackTo _ _
  | some b => exact ite_True (ite_True (PIter.safe_advanceBackTo _ _))

end TIter
end Roaring
