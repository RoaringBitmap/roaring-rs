import RoaringModel.Lemmas.BIterLemmas
import RoaringModel.Lemmas.IterDefs
import RoaringModel.Lemmas.ArrFacts
/-!
# C03: the container-level kernel `cKernel : CKernel`

Instantiates the interface used by the bitmap-level proofs with the two kinds of store iterator:
the slice window (`slice::Iter` / `vec::IntoIter` + `partition_point`) and `BitmapIter`.
-/
namespace Roaring

/-! ### `BitmapIter`: the std default `nth` -/
namespace BIter

theorem nth_cursor (n : Nat) (it : BIter) (hi : it.OK) :
    (it.nth n).2 = it.rem[n]? ∧ (it.nth n).1.rem = it.rem.drop (n + 1) ∧ (it.nth n).1.OK := by
  induction n generalizing it with
  | zero =>
    obtain ⟨h1, h2, h3⟩ := next_cursor it hi
    exact ⟨h1.trans List.head?_eq_getElem?, h2.trans List.drop_one.symm, h3⟩
  | succ n ih =>
    obtain ⟨h1, h2, h3⟩ := next_cursor it hi
    rw [nth]
    cases hr : it.next with
    | mk it' r =>
      rw [hr] at h1 h2 h3
      cases hrem : it.rem with
      | nil =>
        rw [hrem] at h1 h2
        cases h1
        exact ⟨rfl, h2, h3⟩
      | cons a l =>
        rw [hrem] at h1 h2
        cases h1
        obtain ⟨i1, i2, i3⟩ := ih it' h3
        rw [h2] at i1 i2
        exact ⟨i1, i2, i3⟩

end BIter

namespace SIter

theorem rem_lt (s : SIter) (hs : s.Inv) : ∀ x ∈ s.rem, x < 65536 := by
  cases s with
  | array w => exact hs.2
  | bitmap it => exact BIter.rem_lt it hs.ok

theorem rem_sorted (s : SIter) (hs : s.Inv) : SortedLt s.rem := by
  cases s with
  | array w => exact hs.1
  | bitmap it => exact BIter.rem_sorted it hs.ok

theorem next_spec (s : SIter) (hs : s.Inv) :
    s.next.2 = s.rem.head? ∧ s.next.1.rem = s.rem.tail ∧ s.next.1.Inv := by
  cases s with
  | array w =>
    refine ⟨rfl, rfl, hs.1.sublist (List.tail_sublist w), ?_⟩
    intro x hx; exact hs.2 x (List.mem_of_mem_tail hx)
  | bitmap it => exact (BIter.next_cursor it hs.ok).imp_right (.imp_right BIter.OK.inv)

theorem nextBack_spec (s : SIter) (hs : s.Inv) :
    s.nextBack.2 = s.rem.getLast? ∧ s.nextBack.1.rem = s.rem.dropLast ∧ s.nextBack.1.Inv := by
  cases s with
  | array w =>
    refine ⟨rfl, rfl, hs.1.sublist (List.dropLast_sublist w), ?_⟩
    intro x hx; exact hs.2 x ((List.dropLast_sublist w).subset hx)
  | bitmap it => exact (BIter.nextBack_cursor it hs.ok).imp_right (.imp_right BIter.OK.inv)

theorem nth_spec (s : SIter) (n : Nat) (hs : s.Inv) :
    (s.nth n).2 = s.rem[n]? ∧ (s.nth n).1.rem = s.rem.drop (n + 1) ∧ (s.nth n).1.Inv := by
  cases s with
  | array w =>
    refine ⟨rfl, rfl, hs.1.sublist (List.drop_sublist _ w), ?_⟩
    intro x hx; exact hs.2 x (List.mem_of_mem_drop hx)
  | bitmap it => exact (BIter.nth_cursor n it hs.ok).imp_right (.imp_right BIter.OK.inv)

theorem advanceTo_array (w : List Nat) (i : Nat) :
    SIter.advanceTo (.array w) i = .array (w.drop (w.takeWhile (fun j => decide (j < i))).length) := by
  simp only [advanceTo, Win.partitionPoint]
  split
  · rename_i h; rw [h]; rfl
  · rename_i k h; rw [h]; rfl

theorem advanceTo_spec (s : SIter) (i : Nat) (hs : s.Inv) :
    (s.advanceTo i).rem = s.rem.filter (fun x => decide (i ≤ x)) ∧ (s.advanceTo i).Inv := by
  cases s with
  | array w =>
    rw [advanceTo_array]
    show w.drop _ = _ ∧ SIter.Inv (.array (w.drop _))
    rw [Arr.drop_takeWhile_lt w hs.1 i]
    exact ⟨rfl, Arr.sorted_filter hs.1 _, fun x hx => hs.2 x (List.mem_filter.mp hx).1⟩
  | bitmap it => exact (BIter.advanceTo_cursor it hs.ok i).imp_right BIter.OK.inv

theorem advanceBackTo_array (w : List Nat) (i : Nat) :
    SIter.advanceBackTo (.array w) i = .array (w.takeWhile (fun j => decide (j ≤ i))) := by
  have hle : (w.takeWhile (fun j => decide (j ≤ i))).length ≤ w.length := (List.takeWhile_sublist _).length_le
  have htk : w.take (w.takeWhile (fun j => decide (j ≤ i))).length = w.takeWhile (fun j => decide (j ≤ i)) :=
    (List.prefix_iff_eq_take.mp (List.takeWhile_prefix _)).symm
  simp only [advanceBackTo, Win.partitionPoint]
  split
  · next h => rw [← htk, List.take_of_length_le (Nat.le_of_sub_eq_zero h)]
  · next k h =>
    have hk : k < w.length := Nat.lt_of_lt_of_le (Nat.lt_succ_self k) (h ▸ Nat.sub_le _ _)
    simp only [Win.nthBack, hk, ↓reduceIte]
    rw [← Nat.succ_eq_add_one, ← h, Nat.sub_sub_self hle, htk]

theorem advanceBackTo_spec (s : SIter) (i : Nat) (hs : s.Inv) :
    (s.advanceBackTo i).rem = s.rem.filter (fun x => decide (x ≤ i)) ∧ (s.advanceBackTo i).Inv := by
  cases s with
  | array w =>
    rw [advanceBackTo_array]
    show w.takeWhile _ = _ ∧ SIter.Inv (.array (w.takeWhile _))
    rw [Arr.takeWhile_eq_filter w hs.1 _ (Arr.le_initial i)]
    exact ⟨rfl, Arr.sorted_filter hs.1 _, fun x hx => hs.2 x (List.mem_filter.mp hx).1⟩
  | bitmap it => exact (BIter.advanceBackTo_cursor it hs.ok i).imp_right BIter.OK.inv

theorem sizeHint_spec (s : SIter) (hs : s.Inv) : s.sizeHint = (s.rem.length, some s.rem.length) := by
  cases s with
  | array w => rfl
  | bitmap it => simp only [sizeHint, SIter.rem, BIter.sizeHint_exact it hs.ok]

theorem count_spec (s : SIter) (hs : s.Inv) : s.count = s.rem.length := by
  cases s with
  | array w => rfl
  | bitmap it => simp only [count, BIter.count, SIter.rem, BIter.sizeHint_exact it hs.ok]

theorem ofStore_spec (st : Store) (h : st.IterOK) :
    (ofStore st).Inv ∧ (ofStore st).rem = st.elems ∧ st.len = st.elems.length := by
  cases st with
  | array v => exact ⟨h, rfl, rfl⟩
  | bitmap b =>
    obtain ⟨hl, hw, hlen⟩ := h
    refine ⟨BIter.new_inv b.bits hw, BIter.new_rem b.bits hl hw, ?_⟩
    show b.len = (BStore.toArrayFrom 0 b.bits).length
    rw [BStore.length_toArrayFrom b.bits hw 0, hlen]

end SIter

theorem join_eq (k : Nat) : Bitmap.join k = fun i => k * 65536 + i := rfl

theorem cKernel : CKernel where
  next := by
    intro c hc
    obtain ⟨h1, h2, h3⟩ := SIter.next_spec c.inner hc
    refine ⟨?_, ?_, h3, rfl⟩
    · simp only [CIter.next, CIter.rem, h1, List.head?_map, join_eq]
    · simp only [CIter.next, CIter.rem, h2, List.map_tail]
  nextBack := by
    intro c hc
    obtain ⟨h1, h2, h3⟩ := SIter.nextBack_spec c.inner hc
    refine ⟨?_, ?_, h3, rfl⟩
    · simp only [CIter.nextBack, CIter.rem, h1, List.getLast?_map, join_eq]
    · simp only [CIter.nextBack, CIter.rem, h2, List.map_dropLast]
  nth := by
    intro c n hc
    obtain ⟨h1, h2, h3⟩ := SIter.nth_spec c.inner n hc
    refine ⟨?_, ?_, h3, rfl⟩
    · simp only [CIter.nth, CIter.rem, h1, List.getElem?_map, join_eq]
    · simp only [CIter.nth, CIter.rem, h2, List.map_drop]
  advanceTo := by
    intro c i hc _
    obtain ⟨h1, h2⟩ := SIter.advanceTo_spec c.inner i hc
    refine ⟨?_, h2, rfl⟩
    simp only [CIter.advanceTo, CIter.rem, h1, List.filter_map, Function.comp_def, Nat.add_le_add_iff_left]
  advanceBackTo := by
    intro c i hc _
    obtain ⟨h1, h2⟩ := SIter.advanceBackTo_spec c.inner i hc
    refine ⟨?_, h2, rfl⟩
    simp only [CIter.advanceBackTo, CIter.rem, h1, List.filter_map, Function.comp_def, Nat.add_le_add_iff_left]
  sizeHint := by
    intro c hc
    simp only [CIter.sizeHint, SIter.sizeHint_spec c.inner hc, CIter.rem, List.length_map]
  count := by
    intro c hc
    simp only [CIter.count, SIter.count_spec c.inner hc, CIter.rem, List.length_map]
  rem_hi := by
    intro c hc x hx
    simp only [CIter.rem, List.mem_map] at hx
    obtain ⟨j, hj, rfl⟩ := hx
    rw [Nat.add_comm, Nat.add_mul_div_right _ _ (by decide), Nat.div_eq_of_lt (SIter.rem_lt c.inner hc j hj),
      Nat.zero_add]
  rem_sorted := by
    intro c hc
    simp only [CIter.rem, SortedLt, List.pairwise_map]
    exact (SIter.rem_sorted c.inner hc).imp fun h => Nat.add_lt_add_left h _
  ofContainer := by
    intro c hc
    obtain ⟨h1, h2, h3⟩ := SIter.ofStore_spec c.store hc
    refine ⟨h1, ?_, ?_⟩
    · simp only [CIter.rem, CIter.ofContainer, h2, Container.elems]
    · simp only [Container.len, h3, Container.elems, List.length_map]

end Roaring
#print axioms Roaring.cKernel
