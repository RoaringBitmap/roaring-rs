import RoaringModel.SpecIter
/-!
# Facts about the cursor specification alone: the exhausted cursor; draining from the front / from the back
-/
namespace Roaring
namespace Spec
namespace Cursor

/-- an exhausted cursor stays exhausted under every call -/
theorem step_nil (op : ItOp) : (Cursor.step [] op).1 = [] := by
  cases op with
  | nth n => exact congrArg List.tail List.drop_nil
  | nthBack n => exact congrArg List.dropLast List.take_nil
  | _ => rfl

/-- `k` calls of `next` yield the first `k` remaining elements in order (then `None` for ever) -/
theorem run_next (k : Nat) : ∀ (c : Cursor),
    Cursor.run c (List.replicate k .next) = (c.drop k, (List.range k).map (fun i => ItOut.item c[i]?)) := by
  induction k with
  | zero => intro c; rfl
  | succ k ih =>
    intro c
    show ((Cursor.run c.tail (List.replicate k .next)).1,
        ItOut.item c.head? :: (Cursor.run c.tail (List.replicate k .next)).2) = _
    rw [ih, List.range_succ_eq_map, List.map_cons, List.map_map]
    cases c with
    | nil => simp
    | cons a l => rfl

/-- draining from the back is draining the reversed cursor from the front -/
theorem run_nextBack_reverse (k : Nat) (c : Cursor) :
    Cursor.run c (List.replicate k .nextBack) =
      ((Cursor.run c.reverse (List.replicate k .next)).1.reverse, (Cursor.run c.reverse (List.replicate k .next)).2) := by
  induction k generalizing c with
  | zero => exact congrArg (·, []) (List.reverse_reverse c).symm
  | succ k ih =>
    show ((Cursor.run c.dropLast (List.replicate k .nextBack)).1,
        ItOut.item c.getLast? :: (Cursor.run c.dropLast (List.replicate k .nextBack)).2) =
      ((Cursor.run c.reverse.tail (List.replicate k .next)).1.reverse,
        ItOut.item c.reverse.head? :: (Cursor.run c.reverse.tail (List.replicate k .next)).2)
    rw [ih, List.tail_reverse, List.head?_reverse]

/-- `k` calls of `next_back` yield the last `k` remaining elements in descending order -/
theorem run_nextBack (k : Nat) : ∀ (c : Cursor),
    Cursor.run c (List.replicate k .nextBack) =
      (c.take (c.length - k), (List.range k).map (fun i => ItOut.item c.reverse[i]?)) := by
  intro c
  rw [run_nextBack_reverse, run_next, List.drop_reverse, List.reverse_reverse]

end Cursor
end Spec
end Roaring
