import RoaringModel.Lemmas.BStoreBasic
import RoaringModel.Lemmas.Radix
import RoaringModel.Lemmas.BIterDefs
/-!
# Cursor lemmas of the `BitmapIter` model

Every method of `BIter` is characterised on the abstraction `BIter.rem` (the ascending list of the values
still to be yielded) and preserves `BIter.OK`.  `OK` has the fields of C03's `BIter.Inv` (`IterDefs.lean`); it is stated
here under a name of its own because C15 (`UnsafeIter.lean`) has another `BIter.Inv`, so that both properties can
use this file:

* `next`          = `(head?, tail)`
* `nextBack`      = `(getLast?, dropLast)`
* `advanceTo n`   = `filter (n ≤ ·)`
* `advanceBackTo n` = `filter (· ≤ n)`
* `sizeHint`      = `length`
-/
namespace Roaring

namespace BIter
open BStore (word)

/-- what every `BitmapIter` reached from `new` over `u64` words satisfies -/
structure OK (it : BIter) : Prop where
  v : it.value < 2^64
  vb : it.valueBack < 2^64
  ws : ∀ k, word it.bits k < 2^64
  /-- "if key_back <= key, current back value is actually in `value`" -/
  live : it.keyBack ≤ it.key → it.keyBack = it.key ∨ it.value = 0
  kb : it.keyBack ≤ 1023

/-! ### the words strictly between the two cursors -/

theorem between_eq_nil {bits : List Nat} {k kb : Nat} (h : ∀ i, k < i → i < kb → word bits i = 0) :
    between bits k kb = [] := by
  unfold between
  rw [List.flatMap_eq_nil_iff]
  intro i hi
  rw [List.mem_range'_1] at hi
  rw [h i (by omega) (by omega), bitsOf_zero]

theorem between_nil_of_find_none (bits : List Nat) (k kb : Nat)
    (h : (List.range' (k+1) (kb - k - 1)).find? (fun j => word bits j != 0) = none) :
    between bits k kb = [] :=
  between_eq_nil fun i h1 h2 => by simpa using List.find?_range'_eq_none.mp h i (by omega) (by omega)

theorem between_split (bits : List Nat) (k j kb : Nat) (h1 : k < j) (h2 : j < kb) :
    between bits k kb = between bits k j ++ bitsOf j (word bits j) ++ between bits j kb := by
  unfold between
  have e1 : kb - k - 1 = (j - k - 1) + ((kb - j - 1) + 1) := by
    rw [Nat.sub_sub kb k 1, Nat.sub_sub j k 1, Nat.sub_add_cancel (Nat.sub_pos_of_lt h2),
      Nat.add_comm (j - (k + 1)), Nat.sub_add_sub_cancel (Nat.le_of_lt h2) (show k + 1 ≤ j from h1)]
  rw [e1, ← List.range'_append_1, Nat.sub_sub j k 1, Nat.add_sub_of_le h1, List.range'_succ, List.flatMap_append,
    List.flatMap_cons, List.append_assoc]

/-- the first non-zero word strictly between the cursors, and nothing before it -/
theorem between_nil_prefix_of_find (bits : List Nat) (k j kb : Nat)
    (h : (List.range' (k+1) (kb - k - 1)).find? (fun i => word bits i != 0) = some j) :
    k < j ∧ j < kb ∧ word bits j ≠ 0 ∧ between bits k j = [] := by
  obtain ⟨hp, hmem, hlt⟩ := List.find?_range'_eq_some.mp h
  rw [List.mem_range'_1] at hmem
  exact ⟨by omega, by omega, by simpa using hp,
    between_eq_nil fun i h1 h2 => by simpa using hlt i (by omega) h2⟩

theorem between_last (bits : List Nat) (k kb : Nat) (h : k + 1 < kb) :
    between bits k kb = between bits k (kb - 1) ++ bitsOf (kb - 1) (word bits (kb - 1)) := by
  rw [between_split bits k (kb - 1) kb (Nat.lt_sub_of_add_lt h) (Nat.sub_one_lt (Nat.ne_of_gt (Nat.zero_lt_of_lt h))),
    between_eq_nil (k := kb - 1) (kb := kb) fun i h1 h2 => absurd h2 (Nat.not_lt.2 (Nat.le_of_pred_lt h1)),
    List.append_nil]

theorem between_adjacent (bits : List Nat) (k : Nat) : between bits k (k+1) = [] :=
  between_eq_nil fun i h1 h2 => by omega

theorem bitsOf_div {k w x : Nat} (h : x ∈ bitsOf k w) : x / 64 = k := ((Word.mem_bitsOf k w x).1 h).1

theorem between_div {bits : List Nat} {k kb x : Nat} (h : x ∈ between bits k kb) : k < x / 64 ∧ x / 64 < kb := by
  unfold between at h
  rw [List.mem_flatMap] at h
  obtain ⟨j, hj, hx⟩ := h
  rw [List.mem_range'_1] at hj
  rw [bitsOf_div hx]
  omega

/-- every remaining value lies in a word from the front cursor's to the back cursor's -/
theorem rem_div {it : BIter} (hi : it.OK) {x : Nat} (hx : x ∈ it.rem) : it.key ≤ x / 64 ∧ x / 64 ≤ it.keyBack := by
  unfold BIter.rem at hx
  split at hx
  · next hk =>
    simp only [List.mem_append] at hx
    rcases hx with (hx | hx) | hx
    · rw [bitsOf_div hx]; exact ⟨Nat.le_refl _, Nat.le_of_lt hk⟩
    · exact ⟨Nat.le_of_lt (between_div hx).1, Nat.le_of_lt (between_div hx).2⟩
    · rw [bitsOf_div hx]; exact ⟨Nat.le_of_lt hk, Nat.le_refl _⟩
  · next hk =>
    rcases hi.live (Nat.not_lt.mp hk) with h | h
    · rw [bitsOf_div hx, h]; exact ⟨Nat.le_refl _, Nat.le_refl _⟩
    · rw [h, bitsOf_zero] at hx; cases hx

theorem next_cursor (it : BIter) (hi : it.OK) :
    it.next.2 = it.rem.head? ∧ it.next.1.rem = it.rem.tail ∧ it.next.1.OK := by
  fun_cases BIter.next it with
  | case1 hv =>
    have hstep := bitsOf_step it.key it.value hv hi.v
    simp only [BIter.emit]
    refine ⟨?_, ?_, popLow_lt _ hi.v, hi.vb, hi.ws, fun h => (hi.live h).imp_right fun h' => absurd h' hv, hi.kb⟩
    · unfold BIter.rem; split <;> simp [hstep]
    · unfold BIter.rem; simp only []; split <;> simp [hstep]
  | case2 hv hk =>
    simp only [BIter.rem, Nat.not_lt.mpr hk, ↓reduceIte, Decidable.of_not_not hv, bitsOf_zero]
    exact ⟨rfl, rfl, hi⟩
  | case3 hv hk j hfind =>
    -- the first non-zero word strictly between the cursors becomes the front word
    obtain ⟨h1, h2, h3, h4⟩ := between_nil_prefix_of_find it.bits it.key j it.keyBack hfind
    simp only [BIter.emit, BIter.rem, Nat.not_le.mp hk, h2, ↓reduceIte, Decidable.of_not_not hv, bitsOf_zero,
      List.nil_append]
    rw [between_split it.bits it.key j it.keyBack h1 h2, h4, bitsOf_step j _ h3 (hi.ws j), List.nil_append]
    exact ⟨rfl, rfl, popLow_lt _ (hi.ws j), hi.vb, hi.ws, fun h => absurd h (Nat.not_le.mpr h2), hi.kb⟩
  | case4 hv hk hfind it' hvb =>
    -- all of them are zero: the back word becomes the front word
    have hb := between_nil_of_find_none it.bits it.key it.keyBack hfind
    simp only [it', BIter.rem, Nat.not_le.mp hk, Nat.lt_irrefl, ↓reduceIte, Decidable.of_not_not hv, bitsOf_zero, hb,
      List.nil_append] at hvb ⊢
    rw [hvb, bitsOf_zero]
    exact ⟨rfl, rfl, Nat.two_pow_pos 64, Nat.two_pow_pos 64, hi.ws, fun _ => Or.inl rfl, hi.kb⟩
  | case5 hv hk hfind it' hvb =>
    have hb := between_nil_of_find_none it.bits it.key it.keyBack hfind
    simp only [it', BIter.emit, BIter.rem, Nat.not_le.mp hk, Nat.lt_irrefl, ↓reduceIte, Decidable.of_not_not hv,
      bitsOf_zero, hb, List.nil_append] at hvb ⊢
    rw [bitsOf_step it.keyBack it.valueBack hvb hi.vb]
    exact ⟨rfl, rfl, popLow_lt _ hi.vb, hi.vb, hi.ws, fun _ => Or.inl rfl, hi.kb⟩

theorem nextBack_cursor (it : BIter) (hi : it.OK) :
    it.nextBack.2 = it.rem.getLast? ∧ it.nextBack.1.rem = it.rem.dropLast ∧ it.nextBack.1.OK := by
  fun_induction BIter.nextBack it with
  | case1 it hk hv =>
    -- the live word is `value`, and it is empty
    simp only [BIter.rem, Nat.not_lt.mpr hk, ↓reduceIte, hv, bitsOf_zero]
    exact ⟨rfl, rfl, hi⟩
  | case2 it hk hv =>
    have hkey : it.keyBack = it.key := (hi.live hk).resolve_right hv
    simp only [BIter.rem, Nat.not_lt.mpr hk, ↓reduceIte]
    rw [bitsOf_step_back it.key it.value hv hi.v, hkey]
    exact ⟨List.getLast?_concat.symm, List.dropLast_concat.symm,
      popHigh_lt _ hi.v, hi.vb, hi.ws, fun _ => Or.inl rfl, hkey ▸ hi.kb⟩
  | case3 it hk hvb ih =>
    have hk' : it.key < it.keyBack := Nat.not_le.mp hk
    -- stepping the back cursor over an empty word leaves the remaining values as they are
    have hinv' : BIter.OK { it with keyBack := it.keyBack - 1, valueBack := word it.bits (it.keyBack - 1) } :=
      ⟨hi.v, hi.ws _, hi.ws, fun h => Or.inl (Nat.le_antisymm h (Nat.le_sub_one_of_lt hk')),
        Nat.le_trans (Nat.sub_le _ _) hi.kb⟩
    have hrem : BIter.rem { it with keyBack := it.keyBack - 1, valueBack := word it.bits (it.keyBack - 1) } = it.rem := by
      simp only [BIter.rem, hk', ↓reduceIte, hvb, bitsOf_zero, List.append_nil]
      by_cases hadj : it.key + 1 < it.keyBack
      · rw [if_pos (Nat.lt_sub_of_add_lt hadj), between_last it.bits it.key it.keyBack hadj, List.append_assoc]
      · have hkb : it.keyBack = it.key + 1 := Nat.le_antisymm (Nat.not_lt.mp hadj) hk'
        rw [hkb, Nat.add_sub_cancel, if_neg (Nat.lt_irrefl _), between_adjacent, List.append_nil]
    rw [← hrem]
    exact ih hinv'
  | case4 it hk hvb =>
    have hk' : it.key < it.keyBack := Nat.not_le.mp hk
    simp only [BIter.rem, hk', ↓reduceIte]
    rw [bitsOf_step_back it.keyBack it.valueBack hvb hi.vb, ← List.append_assoc]
    exact ⟨List.getLast?_concat.symm, List.dropLast_concat.symm,
      hi.v, popHigh_lt _ hi.vb, hi.ws, fun h => absurd h hk, hi.kb⟩

/-! ### `advanceTo` and `advanceBackTo`

Both discard whole words on one side of word `n / 64` and mask that word itself; what is left of `rem` is
found word by word from the quotients `x / 64` of its values. -/

theorem bitsOf_div_lt {k m : Nat} (w : Nat) (h : k < m) : ∀ x ∈ bitsOf k w, x / 64 < m := by
  intro x hx; rw [bitsOf_div hx]; exact h
theorem bitsOf_div_gt {k m : Nat} (w : Nat) (h : m < k) : ∀ x ∈ bitsOf k w, m < x / 64 := by
  intro x hx; rw [bitsOf_div hx]; exact h
theorem between_div_lt {kb m : Nat} (bits : List Nat) (k : Nat) (h : kb ≤ m) :
    ∀ x ∈ between bits k kb, x / 64 < m :=
  fun _ hx => Nat.lt_of_lt_of_le (between_div hx).2 h
theorem between_div_gt {k m : Nat} (bits : List Nat) (kb : Nat) (h : m ≤ k) :
    ∀ x ∈ between bits k kb, m < x / 64 :=
  fun _ hx => Nat.lt_of_le_of_lt h (between_div hx).1

theorem bitsOf_maskGE_div (w n : Nat) :
    bitsOf (n / 64) (w &&& not64 ((1 <<< (n % 64)) - 1)) = (bitsOf (n / 64) w).filter (fun x => decide (n ≤ x)) := by
  rw [bitsOf_maskGE _ _ _ (Nat.mod_lt _ (by decide)), Nat.div_add_mod]

theorem bitsOf_maskLE_div (w n : Nat) :
    bitsOf (n / 64) (w &&& shrMax' (n % 64)) = (bitsOf (n / 64) w).filter (fun x => decide (x ≤ n)) := by
  rw [bitsOf_maskLE _ _ _ (Nat.mod_lt _ (by decide)), Nat.div_add_mod]

theorem advanceTo_cursor (it : BIter) (hi : it.OK) (n : Nat) :
    (it.advanceTo n).rem = it.rem.filter (fun x => decide (n ≤ x)) ∧ (it.advanceTo n).OK := by
  have hdiv := @rem_div it hi
  obtain ⟨k, v, kb, vb, bits⟩ := it
  obtain ⟨hv, hvb, hws, hlive, hkb⟩ := hi
  simp only [] at hv hvb hws hlive hkb hdiv
  simp only [BIter.advanceTo, wkey, wbit]
  by_cases c1 : n / 64 < k
  · -- the target word is before the front word: nothing to discard
    simp only [c1, ↓reduceIte]
    exact ⟨(Radix.filterGE_keep_of_div_gt 64 fun x hx => Nat.lt_of_lt_of_le c1 (hdiv hx).1).symm, hv, hvb, hws, hlive, hkb⟩
  by_cases c2 : n / 64 = k
  · -- the front word itself: mask it
    subst c2
    simp only [c1, ↓reduceIte]
    refine ⟨?_, and_lt _ _ hv, hvb, hws, fun h => (hlive h).imp_right fun h0 => by simp [h0], hkb⟩
    simp only [BIter.rem]
    split
    · next c' =>
      rw [List.filter_append, List.filter_append, bitsOf_maskGE_div,
        Radix.filterGE_keep_of_div_gt 64 (between_div_gt bits kb (Nat.le_refl _)),
        Radix.filterGE_keep_of_div_gt 64 (bitsOf_div_gt vb c')]
    · exact bitsOf_maskGE_div v n
  have c2' : k < n / 64 := Nat.lt_of_le_of_ne (Nat.le_of_not_lt c1) fun h => c2 h.symm
  by_cases c3 : n / 64 < kb
  · -- a fresh word strictly between the cursors becomes the front word
    simp only [c1, c2, c3, ↓reduceIte]
    refine ⟨?_, and_lt _ _ (hws _), hvb, hws, fun h => absurd c3 (Nat.not_lt.mpr h), hkb⟩
    simp only [BIter.rem, c3, Nat.lt_trans c2' c3, ↓reduceIte]
    rw [between_split bits k (n / 64) kb c2' c3]
    simp only [List.filter_append]
    rw [Radix.filterGE_drop_of_div_lt 64 (bitsOf_div_lt v c2'),
      Radix.filterGE_drop_of_div_lt 64 (between_div_lt bits k (Nat.le_refl _)), bitsOf_maskGE_div,
      Radix.filterGE_keep_of_div_gt 64 (between_div_gt bits kb (Nat.le_refl _)),
      Radix.filterGE_keep_of_div_gt 64 (bitsOf_div_gt vb c3), List.nil_append, List.nil_append]
  by_cases c4 : n / 64 = kb
  · -- the back word becomes the live front word
    subst c4
    simp only [c1, c2, Nat.lt_irrefl, ↓reduceIte]
    refine ⟨?_, and_lt _ _ hvb, hvb, hws, fun _ => Or.inl rfl, hkb⟩
    simp only [BIter.rem, c2', Nat.lt_irrefl, ↓reduceIte, List.filter_append]
    rw [Radix.filterGE_drop_of_div_lt 64 (bitsOf_div_lt v c2'),
      Radix.filterGE_drop_of_div_lt 64 (between_div_lt bits k (Nat.le_refl _)), bitsOf_maskGE_div,
      List.nil_append, List.nil_append]
  · -- past the back cursor: nothing remains
    simp only [c1, c2, c3, c4, ↓reduceIte]
    refine ⟨?_, Nat.two_pow_pos 64, Nat.two_pow_pos 64, hws, fun _ => Or.inl rfl, hkb⟩
    simp only [BIter.rem, Nat.lt_irrefl, ↓reduceIte, bitsOf_zero]
    exact (Radix.filterGE_drop_of_div_lt 64 fun x hx => Nat.lt_of_le_of_lt (hdiv hx).2
      (Nat.lt_of_le_of_ne (Nat.le_of_not_lt c3) fun h => c4 h.symm)).symm

theorem advanceBackTo_cursor (it : BIter) (hi : it.OK) (n : Nat) :
    (it.advanceBackTo n).rem = it.rem.filter (fun x => decide (x ≤ n)) ∧ (it.advanceBackTo n).OK := by
  have hdiv := @rem_div it hi
  obtain ⟨k, v, kb, vb, bits⟩ := it
  obtain ⟨hv, hvb, hws, hlive, hkb⟩ := hi
  simp only [] at hv hvb hws hlive hkb hdiv
  simp only [BIter.advanceBackTo, wkey, wbit]
  by_cases c1 : n / 64 > kb
  · -- the target word is behind the back word: nothing to discard
    simp only [c1, ↓reduceIte]
    exact ⟨(Radix.filterLE_keep_of_div_lt 64 fun x hx => Nat.lt_of_le_of_lt (hdiv hx).2 c1).symm, hv, hvb, hws, hlive, hkb⟩
  by_cases c2 : n / 64 = kb
  · subst c2
    simp only [c1, ↓reduceIte]
    by_cases c3 : n / 64 ≤ k
    · -- the back word is the live word `value`: mask it
      simp only [c3, ↓reduceIte]
      refine ⟨?_, and_lt _ _ hv, hvb, hws, fun h => (hlive h).imp_right fun h0 => by simp [h0], hkb⟩
      simp only [BIter.rem, Nat.not_lt.mpr c3, ↓reduceIte]
      rcases hlive c3 with h | h
      · rw [← h]; exact bitsOf_maskLE_div v n
      · simp [h, bitsOf_zero]
    · -- mask the back word
      have c3' : k < n / 64 := Nat.lt_of_not_le c3
      simp only [c3, ↓reduceIte]
      refine ⟨?_, hv, and_lt _ _ hvb, hws, fun h => absurd h c3, hkb⟩
      simp only [BIter.rem, c3', ↓reduceIte, List.filter_append]
      rw [Radix.filterLE_keep_of_div_lt 64 (bitsOf_div_lt v c3'),
        Radix.filterLE_keep_of_div_lt 64 (between_div_lt bits k (Nat.le_refl _)), bitsOf_maskLE_div]
  have c2' : n / 64 < kb := Nat.lt_of_le_of_ne (Nat.le_of_not_lt c1) c2
  have hkb' : n / 64 ≤ 1023 := Nat.le_trans (Nat.le_of_lt c2') hkb
  by_cases c3 : n / 64 > k
  · -- a fresh word strictly between the cursors becomes the back word
    simp only [c1, c2, c3, ↓reduceIte]
    refine ⟨?_, hv, and_lt _ _ (hws _), hws, fun h => absurd c3 (Nat.not_lt.mpr h), hkb'⟩
    simp only [BIter.rem, c3, Nat.lt_trans c3 c2', ↓reduceIte]
    rw [between_split bits k (n / 64) kb c3 c2']
    simp only [List.filter_append]
    rw [Radix.filterLE_keep_of_div_lt 64 (bitsOf_div_lt v c3),
      Radix.filterLE_keep_of_div_lt 64 (between_div_lt bits k (Nat.le_refl _)), bitsOf_maskLE_div,
      Radix.filterLE_drop_of_div_gt 64 (between_div_gt bits kb (Nat.le_refl _)),
      Radix.filterLE_drop_of_div_gt 64 (bitsOf_div_gt vb c2'), List.append_nil, List.append_nil, List.append_assoc]
  by_cases c4 : n / 64 = k
  · -- the front word becomes the only live word
    subst c4
    simp only [c1, c2, Nat.lt_irrefl, ↓reduceIte]
    refine ⟨?_, and_lt _ _ hv, hvb, hws, fun _ => Or.inl rfl, hkb'⟩
    simp only [BIter.rem, c2', Nat.lt_irrefl, ↓reduceIte, List.filter_append]
    rw [bitsOf_maskLE_div, Radix.filterLE_drop_of_div_gt 64 (between_div_gt bits kb (Nat.le_refl _)),
      Radix.filterLE_drop_of_div_gt 64 (bitsOf_div_gt vb c2'), List.append_nil, List.append_nil]
  · -- before the front cursor: nothing remains
    have c5 : n / 64 < k := Nat.lt_of_le_of_ne (Nat.le_of_not_lt c3) c4
    simp only [c1, c2, c3, c4, ↓reduceIte]
    refine ⟨?_, Nat.two_pow_pos 64, hvb, hws, fun _ => Or.inr rfl, hkb'⟩
    simp only [BIter.rem, Nat.lt_asymm c5, ↓reduceIte, bitsOf_zero]
    exact (Radix.filterLE_drop_of_div_gt 64 fun x hx => Nat.lt_of_lt_of_le c5 (hdiv hx).1).symm

/-! ### `popSum` and `sizeHint` -/

theorem popSum_nil : BStore.popSum [] = 0 := rfl

/-- `to_array_store`'s loop over a slice of the words is the window form `between` is written in (words beyond the end of
    `bits` read as `0` and list nothing) -/
theorem toArrayFrom_window (bits : List Nat) (hw : ∀ w ∈ bits, w < 2^64) : ∀ (n k : Nat),
    BStore.toArrayFrom k ((bits.drop k).take n) = (List.range' k n).flatMap (fun j => bitsOf j (word bits j)) := by
  intro n
  induction n with
  | zero => intro k; rfl
  | succ n ih =>
    intro k
    rw [List.range'_succ, List.flatMap_cons, ← ih (k + 1)]
    by_cases hk : k < bits.length
    · rw [List.drop_eq_getElem_cons hk, List.take_succ_cons, BStore.toArrayFrom_cons _ _ _ (hw _ (List.getElem_mem hk)),
        Mask.word_eq_getElem hk]
    · rw [List.drop_eq_nil_of_le (Nat.le_of_not_lt hk), List.drop_eq_nil_of_le (Nat.le_succ_of_le (Nat.le_of_not_lt hk)),
        Mask.word_of_ge (Nat.le_of_not_lt hk), bitsOf_zero, List.take_nil, List.take_nil]
      rfl

theorem between_eq (bits : List Nat) (hws : ∀ k, word bits k < 2^64) (k kb : Nat) :
    between bits k kb = BStore.toArrayFrom (k + 1) ((bits.drop (k + 1)).take (kb - k - 1)) :=
  (toArrayFrom_window bits (Mask.words_of_word _ fun k _ => hws k) _ _).symm

theorem slice_lt {bits : List Nat} (hws : ∀ k, word bits k < 2^64) (a n : Nat) : ∀ w ∈ (bits.drop a).take n, w < 2^64 :=
  fun w hw => Mask.words_of_word _ (fun k _ => hws k) w (List.mem_of_mem_drop (List.mem_of_mem_take hw))

theorem length_between (bits : List Nat) (hws : ∀ k, word bits k < 2^64) (k kb : Nat) :
    (between bits k kb).length = BStore.popSum ((bits.drop (k + 1)).take (kb - (k + 1))) := by
  rw [between_eq bits hws, BStore.length_toArrayFrom _ (slice_lt hws _ _), Nat.sub_sub]

theorem sizeHint_exact (it : BIter) (hi : it.OK) : it.sizeHint = it.rem.length := by
  unfold BIter.sizeHint BIter.rem
  split
  · simp only [List.length_append, length_bitsOf _ _ hi.v, length_bitsOf _ _ hi.vb,
      length_between it.bits hi.ws]
  · exact (length_bitsOf _ _ hi.v).symm

theorem rem_lt (it : BIter) (hi : it.OK) : ∀ x ∈ it.rem, x < 65536 := by
  intro x hx
  have := (rem_div hi hx).2
  have := hi.kb
  omega

/-- what `next` / `next_back` yield is a `u16`: it is the first / last of the values still to come -/
theorem next_lt (it : BIter) (hi : it.OK) {v : Nat} (h : it.next.2 = some v) : v < 65536 :=
  rem_lt it hi v (List.mem_of_mem_head? ((next_cursor it hi).1 ▸ h))

theorem nextBack_lt (it : BIter) (hi : it.OK) {v : Nat} (h : it.nextBack.2 = some v) : v < 65536 :=
  rem_lt it hi v (List.mem_of_getLast? ((nextBack_cursor it hi).1 ▸ h))

theorem sorted_between (bits : List Nat) (hws : ∀ k, word bits k < 2^64) (k kb : Nat) :
    (between bits k kb).Pairwise (· < ·) :=
  between_eq bits hws k kb ▸ BStore.sorted_toArrayFrom _ (slice_lt hws _ _) _

theorem rem_sorted (it : BIter) (hi : it.OK) : it.rem.Pairwise (· < ·) := by
  unfold BIter.rem
  split
  · rw [List.pairwise_append, List.pairwise_append]
    refine ⟨⟨sorted_bitsOf _ _, sorted_between _ hi.ws _ _, fun a ha b hb => Nat.lt_of_div_lt_div (c := 64) ?_⟩,
      sorted_bitsOf _ _, fun a ha b hb => Nat.lt_of_div_lt_div (c := 64) ?_⟩
    · rw [bitsOf_div ha]; exact (between_div hb).1
    · rw [bitsOf_div hb]
      rcases List.mem_append.mp ha with ha | ha
      · rw [bitsOf_div ha]; assumption
      · exact (between_div ha).2
  · exact sorted_bitsOf _ _

/-! ### `new` and `to_array_store` -/

theorem new_ok (bits : List Nat) (hw : ∀ w ∈ bits, w < 2^64) : (BIter.new bits).OK := by
  unfold BIter.new
  refine ⟨Mask.word_lt hw 0, Mask.word_lt hw 1023, Mask.word_lt hw, ?_, ?_⟩
  · intro h; simp only [] at h; omega
  · exact Nat.le_refl _

theorem new_rem (bits : List Nat) (hl : bits.length = 1024) (hw : ∀ w ∈ bits, w < 2^64) :
    (BIter.new bits).rem = BStore.toArrayFrom 0 bits := by
  have h := toArrayFrom_window bits hw 1024 0
  rw [List.drop_zero, List.take_of_length_le (Nat.le_of_eq hl)] at h
  rw [h]
  have e : List.range' 0 1024 = 0 :: (List.range' 1 1022 ++ [1023]) := by
    have e1 : List.range' 0 1024 = 0 :: List.range' 1 1023 := List.range'_succ ..
    have e2 : List.range' 1 1023 = List.range' 1 1022 ++ [1 + 1022] := List.range'_1_concat ..
    rw [e1, e2]
  rw [e]
  unfold BIter.new BIter.rem between
  simp [List.flatMap_append]

end BIter
end Roaring

#print axioms Roaring.BIter.next_cursor
#print axioms Roaring.BIter.nextBack_cursor
#print axioms Roaring.BIter.advanceTo_cursor
#print axioms Roaring.BIter.advanceBackTo_cursor
#print axioms Roaring.BIter.sizeHint_exact
#print axioms Roaring.BIter.rem_lt
#print axioms Roaring.BIter.rem_sorted
#print axioms Roaring.BIter.new_rem
#print axioms Roaring.BStore.length_toArrayFrom
