import RoaringModel.Lemmas.MiscLsb0Store
import RoaringModel.Lemmas.BitmapMut2
/-!
# C17, assembling the chunks: the aligned body of `RoaringBitmap::from_lsb0_bytes` (inherent.rs:110-169)

The containers are pushed in ascending key order; `Acc` is the loop invariant (the pushed containers are a
well-formed bitmap whose element list is the SPEC list of the bytes consumed so far).  The four quotients of the chunk
split (`/ 65536`, `% 65536 / 8` of the first and the last bit) are replaced by variables as soon as the body is
unfolded: `aligned_split` / `aligned_first` say all that is used of them, as linear facts.
-/
namespace Roaring.MiscLemmas
open Roaring Roaring.Lsb0

/-- inherent.rs:113-121: for a non-empty slice inside the domain none of the three `u64` checks fires, nor does
    the `expect` -/
theorem fits_u32 {off len : Nat} (hlen : 0 < len) (hfit : off + 8 * len ≤ 4294967296) :
    ¬ len > wMax ∧ ¬ len * 8 > wMax ∧ ¬ off + (len * 8 - 1) > wMax ∧ ¬ off + (len * 8 - 1) > u32Max := by
  simp only [wMax, u32Max]
  omega

/-- a run of `len > 0` bytes from byte `o` to byte `m`, in blocks of `B` bytes: the blocks of both ends and the
    positions inside them -/
theorem block_split {B o m len : Nat} (hm : m + 1 = o + len) (hlen : 0 < len) :
    o / B ≤ m / B ∧ o % B + len = B * (m / B - o / B) + (m % B + 1) := by
  have hle : o / B ≤ m / B := Nat.div_le_div_right (Nat.le_of_lt_succ (hm ▸ Nat.lt_add_of_pos_right hlen : o < m + 1))
  refine ⟨hle, Nat.add_left_cancel (n := B * (o / B)) ?_⟩
  rw [← Nat.add_assoc, Nat.div_add_mod, ← Nat.add_assoc, ← Nat.mul_add, Nat.add_sub_cancel' hle, ← Nat.add_assoc,
    Nat.div_add_mod]
  exact hm.symm

/-- bit 7 of byte `m`, as chunk key and as byte position (one past) inside the chunk -/
theorem bit_last (m : Nat) : (8 * m + 7) / 65536 = m / 8192 ∧ ((8 * m + 7) % 65536 + 1) / 8 = m % 8192 + 1 := by
  have h : (8 * m + 7) / 8 = m := Nat.mul_add_div (by decide) m 7
  have h7 : (8 * m + 7) % 8 = 7 := Nat.mul_add_mod 8 m 7
  refine ⟨?_, ?_⟩
  · rw [show 65536 = 8 * 8192 from rfl, ← Nat.div_div_eq_div_mul, h]
  · rw [show 65536 = 8 * 8192 from rfl, Nat.mod_mul, h, h7, Nat.add_right_comm, Nat.add_mul_div_left _ _ (by decide)]
    exact Nat.add_comm _ _

/-- bit 0 of byte `o`, as chunk key and as byte position inside the chunk -/
theorem bit_first (o : Nat) : (8 * o) / 65536 = o / 8192 ∧ (8 * o) % 65536 / 8 = o % 8192 :=
  ⟨Nat.mul_div_mul_left o 8192 (by decide), by
    rw [show 65536 = 8 * 8192 from rfl, Nat.mul_mod_mul_left, Nat.mul_div_cancel_left _ (by decide)]⟩

/-- inherent.rs:123-128: start/end chunk keys and the byte offsets inside them, for a non-empty slice at a
    multiple-of-8 offset inside the domain, as linear facts: the slice starts at byte `so` of chunk `sc` and ends
    just before byte `eo` (one past the last byte, so `1 ≤ eo ≤ 8192`) of chunk `ec`. -/
theorem aligned_split {off len sc so ec eo : Nat} (hal : off % 8 = 0) (hlen : 0 < len)
    (hfit : off + 8 * len ≤ 4294967296)
    (hsc : off / 65536 = sc) (hso : off % 65536 / 8 = so) (hec : (off + (len * 8 - 1)) / 65536 = ec)
    (heo : ((off + (len * 8 - 1)) % 65536 + 1) / 8 = eo) :
    off = sc * 65536 + 8 * so ∧ so < 8192 ∧ 0 < eo ∧ eo ≤ 8192 ∧ sc ≤ ec ∧ ec < 65536 ∧
      so + len = 8192 * (ec - sc) + eo := by
  -- counted in bytes: the slice starts at byte `o` and has `k + 1` bytes, so its last bit is bit 7 of byte `o + k`
  obtain ⟨o, rfl⟩ : ∃ o, off = 8 * o := ⟨off / 8, (Nat.mul_div_cancel' (Nat.dvd_of_mod_eq_zero hal)).symm⟩
  obtain ⟨k, rfl⟩ := Nat.exists_eq_succ_of_ne_zero (Nat.ne_of_gt hlen)
  have hL : 8 * o + ((k + 1) * 8 - 1) = 8 * (o + k) + 7 := by
    rw [Nat.succ_mul k 8, Nat.mul_add, Nat.mul_comm k 8]
    rfl
  rw [hL, (bit_last _).1] at hec
  rw [hL, (bit_last _).2] at heo
  rw [(bit_first o).1] at hsc
  rw [(bit_first o).2] at hso
  subst hsc hso hec heo
  obtain ⟨hle, hsum⟩ := block_split (B := 8192) (Nat.add_assoc o k 1) hlen
  rw [← Nat.mul_add] at hfit
  refine ⟨?_, Nat.mod_lt _ (by decide), Nat.succ_pos _, Nat.mod_lt _ (by decide), hle,
    Nat.div_lt_of_lt_mul (Nat.le_of_mul_le_mul_left (b := 536870912) hfit (by decide)), hsum⟩
  refine (congrArg (8 * ·) (Nat.div_add_mod o 8192)).symm.trans ?_
  rw [Nat.mul_add, ← Nat.mul_assoc, Nat.mul_comm (8 * 8192)]

/-- inherent.rs:131-145: a slice that starts inside chunk `sc` and ends in a later one has a first piece of
    `8192 - so` bytes, which ends at the boundary of chunk `sc + 1`; then full chunks and the last `eo` bytes. -/
theorem aligned_first {off len sc so ec eo : Nat} (h1 : off = sc * 65536 + 8 * so) (h2 : so < 8192)
    (hlt : sc + 1 ≤ ec) (hlen : so + len = 8192 * (ec - sc) + eo) :
    off + 8 * (8192 - so) = (sc + 1) * 65536 ∧ len = (8192 - so) + (8192 * (ec - (sc + 1)) + eo) := by
  obtain ⟨n, rfl⟩ := Nat.exists_eq_add_of_le hlt
  rw [Nat.add_assoc sc, Nat.add_sub_cancel_left, Nat.mul_add, Nat.add_assoc] at hlen
  rw [Nat.add_sub_cancel_left]
  refine ⟨?_, Nat.add_left_cancel (n := so) ?_⟩
  · rw [h1, Nat.add_assoc, ← Nat.mul_add, Nat.add_sub_cancel' (Nat.le_of_lt h2), Nat.add_mul, Nat.one_mul]
  · rw [hlen, ← Nat.add_assoc so, Nat.add_sub_cancel' (Nat.le_of_lt h2)]

def Acc (off : Nat) (consumed : List Nat) (cs : Bitmap) (k : Nat) : Prop :=
  Bitmap.WF cs ∧ (∀ c ∈ cs, c.key < k) ∧ Bitmap.elems cs = Spec.bitsOfBytes off consumed

theorem Acc.init (off k : Nat) : Acc off [] [] k :=
  ⟨⟨List.Pairwise.nil, nofun⟩, nofun, rfl⟩

/-- one `Container::from_lsb0_bytes` + `containers.push`: never panics, keeps the invariant -/
theorem acc_push (dbg : Bool) (off : Nat) (consumed : List Nat) (cs : Bitmap) (k : Nat) (piece : List Nat) (bo : Nat)
    (h : Acc off consumed cs k) (hk : k < 65536) (hb : ∀ b ∈ piece, b < 256) (hfit : bo + piece.length ≤ 8192)
    (hoff : off + 8 * consumed.length = k * 65536 + 8 * bo) :
    ∃ oc, containerFromLsb0 dbg k piece bo = some oc ∧ Acc off (consumed ++ piece) (pushOpt cs oc) (k + 1) := by
  obtain ⟨hwf, hkeys, hmem⟩ := h
  obtain ⟨o, ho, hspec⟩ := storeFromLsb0_spec dbg piece bo hb hfit
  have hkeys' : ∀ c ∈ cs, c.key < k + 1 := fun c hc => Nat.lt_succ_of_lt (hkeys c hc)
  have hE : Spec.bitsOfBytes off (consumed ++ piece)
      = Bitmap.elems cs ++ (Spec.bitsOfBytes (8 * bo) piece).map (k * 65536 + ·) := by
    rw [bitsOfBytes_append, hoff, bitsOfBytes_add, hmem]
  unfold containerFromLsb0
  rw [ho]
  cases o with
  | none => exact ⟨none, rfl, hwf, hkeys', by rw [hE, show Spec.bitsOfBytes (8 * bo) piece = [] from hspec]; exact (List.append_nil _).symm⟩
  | some st =>
    obtain ⟨hst, hel⟩ : st.WF ∧ st.elems = _ := hspec
    exact ⟨some ⟨k, st⟩, rfl, (Bitmap.wf_snoc_iff cs ⟨k, st⟩).2
      ⟨hwf, hkeys, hk, Store.wf_canon st hst, Store.wf_elems_ne st hst⟩,
      List.forall_mem_append.2 ⟨hkeys', List.forall_mem_singleton.2 (Nat.lt_succ_self k)⟩,
      by rw [hE, ← hel]; exact (Bitmap.elems_append _ _).trans (congrArg _ (Bitmap.elems_single _))⟩

theorem Acc.result {off : Nat} {bytes : List Nat} {cs : Bitmap} {k : Nat} (h : Acc off bytes cs k) :
    Bitmap.WF cs ∧ Bitmap.elems cs = Spec.bitsOfBytes off bytes := ⟨h.1, h.2.2⟩

/-- inherent.rs:147-167: the loop over `n` full chunks, then the last piece (at most one chunk, possibly empty).
    Nothing is asked of `k` when no byte is left (a slice that ended inside the first chunk). -/
theorem tail_spec (dbg : Bool) (off ec : Nat) (hec : ec < 65536) :
    ∀ (n k : Nat) (consumed : List Nat) (cs : Bitmap) (rest : List Nat) (r : Nat),
    Acc off consumed cs k → (rest ≠ [] → off + 8 * consumed.length = k * 65536 ∧ k + n = ec) → (∀ b ∈ rest, b < 256) →
    r ≤ 8192 → rest.length = 8192 * n + r →
    ∃ b, (match fullLoop dbg (List.range' k n) cs rest with
          | none => none
          | some (cs, bytes) =>
            if !bytes.isEmpty then
              match containerFromLsb0 dbg (ec % 65536) bytes 0 with
              | none => none
              | some oc => some (pushOpt cs oc)
            else some cs) = some b ∧
      Bitmap.WF b ∧ Bitmap.elems b = Spec.bitsOfBytes off (consumed ++ rest) := by
  intro n
  induction n with
  | zero =>
    intro k consumed cs rest r h hk hb hr hlen
    rw [List.range'_zero]
    simp only [fullLoop]
    cases rest with
    | nil => exact ⟨cs, rfl, by rw [List.append_nil]; exact h.result⟩
    | cons x xs =>
      obtain ⟨hoff, hkn⟩ := hk (List.cons_ne_nil _ _)
      rw [Nat.add_zero] at hkn
      subst hkn
      obtain ⟨oc, hoc, hacc⟩ := acc_push dbg off consumed cs k (x :: xs) 0 h hec hb
        (by rw [hlen, Nat.mul_zero, Nat.zero_add, Nat.zero_add]; exact hr) (hoff.trans (Nat.add_zero _).symm)
      refine ⟨pushOpt cs oc, ?_, hacc.result⟩
      simp only [List.isEmpty_cons, Bool.not_false, if_true, Nat.mod_eq_of_lt hec, hoc]
  | succ n ih =>
    intro k consumed cs rest r h hk hb hr hlen
    have h8 : 8192 ≤ rest.length :=
      hlen ▸ Nat.le_trans (Nat.le_mul_of_pos_right 8192 (Nat.succ_pos n)) (Nat.le_add_right _ _)
    obtain ⟨hoff, hkn⟩ := hk fun e => by rw [e] at h8; exact absurd h8 (by decide)
    have hk0 : k < 65536 := Nat.lt_of_le_of_lt (Nat.le_add_right k (n + 1)) (hkn.symm ▸ hec)
    have htl : (rest.take 8192).length = 8192 := List.length_take_of_le h8
    obtain ⟨oc, hoc, hacc⟩ := acc_push dbg off consumed cs k (rest.take 8192) 0 h hk0
      (fun x hx => hb x (List.mem_of_mem_take hx)) (by rw [Nat.zero_add, htl]; exact Nat.le_refl _) (hoff.trans (Nat.add_zero _).symm)
    obtain ⟨b, hb1, hb2⟩ := ih (k + 1) (consumed ++ rest.take 8192) (pushOpt cs oc) (rest.drop 8192) r hacc
      (fun _ => ⟨by rw [List.length_append, htl, Nat.mul_add, ← Nat.add_assoc, hoff, Nat.add_mul, Nat.one_mul],
        by rw [Nat.add_assoc, Nat.add_comm 1 n]; exact hkn⟩)
      (fun x hx => hb x (List.mem_of_mem_drop hx)) hr
      (by rw [List.length_drop, hlen, Nat.mul_succ, Nat.add_right_comm, Nat.add_sub_cancel])
    rw [List.append_assoc, List.take_append_drop] at hb2
    refine ⟨b, ?_, hb2⟩
    rw [List.range'_succ]
    simp only [fullLoop, BITMAP_BYTES, Nat.mod_eq_of_lt hk0]
    rw [if_neg (Nat.not_lt.2 h8), hoc]
    exact hb1

/-- inherent.rs:131-145, in the terms of `aligned_split`: a slice that does not start at a chunk boundary (`so ≠ 0`
    is not needed) has a first piece of `m = E - so` bytes, `E` the end inside the first chunk: the end of the slice
    when it has one chunk, the end of the chunk otherwise; what is left is full chunks up to `ec` and `r` more bytes,
    and starts at the boundary of chunk `sc + 1` unless nothing is left. -/
theorem first_piece {off len sc so ec eo : Nat} (h1 : off = sc * 65536 + 8 * so) (h2 : so < 8192) (h5 : eo ≤ 8192)
    (hle : sc ≤ ec) (hlen : so + len = 8192 * (ec - sc) + eo) :
    let E := if ec = sc then eo else 8192
    so ≤ E ∧ E - so ≤ len ∧ so + (E - so) ≤ 8192 ∧ ∃ r, r ≤ 8192 ∧ len - (E - so) = 8192 * (ec - (sc + 1)) + r ∧
      (len - (E - so) ≠ 0 → off + 8 * (E - so) = (sc + 1) * 65536 ∧ sc + 1 + (ec - (sc + 1)) = ec) := by
  intro E
  by_cases he : ec = sc
  · have hE : E = eo := if_pos he
    rw [hE]
    rw [he, Nat.sub_self, Nat.mul_zero, Nat.zero_add] at hlen
    rw [← hlen, Nat.add_sub_cancel_left, Nat.sub_self]
    exact ⟨Nat.le_add_right _ _, Nat.le_refl _, hlen ▸ h5, 0, Nat.zero_le _,
      by rw [he, Nat.sub_eq_zero_of_le (Nat.le_succ sc)], fun h => absurd rfl h⟩
  · have hE : E = 8192 := if_neg he
    have hlt : sc + 1 ≤ ec := Nat.lt_of_le_of_ne hle (Ne.symm he)
    obtain ⟨hpos, hsum⟩ := aligned_first h1 h2 hlt hlen
    rw [hE]
    exact ⟨Nat.le_of_lt h2, hsum ▸ Nat.le_add_right _ _, Nat.le_of_eq (Nat.add_sub_cancel' (Nat.le_of_lt h2)), eo, h5,
      by rw [hsum, Nat.add_sub_cancel_left], fun _ => ⟨hpos, Nat.add_sub_cancel' hlt⟩⟩

/-- inherent.rs:121, the `expect`: a non-empty slice that extends past `2^32` panics (whatever its offset and
    bytes); the three `u64` checks before it either fail as well or are passed over. -/
theorem fromLsb0Aligned_none (dbg : Bool) (off : Nat) (bytes : List Nat) (hne : bytes ≠ [])
    (hover : off + 8 * bytes.length > 4294967296) : fromLsb0Aligned dbg off bytes = none := by
  have hl : 0 < bytes.length := List.length_pos_iff.2 hne
  unfold fromLsb0Aligned
  rw [if_neg (mt List.isEmpty_iff.1 hne)]
  exact ite_eq_left_iff.2 fun _ => ite_eq_left_iff.2 fun _ => ite_eq_left_iff.2 fun _ =>
    if_pos (by simp only [u32Max]; omega)

/-- inherent.rs:110-169 -/
theorem fromLsb0Aligned_spec (dbg : Bool) (off : Nat) (bytes : List Nat) (hal : off % 8 = 0)
    (hb : ∀ b ∈ bytes, b < 256) (hfit : off + 8 * bytes.length ≤ 4294967296) :
    ∃ b, fromLsb0Aligned dbg off bytes = some b ∧ Bitmap.WF b ∧ Bitmap.elems b = Spec.bitsOfBytes off bytes := by
  by_cases hne : bytes = []
  · subst hne
    exact ⟨[], rfl, (Acc.init off 0).result⟩
  · have hl : 0 < bytes.length := List.length_pos_iff.2 hne
    unfold fromLsb0Aligned
    rw [if_neg (mt List.isEmpty_iff.1 hne)]
    obtain ⟨c1, c2, c3, c4⟩ := fits_u32 hl hfit
    simp only []
    rw [if_neg c1, if_neg c2, if_neg c3, if_neg c4]
    clear c1 c2 c3 c4
    generalize hsc : off / 65536 = sc
    generalize hso : off % 65536 / 8 = so
    generalize hec : (off + (bytes.length * 8 - 1)) / 65536 = ec
    generalize heo : ((off + (bytes.length * 8 - 1)) % 65536 + 1) / 8 = eo
    obtain ⟨h1, h2, -, h5, hle, hk, hlen⟩ := aligned_split hal hl hfit hsc hso hec heo
    clear hsc hso hec heo hal hfit hl hne
    by_cases hso : so = 0
    · rw [if_neg fun h => h hso]
      rw [hso, Nat.zero_add] at hlen
      -- (`omega`, and `rfl` after `rw`, unfold the product in a goal `off = sc * 65536` 65536 times: hence `simp only`)
      exact tail_spec dbg off ec hk (ec - sc) sc [] [] bytes eo (Acc.init off sc)
        (fun _ => ⟨by simp only [h1, hso, List.length_nil, Nat.mul_zero, Nat.add_zero], Nat.add_sub_cancel' hle⟩) hb h5 hlen
    · obtain ⟨e1, e2, e3, r, hr, hrest, hnext⟩ := first_piece h1 h2 h5 hle hlen
      rw [if_pos hso, show BITMAP_BYTES = 8192 from rfl]
      generalize (if ec = sc then eo else 8192) = E at e1 e2 e3 hrest hnext
      have hsc : sc < 65536 := Nat.lt_of_le_of_lt hle hk
      have htl : (bytes.take (E - so)).length = E - so := List.length_take_of_le e2
      rw [if_neg (Nat.not_lt.2 e1), if_neg (Nat.not_lt.2 e2), Nat.mod_eq_of_lt hsc]
      obtain ⟨oc, hoc, hacc⟩ := acc_push dbg off [] [] sc (bytes.take (E - so)) so (Acc.init off sc) hsc
        (fun x hx => hb x (List.mem_of_mem_take hx)) (htl.symm ▸ e3) h1
      rw [hoc]
      simp only []
      have ht := tail_spec dbg off ec hk (ec - (sc + 1)) (sc + 1) ([] ++ bytes.take (E - so))
        (pushOpt [] oc) (bytes.drop (E - so)) r hacc
        (fun hd => by rw [List.nil_append, htl]; exact hnext (by rwa [← List.length_drop, Ne, List.length_eq_zero_iff]))
        (fun x hx => hb x (List.mem_of_mem_drop hx)) hr (by rw [List.length_drop]; exact hrest)
      rw [List.nil_append, List.take_append_drop] at ht
      exact ht

theorem fromLsb0Aligned_eq_none_iff (dbg : Bool) (off : Nat) (bytes : List Nat) (hal : off % 8 = 0)
    (hb : ∀ b ∈ bytes, b < 256) :
    fromLsb0Aligned dbg off bytes = none ↔ bytes ≠ [] ∧ off + 8 * bytes.length > 4294967296 := by
  constructor
  · intro hnone
    refine ⟨?_, Nat.lt_of_not_le fun hfit => ?_⟩
    · rintro rfl
      cases hnone
    · obtain ⟨b, h1, _⟩ := fromLsb0Aligned_spec dbg off bytes hal hb hfit
      rw [h1] at hnone
      cases hnone
  · rintro ⟨hne, hover⟩
    exact fromLsb0Aligned_none dbg off bytes hne hover

end Roaring.MiscLemmas
