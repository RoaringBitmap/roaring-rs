import RoaringModel.Lemmas.MiscLsb0
import RoaringModel.Lemmas.WordLemmas
import RoaringModel.Lemmas.CodecWF
import RoaringModel.Lemmas.StoreFacts
/-!
# C17, per chunk: `Store::from_lsb0_bytes` (store/mod.rs:54), `ArrayStore::from_lsb0_bytes`
# (array_store/mod.rs:57) and `BitmapStore::from_lsb0_bytes_unchecked` (bitmap_store.rs:44)

For a piece of at most `8192 - byteOffset` bytes the store constructor does not panic (in either build
configuration), creates no store iff no bit is set, and otherwise creates a well-formed store (shared
`Store.WF`: array iff at most 4096 bits) whose value list *is* the SPEC list of the piece read from bit
`8 * byteOffset`.

`Spec.bitsOfBytes` is used through its equations: it turns `++` of byte strings into `++` of lists
(`bitsOfBytes_append`), commutes with a translation of the offset (`bitsOfBytes_add`), is strictly ascending inside
its bit range (`sortedIn_bitsOfBytes`), has one element per set bit (`length_bitsOfBytes`), and on a group of at most
8 bytes it is the word library's `bitPos` of the group's little-endian value (`bitsOfBytes_eq_bitPos`).  Each drain
loop is then an equation `loop … = bitsOfBytes base bs` (`drainWord_bytes`, `arrWords_eq`, `arrRem_eq`,
`toArrayFrom_leWordsN`), and the counts (`bitsSet`, `popSum` of the words) are lengths of these lists.
-/
namespace Roaring.MiscLemmas
open Roaring Roaring.Lsb0

def SortedIn (lo hi : Nat) (l : List Nat) : Prop := Roaring.Sorted l ∧ ∀ x ∈ l, lo ≤ x ∧ x < hi

theorem SortedIn.nil (lo hi : Nat) : SortedIn lo hi [] := ⟨List.Pairwise.nil, by simp⟩

theorem SortedIn.append {a b c : Nat} {l r : List Nat} (hab : a ≤ b) (hbc : b ≤ c)
    (hl : SortedIn a b l) (hr : SortedIn b c r) : SortedIn a c (l ++ r) := by
  refine ⟨?_, ?_⟩
  · unfold Roaring.Sorted
    rw [List.pairwise_append]
    refine ⟨hl.1, hr.1, ?_⟩
    exact fun x hx y hy => Nat.lt_of_lt_of_le (hl.2 x hx).2 (hr.2 y hy).1
  · intro x hx
    rcases List.mem_append.mp hx with hx | hx
    · exact ⟨(hl.2 x hx).1, Nat.lt_of_lt_of_le (hl.2 x hx).2 hbc⟩
    · exact ⟨Nat.le_trans hab (hr.2 x hx).1, (hr.2 x hx).2⟩

theorem lt_of_testBit {w n p : Nat} (hw : w < 2 ^ n) (ht : w.testBit p = true) : p < n :=
  Nat.lt_of_not_le fun h => Nat.lt_irrefl w
    (Nat.lt_of_lt_of_le hw (Nat.le_trans (Nat.pow_le_pow_right (by decide) h) (Nat.ge_two_pow_of_testBit ht)))

theorem leWords8_lt (bs : List Nat) (h : ∀ b ∈ bs, b < 256) : ∀ w ∈ leWords 8 bs, w < 2 ^ 64 := by
  intro w hw
  exact Nat.lt_of_lt_of_le (leWords_lt 8 bs h w hw) (by decide)

theorem foldl_popcount_sum (ws : List Nat) (acc : Nat) :
    ws.foldl (fun acc w => acc + popcount w) acc = acc + (ws.map popcount).sum := by
  induction ws generalizing acc with
  | nil => simp
  | cons w ws ih => simp only [List.foldl_cons, List.map_cons, List.sum_cons]; rw [ih]; omega

theorem popSum_eq_sum (ws : List Nat) : BStore.popSum ws = (ws.map popcount).sum := by
  unfold BStore.popSum
  rw [foldl_popcount_sum, Nat.zero_add]

/-! ## the equations of `bitsOfBytes` -/

theorem bitsOfBytes_nil (off : Nat) : Spec.bitsOfBytes off [] = [] := rfl

theorem bitsOfBytes_append (off : Nat) (a b : List Nat) :
    Spec.bitsOfBytes off (a ++ b) = Spec.bitsOfBytes off a ++ Spec.bitsOfBytes (off + 8 * a.length) b := by
  unfold Spec.bitsOfBytes
  rw [List.zipIdx_append, List.flatMap_append, Nat.zero_add, List.zipIdx_eq_map_add (i := a.length), List.flatMap_map]
  simp only [Nat.mul_add, Nat.add_assoc]

theorem bitsOfBytes_cons (off b : Nat) (bs : List Nat) :
    Spec.bitsOfBytes off (b :: bs) = Spec.bitsOfBytes off [b] ++ Spec.bitsOfBytes (off + 8) bs :=
  bitsOfBytes_append off [b] bs

theorem bitsOfBytes_add (c off : Nat) (bs : List Nat) :
    Spec.bitsOfBytes (c + off) bs = (Spec.bitsOfBytes off bs).map (c + ·) := by
  unfold Spec.bitsOfBytes
  rw [List.map_flatMap]
  simp only [List.map_map, Function.comp_def, Nat.add_assoc]

theorem bitsOfBytes_zeros (off n : Nat) : Spec.bitsOfBytes off (List.replicate n 0) = [] := by
  unfold Spec.bitsOfBytes
  rw [List.flatMap_eq_nil_iff]
  rintro ⟨b, i⟩ h
  have : b = 0 := List.eq_of_mem_replicate (List.mem_of_getElem? (List.mem_zipIdx_iff_getElem?.1 h))
  subst this
  simp

theorem bitsOfBytes_one (off b : Nat) :
    Spec.bitsOfBytes off [b] = ((List.range 8).filter fun j => b.testBit j).map (off + ·) := by
  simp [Spec.bitsOfBytes]

/-- strictly ascending inside the bit range of the bytes -/
theorem sortedIn_bitsOfBytes : ∀ (bs : List Nat) (off : Nat),
    SortedIn off (off + 8 * bs.length) (Spec.bitsOfBytes off bs)
  | [], off => SortedIn.nil _ _
  | b :: bs, off => by
    rw [bitsOfBytes_cons, bitsOfBytes_one, List.length_cons, Nat.mul_succ, Nat.add_comm _ 8, ← Nat.add_assoc]
    refine SortedIn.append (Nat.le_add_right _ _) (Nat.le_add_right _ _) ⟨?_, ?_⟩ (sortedIn_bitsOfBytes bs _)
    · exact List.Pairwise.map _ (fun _ _ h => Nat.add_lt_add_left h _)
        (List.Pairwise.sublist List.filter_sublist List.pairwise_lt_range)
    · intro x hx
      obtain ⟨j, hj, rfl⟩ := List.mem_map.1 hx
      exact ⟨Nat.le_add_right _ _, Nat.add_lt_add_left (List.mem_range.1 (List.mem_filter.1 hj).1) _⟩

theorem length_bitsOfBytes : ∀ (bs : List Nat) (off : Nat), (∀ b ∈ bs, b < 256) →
    (Spec.bitsOfBytes off bs).length = (bs.map popcount).sum
  | [], _, _ => rfl
  | b :: bs, off, h => by
    rw [bitsOfBytes_cons, bitsOfBytes_one, List.length_append, List.length_map,
      length_bitsOfBytes bs _ fun x hx => h x (List.mem_cons_of_mem _ hx),
      List.map_cons, List.sum_cons, popcount_eq_length_filter_range 8 b (h b List.mem_cons_self)]

/-- a group of at most 8 bytes: the set bits of its little-endian value -/
theorem bitsOfBytes_eq_bitPos (base : Nat) (bs : List Nat) (hb : ∀ b ∈ bs, b < 256) (hl : bs.length ≤ 8) :
    Spec.bitsOfBytes base bs = (bitPos (leVal bs)).map (base + ·) := by
  refine Roaring.sorted_ext _ _ (sortedIn_bitsOfBytes bs base).1
    (List.Pairwise.map _ (fun _ _ h => Nat.add_lt_add_left h _) (sorted_bitPos _)) fun x => ?_
  have h64 : ∀ p, (leVal bs).testBit p = true → p < 64 := fun p hp =>
    lt_of_testBit (Nat.lt_of_lt_of_le (leVal_lt bs hb) (Nat.pow_le_pow_right (n := 256) (by decide) hl)) hp
  rw [mem_bitsOfBytes_iff_testBit base bs hb, mem_map_bitPos]
  constructor
  · rintro ⟨hle, ht⟩
    exact ⟨x - base, h64 _ ht, ht, (Nat.add_sub_cancel' hle).symm⟩
  · rintro ⟨p, _, ht, rfl⟩
    exact ⟨Nat.le_add_right _ _, by rwa [Nat.add_sub_cancel_left]⟩

/-! ## the drain loops are equations -/

/-- one `while word != 0` loop over the value of at most 8 bytes -/
theorem drainWord_bytes (base : Nat) (bs : List Nat) (hb : ∀ b ∈ bs, b < 256) (hl : bs.length ≤ 8) :
    drainWord base 64 (leVal bs) = Spec.bitsOfBytes base bs := by
  rw [bitsOfBytes_eq_bitPos base bs hb hl, drainWord_eq base _
    (Nat.lt_of_lt_of_le (leVal_lt bs hb) (Nat.pow_le_pow_right (n := 256) (by decide) hl))]

/-- the `as u16` cast changes nothing inside a chunk -/
theorem map_mod_bitsOfBytes (base : Nat) (bs : List Nat) (hfit : base + 8 * bs.length ≤ 65536) :
    (Spec.bitsOfBytes base bs).map (· % 65536) = Spec.bitsOfBytes base bs :=
  (List.map_congr_left fun x hx =>
    Nat.mod_eq_of_lt (Nat.lt_of_lt_of_le ((sortedIn_bitsOfBytes bs base).2 x hx).2 hfit)).trans (List.map_id _)

/-- bitmap_store.rs `to_array_store`-style word drain over little-endian words = the bits of the bytes;
    serves `BitmapStore::from_lsb0_bytes_unchecked` -/
theorem toArrayFrom_leWordsN : ∀ (cnt : Nat) (bs : List Nat) (k : Nat), (∀ b ∈ bs, b < 256) → 8 * cnt ≤ bs.length →
    BStore.toArrayFrom k (leWordsN 8 cnt bs) = Spec.bitsOfBytes (64 * k) (bs.take (8 * cnt))
  | 0, _, _, _, _ => rfl
  | cnt + 1, bs, k, hb, hlen => by
    rw [Nat.mul_succ] at hlen
    have htl : (bs.take 8).length = 8 := List.length_take_of_le (Nat.le_trans (Nat.le_add_left 8 _) hlen)
    rw [leWordsN, BStore.toArrayFrom, drainWord_bytes _ _ (fun x hx => hb x (List.mem_of_mem_take hx)) (Nat.le_of_eq htl),
      toArrayFrom_leWordsN cnt (bs.drop 8) (k + 1) (fun x hx => hb x (List.mem_of_mem_drop hx))
        (by rw [List.length_drop]; exact Nat.le_sub_of_add_le hlen),
      Nat.mul_succ 8 cnt, Nat.add_comm (8 * cnt), List.take_add, bitsOfBytes_append, htl, Nat.mul_succ]

/-- a count of set bits is the length of the list of their positions -/
theorem popSum_leWordsN (cnt : Nat) (bs : List Nat) (hb : ∀ b ∈ bs, b < 256) (hlen : 8 * cnt ≤ bs.length) :
    BStore.popSum (leWordsN 8 cnt bs) = ((bs.take (8 * cnt)).map popcount).sum := by
  rw [← BStore.length_toArrayFrom _ (fun w hw => Nat.lt_of_lt_of_le (leWordsN_lt 8 cnt bs hb w hw) (by decide)) 0,
    toArrayFrom_leWordsN cnt bs 0 hb hlen, length_bitsOfBytes _ _ fun x hx => hb x (List.mem_of_mem_take hx)]

/-- store/mod.rs:59-72 `bits_set` counts the set bits of the piece -/
theorem bitsSet_eq_sum (bytes : List Nat) (h : ∀ b ∈ bytes, b < 256) :
    bitsSet bytes = (bytes.map popcount).sum := by
  unfold bitsSet chunkRem chunkWords
  rw [foldl_popcount_sum]
  have := popSum_leWordsN (bytes.length / 8) bytes h (Nat.mul_div_le _ _)
  unfold BStore.popSum at this
  unfold leWords
  rw [this, Nat.mul_comm 8, ← List.sum_append, ← List.map_append, List.take_append_drop]

theorem popSum_leWords (bs : List Nat) (h : ∀ b ∈ bs, b < 256) (hl : bs.length % 8 = 0) :
    BStore.popSum (leWords 8 bs) = (bs.map popcount).sum := by
  unfold leWords
  rw [popSum_leWordsN _ bs h (Nat.mul_div_le _ _), Nat.mul_div_cancel' (Nat.dvd_of_mod_eq_zero hl), List.take_length]

/-- array_store/mod.rs:64-73 -/
theorem arrWords_eq (bo : Nat) : ∀ (cnt : Nat) (bs : List Nat) (idx base : Nat), (∀ b ∈ bs, b < 256) →
    8 * cnt ≤ bs.length → base = (bo + idx * 8) * 8 → base + 64 * cnt ≤ 65536 →
    arrWords bo idx (leWordsN 8 cnt bs) = Spec.bitsOfBytes base (bs.take (8 * cnt))
  | 0, _, _, _, _, _, _, _ => rfl
  | cnt + 1, bs, idx, base, hb, hlen, hbase, hfit => by
    rw [Nat.mul_succ] at hlen hfit
    have htl : (bs.take 8).length = 8 := List.length_take_of_le (Nat.le_trans (Nat.le_add_left 8 _) hlen)
    rw [leWordsN, arrWords, ← hbase, drainWord_bytes _ _ (fun x hx => hb x (List.mem_of_mem_take hx)) (Nat.le_of_eq htl),
      map_mod_bitsOfBytes _ _ (by rw [htl]; exact Nat.le_trans (Nat.add_le_add_left (Nat.le_add_left 64 _) base) hfit),
      arrWords_eq bo cnt (bs.drop 8) (idx + 1) (base + 64) (fun x hx => hb x (List.mem_of_mem_drop hx))
        (by rw [List.length_drop]; exact Nat.le_sub_of_add_le hlen)
        (by rw [hbase, Nat.succ_mul, ← Nat.add_assoc, Nat.add_mul (bo + idx * 8) 8 8])
        (by rw [Nat.add_assoc, Nat.add_comm 64]; exact hfit),
      Nat.mul_succ 8 cnt, Nat.add_comm (8 * cnt), List.take_add, bitsOfBytes_append, htl]

/-- array_store/mod.rs:74-80 -/
theorem arrRem_eq (bo done : Nat) : ∀ (bs : List Nat) (idx base : Nat), (∀ b ∈ bs, b < 256) →
    base = (bo + done + idx) * 8 → base + 8 * bs.length ≤ 65536 → arrRem bo done idx bs = Spec.bitsOfBytes base bs
  | [], _, _, _, _, _ => rfl
  | b :: bs, idx, base, hb, hbase, hfit => by
    rw [List.length_cons, Nat.mul_succ] at hfit
    have h1 := drainWord_bytes base [b] (fun x hx => hb x (by simp_all)) (by simp)
    rw [show leVal [b] = b by simp [leVal]] at h1
    rw [arrRem, ← hbase, h1, map_mod_bitsOfBytes _ _ (Nat.le_trans (Nat.add_le_add_left (Nat.le_add_left 8 _) base) hfit),
      arrRem_eq bo done bs (idx + 1) (base + 8) (fun x hx => hb x (List.mem_cons_of_mem _ hx))
        (by rw [hbase, ← Nat.add_assoc, Nat.add_mul (bo + done + idx) 1 8, Nat.one_mul])
        (by rw [Nat.add_assoc, Nat.add_comm 8]; exact hfit),
      ← bitsOfBytes_cons]

/-- array_store/mod.rs:57: the pushed vector is the SPEC list of the piece -/
theorem arrVec_eq (bytes : List Nat) (bo : Nat) (hb : ∀ b ∈ bytes, b < 256) (hfit : bo + bytes.length ≤ 8192) :
    arrWords bo 0 (chunkWords bytes) ++ arrRem bo (bytes.length - (chunkRem bytes).length) 0 (chunkRem bytes)
      = Spec.bitsOfBytes (8 * bo) bytes := by
  have hq8 : 8 * (bytes.length / 8) ≤ bytes.length := Nat.mul_div_le _ _
  have htl : (bytes.take (8 * (bytes.length / 8))).length = 8 * (bytes.length / 8) := List.length_take_of_le hq8
  have h8 : 8 * bo + 8 * bytes.length ≤ 65536 := Nat.mul_add 8 bo _ ▸ Nat.mul_le_mul_left 8 hfit
  have hrem : chunkRem bytes = bytes.drop (8 * (bytes.length / 8)) := by rw [chunkRem, Nat.mul_comm]
  have hrl : bytes.length - (chunkRem bytes).length = 8 * (bytes.length / 8) := by
    rw [hrem, List.length_drop, Nat.sub_sub_self hq8]
  rw [chunkWords, leWords, hrl,
    arrWords_eq bo _ bytes 0 (8 * bo) hb hq8 (by rw [Nat.zero_mul, Nat.add_zero, Nat.mul_comm])
      (Nat.le_trans (Nat.add_le_add_left (Nat.le_trans (Nat.le_of_eq (Nat.mul_assoc 8 8 _))
        (Nat.mul_le_mul_left 8 hq8)) _) h8),
    arrRem_eq bo _ (chunkRem bytes) 0 (8 * bo + 8 * (bytes.take (8 * (bytes.length / 8))).length)
      (fun x hx => hb x (List.mem_of_mem_drop hx)) (by rw [htl, Nat.add_zero, Nat.add_mul, Nat.mul_comm bo, Nat.mul_comm _ 8])
      (by rw [htl, hrem, List.length_drop, Nat.add_assoc, ← Nat.mul_add, Nat.add_sub_cancel' hq8]; exact h8),
    hrem, ← bitsOfBytes_append, List.take_append_drop]

/-! ## `BitmapStore::from_lsb0_bytes_unchecked` -/

/-- the zeroed box with the slice copied at `byte_offset` -/
def padded (bo : Nat) (bytes : List Nat) : List Nat :=
  List.replicate bo 0 ++ bytes ++ List.replicate (BITMAP_BYTES - bo - bytes.length) 0

theorem padded_bytes (bo : Nat) (bytes : List Nat) (hb : ∀ b ∈ bytes, b < 256) : ∀ b ∈ padded bo bytes, b < 256 := by
  intro b hbm
  unfold padded at hbm
  simp only [List.mem_append, List.mem_replicate] at hbm
  rcases hbm with (⟨_, rfl⟩ | h) | ⟨_, rfl⟩
  · decide
  · exact hb b h
  · decide

theorem padded_length (bo : Nat) (bytes : List Nat) (hfit : bo + bytes.length ≤ 8192) :
    (padded bo bytes).length = 8192 := by
  simp [padded, BITMAP_BYTES]; omega

theorem padded_sum (bo : Nat) (bytes : List Nat) :
    ((padded bo bytes).map popcount).sum = (bytes.map popcount).sum := by
  simp [padded, List.map_replicate, popcount_zero]

/-- bitmap_store.rs:50-73: a full slice is read as it is (`byte_offset` is then 0), a shorter one is copied into
    the zeroed box -/
theorem buf_eq_padded (bytes : List Nat) (bo : Nat) (hfit : bo + bytes.length ≤ 8192) :
    (if bytes.length = BITMAP_BYTES then bytes
      else List.replicate bo 0 ++ bytes ++ List.replicate (BITMAP_BYTES - bo - bytes.length) 0) = padded bo bytes := by
  split
  · rename_i h
    have h0 : bo = 0 := by simp only [BITMAP_BYTES] at h; omega
    simp [padded, h0, h]
  · rfl

theorem bitsOfBytes_padded (bo : Nat) (bytes : List Nat) :
    Spec.bitsOfBytes 0 (padded bo bytes) = Spec.bitsOfBytes (8 * bo) bytes := by
  rw [padded, bitsOfBytes_append, bitsOfBytes_append, bitsOfBytes_zeros, bitsOfBytes_zeros, List.length_replicate,
    Nat.zero_add, List.nil_append, List.append_nil]

theorem bmFromLsb0_spec (dbg : Bool) (bytes : List Nat) (bo : Nat) (hb : ∀ b ∈ bytes, b < 256)
    (hfit : bo + bytes.length ≤ 8192) :
    ∃ b, bmFromLsb0 dbg bytes bo (bitsSet bytes) = some b ∧ b.Inv ∧ b.len = bitsSet bytes ∧
      b.toArray = Spec.bitsOfBytes (8 * bo) bytes := by
  have hpb := padded_bytes bo bytes hb
  have hpl := padded_length bo bytes hfit
  have hsum : BStore.popSum (leWords 8 (padded bo bytes)) = bitsSet bytes := by
    rw [popSum_leWords _ hpb (by rw [hpl]), padded_sum, bitsSet_eq_sum bytes hb]
  have hinv : BStore.Inv { len := bitsSet bytes, bits := leWords 8 (padded bo bytes) } :=
    ⟨by simp only [leWords_length, hpl], leWords8_lt _ hpb, hsum.symm⟩
  refine ⟨{ len := bitsSet bytes, bits := leWords 8 (padded bo bytes) }, ?_, hinv, rfl, ?_⟩
  · unfold bmFromLsb0
    have : bo + bytes.length ≤ BITMAP_BYTES := by simp only [BITMAP_BYTES]; exact hfit
    simp only [this, not_true_eq_false, if_false]
    rw [buf_eq_padded bytes bo hfit]
    cases dbg
    · simp [BStore.fromUnchecked]
    · simp [BStore.fromUnchecked, BStore.tryFrom, hsum]
  · rw [← bitsOfBytes_padded]
    show BStore.toArrayFrom 0 (leWords 8 (padded bo bytes)) = _
    rw [leWords, toArrayFrom_leWordsN _ _ 0 hpb (Nat.mul_div_le _ _), hpl]
    exact congrArg _ (List.take_of_length_le (Nat.le_of_eq hpl))

/-! ## `Store::from_lsb0_bytes` -/

theorem storeFromLsb0_spec (dbg : Bool) (bytes : List Nat) (bo : Nat) (hb : ∀ b ∈ bytes, b < 256)
    (hfit : bo + bytes.length ≤ 8192) :
    ∃ o, storeFromLsb0 dbg bytes bo = some o ∧
      match o with
      | none => Spec.bitsOfBytes (8 * bo) bytes = []
      | some st => st.WF ∧ st.elems = Spec.bitsOfBytes (8 * bo) bytes := by
  have hlen := length_bitsOfBytes bytes (8 * bo) hb
  rw [← bitsSet_eq_sum bytes hb] at hlen
  have hs := sortedIn_bitsOfBytes bytes (8 * bo)
  unfold storeFromLsb0
  have hok : bo + bytes.length ≤ BITMAP_BYTES := by simp only [BITMAP_BYTES]; exact hfit
  simp only [hok, not_true_eq_false, if_false]
  by_cases h0 : bitsSet bytes = 0
  · exact ⟨none, by simp [h0], List.eq_nil_of_length_eq_zero (hlen.trans h0)⟩
  · by_cases h1 : bitsSet bytes ≤ ARRAY_LIMIT
    · refine ⟨some (.array (Spec.bitsOfBytes (8 * bo) bytes)), ?_, ?_, rfl⟩
      · simp only [h0, h1, if_false, if_true, arrFromLsb0]
        rw [arrVec_eq bytes bo hb hfit, Arr.fromVecUnchecked_spec dbg _ hs.1]
        rfl
      · exact ⟨⟨hs.1, fun x hx => Nat.lt_of_lt_of_le (hs.2 x hx).2
          (Nat.mul_add 8 bo _ ▸ Nat.mul_le_mul_left 8 hfit)⟩, hlen ▸ Nat.pos_of_ne_zero h0, hlen ▸ h1⟩
    · obtain ⟨b, b1, b2, b3, b4⟩ := bmFromLsb0_spec dbg bytes bo hb hfit
      exact ⟨some (.bitmap b), by simp [h0, h1, b1], ⟨b2, b3 ▸ Nat.lt_of_not_le h1⟩, b4⟩

end Roaring.MiscLemmas
