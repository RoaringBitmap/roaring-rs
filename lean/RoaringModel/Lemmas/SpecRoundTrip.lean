import RoaringModel.Lemmas.DecodeSpec
import RoaringModel.Lemmas.Canonical
/-!
# The reference decoder accepts what the model writes (format conformance, reference side)

`specDecode_serialize`: for a well-formed value `b`, `Spec.decode (serialize b ++ rest) = some (elems b, rest)`:
cookie, size, descriptions with strictly ascending keys, an offset table holding the *true* payload positions
(all `< 2^32`), array payloads strictly ascending, bitset payloads with the declared cardinality.
`serialize_isBytes`: the output is a byte string.
`deserialize_serialize` (C05_decode): so the model's decoders give the value back.
-/
namespace Roaring
open Parser

theorem takeN_append (xs ys : List Nat) (n : Nat) (h : xs.length = n) : Spec.takeN n (xs ++ ys) = some (xs, ys) := by
  subst h
  unfold Spec.takeN
  simp

theorem guard_true {p : Prop} [Decidable p] (h : p) : (guard p : Option Unit) = some () := by
  simp [guard, h]

theorem specDecodeChunk_payload (c : Container) (h : StoreWF c.store) (rest : List Nat) :
    Spec.decodeChunk false ((c.len - 1) % 65536 + 1) (payloadOf c ++ rest) = some (c.store.elems, rest) := by
  have hcard : (c.len - 1) % 65536 + 1 = c.store.len := card_roundtrip h
  rw [hcard]
  unfold Spec.decodeChunk
  simp only [Bool.false_eq_true, ↓reduceIte]
  cases hs : c.store with
  | array v =>
    rw [hs] at h
    obtain ⟨h1, h2, h3, h4⟩ := h
    have hle : (Store.array v).len ≤ 4096 := h4
    have hp : payloadOf c = v.flatMap u16le := by unfold payloadOf; rw [hs]
    have hl : (v.flatMap u16le).length = 2 * (Store.array v).len :=
      (flatMap_u16le_length v).trans (Nat.mul_comm _ _)
    have hints : Spec.leInts 2 (Store.array v).len (v.flatMap u16le) = v := by
      rw [leInts_eq]
      have := leWordsN_flatMap 2 u16le u16le_length v [] (fun x hx => leVal_u16le x (h2 x hx))
      simpa [Store.len] using this
    have hasc : Spec.strictAsc v = true := by rw [strictAsc_eq]; exact (Arr.isStrictlySorted_iff v).mpr h1
    rw [if_pos hle, hp, takeN_append _ rest _ hl]
    simp only [bind, Option.bind_some, hints, guard_true hasc, pure, Store.elems]
  | bitmap b =>
    rw [hs] at h
    have hb : b.Inv := ((storeWF_iff _).mp h).1
    obtain ⟨h1, h2, h3, h4⟩ := h
    have hgt : ¬ (Store.bitmap b).len ≤ 4096 := Nat.not_le.2 h4
    have hp : payloadOf c = b.bits.flatMap u64le := by unfold payloadOf; rw [hs]
    have hl : (b.bits.flatMap u64le).length = 8192 := by rw [flatMap_u64le_length, h1]
    have hints : Spec.leInts 8 1024 (b.bits.flatMap u64le) = b.bits := by
      rw [leInts_eq, ← h1]
      have := leWordsN_flatMap 8 u64le u64le_length b.bits [] (fun x hx => leVal_u64le x (h2 x hx))
      simpa using this
    have hvals : Spec.bitsetVals b.bits = b.toArray := bitsetVals_eq _ hb.words
    have hlen : b.toArray.length = (Store.bitmap b).len := BStore.length_toArray b hb
    rw [if_neg hgt, hp, takeN_append _ rest _ hl]
    simp only [bind, Option.bind_some, hints, hvals, guard_true hlen, pure, Store.elems]

/-- the true payload positions -/
def offsVals : Bitmap → Nat → List Nat
  | [], _ => []
  | c :: cs, off => off :: offsVals cs (off + psize c)

theorem specDecodeChunks_payload (b : Bitmap) (i pos : Nat) (tl rest : List Nat) (h : ∀ c ∈ b, StoreWF c.store) :
    Spec.decodeChunks none (descrOf b) i pos (some (offsVals b pos ++ tl)) (Bitmap.payloadBytes b ++ rest)
      = some (Bitmap.elems b, rest) := by
  induction b generalizing i pos with
  | nil => rfl
  | cons c cs ih =>
    have hc := h c List.mem_cons_self
    have ih := ih (i + 1) (pos + psize c) fun d hd => h d (List.mem_cons_of_mem _ hd)
    have h1 := specDecodeChunk_payload c hc (Bitmap.payloadBytes cs ++ rest)
    have hlen : (payloadOf c ++ (Bitmap.payloadBytes cs ++ rest)).length - (Bitmap.payloadBytes cs ++ rest).length
        = psize c := by
      rw [List.length_append, payloadOf_length c hc, Nat.add_sub_cancel]
    simp only [descrOf, List.map_cons, offsVals, List.cons_append, Spec.decodeChunks, ↓reduceIte, bind,
      Option.bind_some, pure]
    rw [payloadBytes_cons, List.append_assoc, h1]
    simp only [Option.bind_some, hlen]
    simp only [descrOf] at ih
    rw [ih]
    simp [Bitmap.elems, Container.elems]

theorem psize_le (c : Container) (h : StoreWF c.store) : psize c ≤ 8192 := by
  unfold psize
  cases hs : c.store with
  | array v =>
    rw [hs] at h
    exact Nat.mul_le_mul_right 2 h.2.2.2
  | bitmap b => simp

theorem offsetBytes_cons (c : Container) (cs : Bitmap) (off : Nat) :
    Bitmap.offsetBytes (c :: cs) off = u32le (off % 4294967296) ++ Bitmap.offsetBytes cs (off + psize c) := by
  unfold psize
  cases hs : c.store <;> simp [Bitmap.offsetBytes, hs]

theorem leInts_offsetBytes (b : Bitmap) (off : Nat) (h : ∀ c ∈ b, StoreWF c.store)
    (hle : off + 8192 * b.length ≤ 4294967296) :
    Spec.leInts 4 b.length (Bitmap.offsetBytes b off) = offsVals b off := by
  induction b generalizing off with
  | nil => rfl
  | cons c cs ih =>
    have hc := psize_le c (h c List.mem_cons_self)
    simp only [List.length_cons] at hle
    have hoff : off < 4294967296 :=
      Nat.lt_of_lt_of_le (Nat.lt_add_of_pos_right (Nat.mul_pos (by decide) (Nat.succ_pos _))) hle
    rw [offsetBytes_cons, List.length_cons, offsVals, Spec.leInts, List.take_left' (u32le_length _),
      List.drop_left' (u32le_length _), leNat_eq, leVal_u32le _ (Nat.mod_lt _ (by decide)), Nat.mod_eq_of_lt hoff,
      ih (off + psize c) (fun d hd => h d (List.mem_cons_of_mem _ hd)) (by omega)]

theorem specDecode_serialize (b : Bitmap) (h : BitmapWF b) (rest : List Nat) :
    Spec.decode (Bitmap.serialize b ++ rest) = some (Bitmap.elems b, rest) := by
  have hlen := h.length_le
  have hs : ∀ c ∈ b, StoreWF c.store := fun c hc => (h.2 c hc).2
  have hc : leVal (u32le 12346) = 12346 := by decide
  have hn : leVal (u32le (b.length % 4294967296)) = b.length := by
    rw [leVal_u32le _ (Nat.mod_lt _ (by decide))]
    exact Nat.mod_eq_of_lt (Nat.lt_of_le_of_lt hlen (by decide))
  have hdescr : Spec.toPairs (Spec.leInts 2 (2 * b.length) (Bitmap.descrBytes b)) = descrOf b := by
    rw [toPairs_eq, leInts_eq, ← leWords_of_length 2 (2 * b.length) _ (by decide)
      ((descrBytes_length b).trans (Nat.mul_assoc 2 2 _))]
    exact pairs_leWords_descrBytes b (fun c hc => (h.2 c hc).1)
  have hkeys : (descrOf b).map (·.1) = b.map (·.key) := by simp [descrOf]
  have hasc : Spec.strictAsc ((descrOf b).map (·.1)) = true := by
    rw [hkeys, strictAsc_eq]; exact (Arr.isStrictlySorted_iff _).mpr h.1
  have hoffs := leInts_offsetBytes b (8 + 8 * b.length) hs (Nat.le_trans
    (Nat.add_le_add (Nat.add_le_add_left (Nat.mul_le_mul_left 8 hlen) 8) (Nat.mul_le_mul_left 8192 hlen)) (by decide))
  have hpos : (u32le 12346 ++ (u32le (b.length % 4294967296) ++ (Bitmap.descrBytes b ++
      (Bitmap.offsetBytes b (8 + 8 * b.length) ++ (Bitmap.payloadBytes b ++ rest))))).length
      - (Bitmap.payloadBytes b ++ rest).length = 8 + 8 * b.length := by
    simp only [List.length_append, u32le_length, descrBytes_length, offsetBytes_length]; omega
  have hfin := specDecodeChunks_payload b 0 (8 + 8 * b.length) [] rest hs
  rw [List.append_nil] at hfin
  unfold Spec.decode Bitmap.serialize
  simp only [List.append_assoc]
  rw [takeN_append _ _ 4 (u32le_length _)]
  simp only [bind, Option.bind_some, leNat_eq, hc, ↓reduceIte]
  rw [takeN_append _ _ 4 (u32le_length _)]
  simp only [Option.bind_some, pure, hn, guard_true hlen]
  rw [takeN_append _ _ (4 * b.length) (descrBytes_length b)]
  simp only [Option.bind_some, hdescr, guard_true hasc, true_or, ↓reduceIte]
  rw [takeN_append _ _ (4 * b.length) (offsetBytes_length b _)]
  simp only [Option.bind_some, hoffs, hpos]
  exact hfin

theorem isBytes_append {l r : List Nat} (hl : IsBytes l) (hr : IsBytes r) : IsBytes (l ++ r) := by
  intro x hx
  rcases List.mem_append.mp hx with h | h
  · exact hl x h
  · exact hr x h

theorem isBytes_flatMap {α : Type} (l : List α) (f : α → List Nat) (h : ∀ a ∈ l, IsBytes (f a)) :
    IsBytes (l.flatMap f) := by
  intro x hx
  obtain ⟨a, ha, hxa⟩ := List.mem_flatMap.mp hx
  exact h a ha x hxa

theorem offsetBytes_isBytes : ∀ (b : Bitmap) (off : Nat), IsBytes (Bitmap.offsetBytes b off)
  | [], _ => by intro x hx; simp [Bitmap.offsetBytes] at hx
  | c :: cs, off => by
    rw [offsetBytes_cons]
    exact isBytes_append (u32le_bytes _) (offsetBytes_isBytes cs _)

theorem serialize_isBytes (b : Bitmap) : IsBytes (Bitmap.serialize b) := by
  unfold Bitmap.serialize
  refine isBytes_append (isBytes_append (isBytes_append (isBytes_append (u32le_bytes _) (u32le_bytes _)) ?_)
    (offsetBytes_isBytes b _)) ?_
  · exact isBytes_flatMap _ _ (fun c _ => isBytes_append (u16le_bytes _) (u16le_bytes _))
  · apply isBytes_flatMap
    intro c _
    cases c.store with
    | array v => exact isBytes_flatMap _ _ (fun x _ => u16le_bytes x)
    | bitmap bs => exact isBytes_flatMap _ _ (fun x _ => u64le_bytes x)

/-- decoding (either decoder, either build configuration) what `serialize` wrote, followed by anything,
    returns the value and leaves exactly what followed.  The reference decoder accepts the stream with the
    value's elements (`specDecode_serialize`), so the decoder returns a well-formed value with these elements
    (`decode_spec`), which is the value itself (`Bitmap.canonical`); what follows the stream is not looked at
    (`mono_deserializeG`). -/
theorem deserialize_serialize (chk dbg : Bool) (b : Bitmap) (h : BitmapWF b) (rest : List Nat) :
    deserialize chk dbg (Bitmap.serialize b ++ rest) = .ok (b, rest) := by
  have hs := specDecode_serialize b h []
  rw [List.append_nil] at hs
  obtain ⟨b', hd, hwf, he⟩ := decode_spec _ _ _ (serialize_isBytes b) hs
  rw [Bitmap.canonical b' b hwf h.toWF he] at hd
  exact append_rest _ (mono_deserializeG chk dbg) _ b (hd chk dbg) rest

end Roaring
