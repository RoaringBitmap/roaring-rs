import RoaringModel.Ser
import RoaringModel.Inv
import RoaringModel.SpecCodec
import RoaringModel.Lemmas.StoreFacts
/-!
# Well-formedness as `Prop`s (local to the codec lemmas; mirrors `storeWF` / `bitmapWF` of Driver/Core.lean)

`StoreWF` / `BitmapWF` are the flat forms used inside the codec lemmas; they are proved equivalent to the shared
`Store.WF` / `Bitmap.WF` of `Inv.lean` (`storeWF_iff`, `bitmapWF_iff`), and every property theorem about the
codecs is stated with `Bitmap.WF`.

After them, the byte-level facts the codec proofs share: the little-endian writers and readers, the sizes of the
parts of a stream, the cached cardinalities and the description table of a well-formed value.
-/
namespace Roaring

def StoreWF : Store → Prop
  | .array v => v.Pairwise (· < ·) ∧ (∀ x ∈ v, x < 65536) ∧ 0 < v.length ∧ v.length ≤ 4096
  | .bitmap b => b.bits.length = 1024 ∧ (∀ w ∈ b.bits, w < W) ∧ b.len = BStore.popSum b.bits ∧ 4096 < b.len

def BitmapWF (b : Bitmap) : Prop :=
  (b.map (·.key)).Pairwise (· < ·) ∧ ∀ c ∈ b, c.key < 65536 ∧ StoreWF c.store

theorem storeWF_iff : ∀ s : Store, StoreWF s ↔ s.WF
  | .array v => (Store.wf_array v).symm
  | .bitmap b => (Store.wf_bitmap b).symm

theorem bitmapWF_iff (b : Bitmap) : BitmapWF b ↔ Bitmap.WF b := by
  simp only [BitmapWF, Bitmap.WF, Container.WF, storeWF_iff]

theorem Bitmap.WF.toCodec {b : Bitmap} (h : Bitmap.WF b) : BitmapWF b := (bitmapWF_iff b).mpr h
theorem BitmapWF.toWF {b : Bitmap} (h : BitmapWF b) : Bitmap.WF b := (bitmapWF_iff b).mp h

theorem keysStrictlyAscending_eq : ∀ (b : List Container),
    keysStrictlyAscending b = Arr.isStrictlySorted (b.map (·.key))
  | [] => rfl
  | [_] => rfl
  | a :: b :: l => congrArg (decide (a.key < b.key) && ·) (keysStrictlyAscending_eq (b :: l))

theorem keysStrictlyAscending_iff (b : List Container) :
    keysStrictlyAscending b = true ↔ (b.map (·.key)).Pairwise (· < ·) := by
  rw [keysStrictlyAscending_eq]
  exact Arr.isStrictlySorted_iff _

/-! ### little-endian helpers

The fixed-width writers are the reference `Spec.leBytes` at widths 2, 4 and 8 (`u16le_eq`, `u32le_eq`,
`u64le_eq`); length, byte range and inversion by `leVal` are proved once, for every width. -/

theorem leBytes_lt (n : Nat) : ∀ v, ∀ x ∈ Spec.leBytes n v, x < 256 := by
  induction n with
  | zero => exact fun _ _ h => nomatch h
  | succ n ih =>
    intro v x hx
    rcases List.mem_cons.mp hx with rfl | hx
    · exact Nat.mod_lt _ (by decide)
    · exact ih _ x hx

theorem leVal_leBytes (n : Nat) : ∀ v, leVal (Spec.leBytes n v) = v % 256 ^ n := by
  induction n with
  | zero => exact fun v => (Nat.mod_one v).symm
  | succ n ih =>
    intro v
    rw [Spec.leBytes, leVal, ih, Nat.pow_succ, Nat.mul_comm (256 ^ n), Nat.mod_mul]

/-- only the low `n` digits of the value are written -/
theorem leBytes_mod (n : Nat) : ∀ v, Spec.leBytes n (v % 256 ^ n) = Spec.leBytes n v := by
  induction n with
  | zero => exact fun _ => rfl
  | succ n ih =>
    intro v
    rw [Spec.leBytes, Spec.leBytes, Nat.pow_succ, Nat.mod_mul_left_div_self, ih,
      Nat.mod_mod_of_dvd _ (Nat.dvd_mul_left 256 _)]

theorem leBytes_add (m n : Nat) : ∀ v, Spec.leBytes (m + n) v = Spec.leBytes m v ++ Spec.leBytes n (v / 256 ^ m) := by
  induction m with
  | zero => intro v; rw [Nat.zero_add, Nat.pow_zero, Nat.div_one]; rfl
  | succ m ih =>
    intro v
    rw [Nat.add_right_comm, Spec.leBytes, Spec.leBytes, ih, Nat.div_div_eq_div_mul, Nat.pow_succ, Nat.mul_comm]
    rfl

theorem u16le_eq (v : Nat) : u16le v = Spec.leBytes 2 v := rfl

theorem u32le_eq (v : Nat) : u32le v = Spec.leBytes 4 v := by
  simp only [Spec.leBytes, u32le, Nat.div_div_eq_div_mul]

theorem u64le_eq (v : Nat) : u64le v = Spec.leBytes 8 v := by
  show u32le (v % 256 ^ 4) ++ u32le (v / 256 ^ 4 % 256 ^ 4) = _
  rw [u32le_eq, u32le_eq, leBytes_mod, leBytes_mod, ← leBytes_add]

@[simp] theorem u16le_length (n : Nat) : (u16le n).length = 2 := rfl
@[simp] theorem u32le_length (n : Nat) : (u32le n).length = 4 := rfl
@[simp] theorem u64le_length (n : Nat) : (u64le n).length = 8 := rfl

theorem leVal_u16le (n : Nat) (h : n < 65536) : leVal (u16le n) = n :=
  (leVal_leBytes 2 n).trans (Nat.mod_eq_of_lt h)
theorem leVal_u32le (n : Nat) (h : n < 4294967296) : leVal (u32le n) = n := by
  rw [u32le_eq, leVal_leBytes]; exact Nat.mod_eq_of_lt h
theorem leVal_u64le (n : Nat) (h : n < 18446744073709551616) : leVal (u64le n) = n := by
  rw [u64le_eq, leVal_leBytes]; exact Nat.mod_eq_of_lt h

theorem u16le_bytes (n : Nat) : ∀ x ∈ u16le n, x < 256 := leBytes_lt 2 n
theorem u32le_bytes (n : Nat) : ∀ x ∈ u32le n, x < 256 := u32le_eq n ▸ leBytes_lt 4 n
theorem u64le_bytes (n : Nat) : ∀ x ∈ u64le n, x < 256 := u64le_eq n ▸ leBytes_lt 8 n

theorem leVal_lt : ∀ (bs : List Nat), (∀ x ∈ bs, x < 256) → leVal bs < 256 ^ bs.length
  | [], _ => Nat.one_pos
  | b :: bs, h => by
    have hb : b < 256 := h b List.mem_cons_self
    have ih : leVal bs + 1 ≤ 256 ^ bs.length := leVal_lt bs (fun x hx => h x (List.mem_cons_of_mem _ hx))
    calc b + 256 * leVal bs < 256 * (leVal bs + 1) := by omega
      _ ≤ 256 * 256 ^ bs.length := Nat.mul_le_mul_left 256 ih
      _ = 256 ^ (bs.length + 1) := (Nat.pow_succ').symm

theorem leWordsN_length (n : Nat) : ∀ (cnt : Nat) (bs : List Nat), (leWordsN n cnt bs).length = cnt
  | 0, _ => rfl
  | cnt+1, bs => by simp [leWordsN, leWordsN_length n cnt]

theorem leWords_length (n : Nat) (bs : List Nat) : (leWords n bs).length = bs.length / n := by
  simp [leWords, leWordsN_length]

theorem leWordsN_lt (n : Nat) : ∀ (cnt : Nat) (bs : List Nat), (∀ x ∈ bs, x < 256) →
    ∀ w ∈ leWordsN n cnt bs, w < 256 ^ n
  | 0, _, _ => by simp [leWordsN]
  | cnt+1, bs, h => by
    intro w hw
    simp only [leWordsN, List.mem_cons] at hw
    rcases hw with rfl | hw
    · have h1 := leVal_lt (bs.take n) (fun x hx => h x (List.mem_of_mem_take hx))
      exact Nat.lt_of_lt_of_le h1 (Nat.pow_le_pow_right (by decide) (List.length_take_le n bs))
    · exact leWordsN_lt n cnt (bs.drop n) (fun x hx => h x (List.mem_of_mem_drop hx)) w hw

theorem leWords_lt (n : Nat) (bs : List Nat) (h : ∀ x ∈ bs, x < 256) : ∀ w ∈ leWords n bs, w < 256 ^ n :=
  leWordsN_lt n _ bs h

/-- the number of payload bytes of one container (`payloadOf_length`) -/
def psize (c : Container) : Nat := match c.store with
  | .array v => v.length * 2
  | .bitmap _ => 8192

theorem length_flatMap_of_length {α : Type} (f : α → List Nat) (n : Nat) (hf : ∀ x, (f x).length = n) :
    ∀ l : List α, (l.flatMap f).length = l.length * n
  | [] => (Nat.zero_mul n).symm
  | x :: xs => by
    rw [List.flatMap_cons, List.length_append, hf, length_flatMap_of_length f n hf xs, List.length_cons,
      Nat.succ_mul, Nat.add_comm]

theorem flatMap_u16le_length (v : List Nat) : (v.flatMap u16le).length = v.length * 2 :=
  length_flatMap_of_length u16le 2 u16le_length v

theorem flatMap_u64le_length (v : List Nat) : (v.flatMap u64le).length = v.length * 8 :=
  length_flatMap_of_length u64le 8 u64le_length v

theorem descrBytes_length (b : Bitmap) : (Bitmap.descrBytes b).length = 4 * b.length :=
  (length_flatMap_of_length _ 4 (fun _ => rfl) b).trans (Nat.mul_comm _ _)

theorem offsetBytes_length : ∀ (b : Bitmap) (off : Nat), (Bitmap.offsetBytes b off).length = 4 * b.length
  | [], _ => rfl
  | c :: cs, off => by
    rw [Bitmap.offsetBytes, List.length_append, u32le_length, offsetBytes_length cs, List.length_cons,
      Nat.mul_succ, Nat.add_comm]

def payloadOf (c : Container) : List Nat := match c.store with
  | .array v => v.flatMap u16le
  | .bitmap bs => bs.bits.flatMap u64le

theorem payloadBytes_cons (c : Container) (cs : Bitmap) :
    Bitmap.payloadBytes (c :: cs) = payloadOf c ++ Bitmap.payloadBytes cs := by
  simp only [Bitmap.payloadBytes, List.flatMap_cons, payloadOf]
  congr 1

theorem payloadOf_length (c : Container) (h : StoreWF c.store) : (payloadOf c).length = psize c := by
  unfold payloadOf psize
  cases hs : c.store with
  | array v => exact flatMap_u16le_length v
  | bitmap b =>
    rw [hs] at h
    exact (flatMap_u64le_length _).trans (congrArg (· * 8) h.1)

theorem payloadBytes_length (b : Bitmap) (h : ∀ c ∈ b, StoreWF c.store) :
    (Bitmap.payloadBytes b).length = (b.map psize).sum := by
  induction b with
  | nil => rfl
  | cons c cs ih =>
    rw [payloadBytes_cons, List.length_append, payloadOf_length c (h c List.mem_cons_self),
      ih fun d hd => h d (List.mem_cons_of_mem _ hd), List.map_cons, List.sum_cons]

theorem foldl_add_eq {α : Type} (g : α → Nat) : ∀ (l : List α) (a : Nat),
    l.foldl (fun acc c => acc + g c) a = a + (l.map g).sum
  | [], a => by simp
  | x :: xs, a => by simp only [List.foldl_cons, foldl_add_eq g xs, List.map_cons, List.sum_cons]; omega

theorem serializedSize_eq (b : Bitmap) : Bitmap.serializedSize b = 8 + 8 * b.length + (b.map psize).sum := by
  have key : ∀ g : Container → Nat, (∀ c, g c = 8 + psize c) → ∀ l : Bitmap,
      (l.map g).sum = 8 * l.length + (l.map psize).sum := by
    intro g hg l
    induction l with
    | nil => rfl
    | cons c cs ih => rw [List.map_cons, List.sum_cons, ih, hg, List.length_cons, List.map_cons, List.sum_cons]; omega
  rw [Bitmap.serializedSize, foldl_add_eq, key _ (fun c => by unfold psize; cases c.store <;> rfl)]
  omega

theorem Bitmap.serialize_length (b : Bitmap) (h : BitmapWF b) :
    (Bitmap.serialize b).length = Bitmap.serializedSize b := by
  unfold Bitmap.serialize
  simp only [List.length_append, u32le_length, descrBytes_length, offsetBytes_length,
    payloadBytes_length b (fun c hc => (h.2 c hc).2), serializedSize_eq]
  omega

theorem leWordsN_flatMap (n : Nat) (enc : Nat → List Nat) (hlen : ∀ x, (enc x).length = n) (v rest : List Nat) :
    (∀ x ∈ v, leVal (enc x) = x) → leWordsN n v.length (v.flatMap enc ++ rest) = v := by
  induction v with
  | nil => exact fun _ => rfl
  | cons x xs ih =>
    intro h
    rw [List.length_cons, leWordsN, List.flatMap_cons, List.append_assoc, List.take_left' (hlen x),
      List.drop_left' (hlen x), h x List.mem_cons_self, ih fun y hy => h y (List.mem_cons_of_mem _ hy)]

theorem leWords_flatMap (n : Nat) (enc : Nat → List Nat) (hn : 0 < n) (hlen : ∀ x, (enc x).length = n)
    (v : List Nat) (h : ∀ x ∈ v, leVal (enc x) = x) : leWords n (v.flatMap enc) = v := by
  rw [leWords, length_flatMap_of_length enc n hlen, Nat.mul_div_cancel _ hn]
  have := leWordsN_flatMap n enc hlen v [] h
  rwa [List.append_nil] at this

theorem StoreWF.len_bounds {s : Store} (h : StoreWF s) : 1 ≤ s.len ∧ s.len ≤ 65536 := by
  have hw := (storeWF_iff s).mp h
  have hi := Store.wf_inv s hw
  rw [Store.len_eq s hi]
  exact ⟨List.length_pos_iff.mpr (Store.wf_elems_ne s hw),
    (Arr.sorted_bounded_length _ (Store.sorted_elems s hi) 0 65536 fun x hx =>
      ⟨Nat.zero_le _, (Nat.zero_add _).symm ▸ Store.elems_lt s hi x hx⟩).1⟩

theorem card_roundtrip {s : Store} (h : StoreWF s) : (s.len - 1) % 65536 + 1 = s.len := by
  obtain ⟨h1, h2⟩ := h.len_bounds
  rw [Nat.mod_eq_of_lt (Nat.lt_of_lt_of_le (Nat.sub_lt h1 Nat.one_pos) h2), Nat.sub_add_cancel h1]

def descrOf (b : Bitmap) : List (Nat × Nat) := b.map fun c => (c.key, (c.len - 1) % 65536)

theorem pairs_flatMap {α : Type} (f g : α → Nat) : ∀ l : List α,
    pairs (l.flatMap fun c => [f c, g c]) = l.map fun c => (f c, g c)
  | [] => rfl
  | x :: xs => by simp [pairs, pairs_flatMap f g xs]

theorem descrBytes_eq (b : Bitmap) :
    Bitmap.descrBytes b = (b.flatMap fun c => [c.key, (c.len - 1) % 65536]).flatMap u16le := by
  unfold Bitmap.descrBytes
  induction b with
  | nil => rfl
  | cons c cs ih => simp only [List.flatMap_cons, List.flatMap_append, ih]; simp

theorem pairs_leWords_descrBytes (b : Bitmap) (hk : ∀ c ∈ b, c.key < 65536) :
    pairs (leWords 2 (Bitmap.descrBytes b)) = descrOf b := by
  rw [descrBytes_eq, leWords_flatMap 2 u16le (by decide) u16le_length, pairs_flatMap]
  · rfl
  · intro x hx
    simp only [List.mem_flatMap, List.mem_cons, List.not_mem_nil, or_false] at hx
    obtain ⟨c, hc, rfl | rfl⟩ := hx
    · exact leVal_u16le _ (hk c hc)
    · exact leVal_u16le _ (Nat.mod_lt _ (by decide))

theorem BitmapWF.length_le {b : Bitmap} (h : BitmapWF b) : b.length ≤ 65536 := by
  have := (Arr.sorted_bounded_length _ h.1 0 65536 fun x hx => by
    obtain ⟨c, hc, rfl⟩ := List.mem_map.mp hx
    exact ⟨Nat.zero_le _, (Nat.zero_add _).symm ▸ (h.2 c hc).1⟩).1
  rwa [List.length_map] at this

theorem storeWF_not_empty {s : Store} (h : StoreWF s) : s.isEmpty = false := by
  have hw := (storeWF_iff s).mp h
  rw [Store.isEmpty_spec s (Store.wf_inv s hw)]
  exact List.isEmpty_eq_false_iff.mpr (Store.wf_elems_ne s hw)

end Roaring
