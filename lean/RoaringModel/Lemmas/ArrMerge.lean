import RoaringModel.Lemmas.ArrFacts
/-!
# ArrayStore two-pointer merges (scalar.rs) and the array-level relations

The four merges `Arr.or / and / sub / xor` are instances of one merge `Arr.merge f`, where `f` says which values
to keep given on which sides they occur; membership and sortedness are proved once, for `merge`.
`interLen = (and …).length`; `isSubset` / `isDisjoint` ask whether `sub` / `and` come out empty; the in-place
`retain` variants `andAssign` / `subAssign` (galloping index) equal the merges on sorted input.
-/
namespace Roaring
namespace Arr

def keepIf (c : Bool) (t : List Nat) : List Nat := if c then t else []

theorem mem_keepIf (c : Bool) (t : List Nat) (x : Nat) : x ∈ keepIf c t ↔ c = true ∧ x ∈ t := by
  cases c <;> simp [keepIf]

theorem keepIf_sublist (c : Bool) (t : List Nat) : (keepIf c t).Sublist t := by
  cases c
  · exact List.nil_sublist t
  · exact List.Sublist.refl t

theorem sorted_keepIf_append (c : Bool) (a : Nat) (t : List Nat) (h : ∀ x ∈ t, a < x) (ht : Sorted t) :
    Sorted (keepIf c [a] ++ t) := by
  cases c
  · exact ht
  · exact List.pairwise_cons.mpr ⟨h, ht⟩

/-- The two-pointer merge of `scalar.rs` with its decisions as a parameter: a value found on the left only is kept
    iff `f true false`, on the right only iff `f false true`, on both sides iff `f true true`. -/
def merge (f : Bool → Bool → Bool) : List Nat → List Nat → List Nat
  | [], r => keepIf (f false true) r
  | l, [] => keepIf (f true false) l
  | a :: l, b :: r =>
    if a < b then keepIf (f true false) [a] ++ merge f l (b :: r)
    else if b < a then keepIf (f false true) [b] ++ merge f (a :: l) r
    else keepIf (f true true) [a] ++ merge f l r
termination_by l r => l.length + r.length

theorem or_eq_merge (l r : List Nat) : or l r = merge (· || ·) l r := by
  fun_induction or l r <;> simp [merge, keepIf, *]
theorem and_eq_merge (l r : List Nat) : and l r = merge (· && ·) l r := by
  fun_induction and l r <;> simp [merge, keepIf, *]
theorem sub_eq_merge (l r : List Nat) : sub l r = merge (fun p q => p && !q) l r := by
  fun_induction sub l r <;> simp [merge, keepIf, *]
theorem xor_eq_merge (l r : List Nat) : xor l r = merge (· != ·) l r := by
  fun_induction xor l r <;> simp [merge, keepIf, *]

theorem not_mem_of_lt {a : Nat} {l : List Nat} (h : ∀ y ∈ l, a < y) : a ∉ l :=
  fun hm => Nat.lt_irrefl _ (h a hm)

theorem lt_of_lt_head {a b : Nat} {r : List Nat} (hab : a < b) (hr : Sorted (b :: r)) : ∀ y ∈ b :: r, a < y := by
  intro y hy
  rcases List.mem_cons.mp hy with rfl | hy
  · exact hab
  · exact Nat.lt_trans hab ((List.pairwise_cons.mp hr).1 y hy)

/-- On sorted operands the merge keeps exactly the values of either side that `f` selects.  In each step the smaller
    head `a` occurs in neither tail, so it is decided by `f` at once and the rest is the induction hypothesis. -/
theorem mem_merge (f : Bool → Bool → Bool) (l r : List Nat) (hl : Sorted l) (hr : Sorted r) (x : Nat) :
    x ∈ merge f l r ↔ (x ∈ l ∨ x ∈ r) ∧ f (decide (x ∈ l)) (decide (x ∈ r)) = true := by
  fun_induction merge f l r with
  | case1 r => by_cases hx : x ∈ r <;> simp [mem_keepIf, hx]
  | case2 l _ => by_cases hx : x ∈ l <;> simp [mem_keepIf, hx]
  | case3 a l b r hab ih =>
    have hl' := List.pairwise_cons.mp hl
    rw [List.mem_append, mem_keepIf, ih hl'.2 hr]
    by_cases hx : x = a <;> simp [hx, not_mem_of_lt hl'.1, not_mem_of_lt (lt_of_lt_head hab hr)]
  | case4 a l b r _ hba ih =>
    have hr' := List.pairwise_cons.mp hr
    rw [List.mem_append, mem_keepIf, ih hl hr'.2]
    by_cases hx : x = b <;> simp [hx, not_mem_of_lt hr'.1, not_mem_of_lt (lt_of_lt_head hba hl)]
  | case5 a l b r hab hba ih =>
    obtain rfl : a = b := by omega
    have hl' := List.pairwise_cons.mp hl
    have hr' := List.pairwise_cons.mp hr
    rw [List.mem_append, mem_keepIf, ih hl'.2 hr'.2]
    by_cases hx : x = a <;> simp [hx, not_mem_of_lt hl'.1, not_mem_of_lt hr'.1]

theorem lt_merge {f : Bool → Bool → Bool} {l r : List Nat} (hl : Sorted l) (hr : Sorted r) {m : Nat}
    (h1 : ∀ x ∈ l, m < x) (h2 : ∀ x ∈ r, m < x) : ∀ x ∈ merge f l r, m < x :=
  fun x hx => ((mem_merge f l r hl hr x).mp hx).1.elim (h1 x) (h2 x)

theorem sorted_merge (f : Bool → Bool → Bool) (l r : List Nat) (hl : Sorted l) (hr : Sorted r) :
    Sorted (merge f l r) := by
  fun_induction merge f l r with
  | case1 r => exact List.Pairwise.sublist (keepIf_sublist _ r) hr
  | case2 l _ => exact List.Pairwise.sublist (keepIf_sublist _ l) hl
  | case3 a l b r hab ih =>
    have hl' := List.pairwise_cons.mp hl
    exact sorted_keepIf_append _ _ _ (lt_merge hl'.2 hr hl'.1 (lt_of_lt_head hab hr)) (ih hl'.2 hr)
  | case4 a l b r _ hba ih =>
    have hr' := List.pairwise_cons.mp hr
    exact sorted_keepIf_append _ _ _ (lt_merge hl hr'.2 (lt_of_lt_head hba hl) hr'.1) (ih hl hr'.2)
  | case5 a l b r hab hba ih =>
    obtain rfl : a = b := by omega
    have hl' := List.pairwise_cons.mp hl
    have hr' := List.pairwise_cons.mp hr
    exact sorted_keepIf_append _ _ _ (lt_merge hl'.2 hr'.2 hl'.1 hr'.1) (ih hl'.2 hr'.2)

theorem inv_merge (f : Bool → Bool → Bool) (l r : List Nat) (hl : Arr.Inv l) (hr : Arr.Inv r) :
    Arr.Inv (merge f l r) :=
  ⟨sorted_merge f l r hl.1 hr.1, fun x hx => ((mem_merge f l r hl.1 hr.1 x).mp hx).1.elim (hl.2 x) (hr.2 x)⟩

/-- `or` needs no sortedness: it drops nothing but one copy of a common head -/
theorem mem_or (l r : List Nat) (x : Nat) : x ∈ or l r ↔ x ∈ l ∨ x ∈ r := by
  fun_induction or l r <;> grind
theorem sorted_or (l r : List Nat) (hl : Sorted l) (hr : Sorted r) : Sorted (or l r) :=
  or_eq_merge l r ▸ sorted_merge _ l r hl hr

theorem mem_and (l r : List Nat) (hl : Sorted l) (hr : Sorted r) (x : Nat) :
    x ∈ and l r ↔ x ∈ l ∧ x ∈ r := by
  rw [and_eq_merge, mem_merge _ l r hl hr]
  by_cases h1 : x ∈ l <;> simp [h1]
theorem sorted_and (l r : List Nat) (hl : Sorted l) (hr : Sorted r) : Sorted (and l r) :=
  and_eq_merge l r ▸ sorted_merge _ l r hl hr

theorem and_eq_filter (l r : List Nat) (hl : Sorted l) (hr : Sorted r) :
    and l r = l.filter (fun x => decide (x ∈ r)) := by
  apply sorted_ext _ _ (sorted_and l r hl hr) (sorted_filter hl _)
  intro x; rw [mem_and l r hl hr]; simp

theorem and_comm (l r : List Nat) (hl : Sorted l) (hr : Sorted r) : and l r = and r l := by
  apply sorted_ext _ _ (sorted_and l r hl hr) (sorted_and r l hr hl)
  intro x; rw [mem_and l r hl hr, mem_and r l hr hl]; exact And.comm

theorem mem_sub (l r : List Nat) (hl : Sorted l) (hr : Sorted r) (x : Nat) :
    x ∈ sub l r ↔ x ∈ l ∧ x ∉ r := by
  rw [sub_eq_merge, mem_merge _ l r hl hr]
  by_cases h1 : x ∈ l <;> simp [h1]
theorem sorted_sub (l r : List Nat) (hl : Sorted l) (hr : Sorted r) : Sorted (sub l r) :=
  sub_eq_merge l r ▸ sorted_merge _ l r hl hr

theorem mem_xor (l r : List Nat) (hl : Sorted l) (hr : Sorted r) (x : Nat) :
    x ∈ xor l r ↔ (x ∈ l ∧ x ∉ r) ∨ (x ∉ l ∧ x ∈ r) := by
  rw [xor_eq_merge, mem_merge _ l r hl hr]
  by_cases h1 : x ∈ l <;> by_cases h2 : x ∈ r <;> simp [h1, h2]
theorem sorted_xor (l r : List Nat) (hl : Sorted l) (hr : Sorted r) : Sorted (xor l r) :=
  xor_eq_merge l r ▸ sorted_merge _ l r hl hr

theorem interLen_eq (l r : List Nat) : interLen l r = (and l r).length := by
  fun_induction interLen l r <;> simp [and, *] <;> omega

theorem or_nil_right (l : List Nat) : or l [] = l := by cases l <;> simp [or]
theorem xor_nil_right (l : List Nat) : xor l [] = l := by cases l <;> simp [xor]
theorem and_nil_right (l : List Nat) : and l [] = [] := by cases l <;> simp [and]
theorem sub_nil_right (l : List Nat) : sub l [] = l := by cases l <;> simp [sub]

/-- `is_subset` runs `sub` and gives up at the first value it would keep -/
theorem isSubset_eq (l r : List Nat) : isSubset l r = (sub l r).isEmpty := by
  fun_induction isSubset l r with
  | case5 a l b r hne hlt ih =>
    have : b < a := by omega
    simp [sub, *]
  | _ => simp [sub, *]

/-- `is_disjoint` runs `and` and gives up at the first value it would keep -/
theorem isDisjoint_eq (l r : List Nat) : isDisjoint l r = (and l r).isEmpty := by
  fun_induction isDisjoint l r with
  | case5 a l b r hne hlt ih =>
    have : b < a := by omega
    simp [and, *]
  | _ => simp [and, and_nil_right, *]

theorem isSubset_spec (l r : List Nat) (hl : Sorted l) (hr : Sorted r) :
    isSubset l r = true ↔ ∀ x ∈ l, x ∈ r := by
  rw [isSubset_eq, List.isEmpty_iff, List.eq_nil_iff_forall_not_mem]
  exact forall_congr' fun x => by rw [mem_sub l r hl hr, not_and, Decidable.not_not]

theorem isDisjoint_spec (l r : List Nat) (hl : Sorted l) (hr : Sorted r) :
    isDisjoint l r = true ↔ ∀ x ∈ l, x ∉ r := by
  rw [isDisjoint_eq, List.isEmpty_iff, List.eq_nil_iff_forall_not_mem]
  exact forall_congr' fun x => by rw [mem_and l r hl hr, not_and]

/-! ### the in-place `retain` forms with the galloping index

Both `&=` and `-=` drop the values found on the right only (`f false true = false`); that is what lets the index
gallop. -/

theorem merge_nil_right (f : Bool → Bool → Bool) (l : List Nat) : merge f l [] = keepIf (f true false) l := by
  cases l <;> simp [merge, keepIf]

theorem merge_gallop {f : Bool → Bool → Bool} (hf : f false true = false) (x : Nat) (l rest : List Nat) :
    merge f (x :: l) (gallop rest x) = merge f (x :: l) rest := by
  induction rest with
  | nil => rfl
  | cons b r ih =>
    by_cases h : b < x
    · have h' : ¬ x < b := by omega
      simp only [gallop, List.dropWhile_cons, h, decide_true, ↓reduceIte] at ih ⊢
      rw [ih]; simp [merge, h, h', hf, keepIf]
    · simp [gallop, h]

theorem gallop_head (rest : List Nat) (x b : Nat) (r : List Nat) (h : gallop rest x = b :: r) : ¬ b < x := by
  induction rest with
  | nil => simp [gallop] at h
  | cons c cs ih =>
    by_cases hc : c < x
    · simp only [gallop, List.dropWhile_cons, hc, decide_true, ↓reduceIte] at h
      exact ih h
    · simp only [gallop, List.dropWhile_cons, hc, decide_false, Bool.false_eq_true, ↓reduceIte,
        List.cons.injEq] at h
      omega

theorem merge_skip {f : Bool → Bool → Bool} (hf : f false true = false) (x : Nat) (l r : List Nat)
    (h : ∀ y ∈ l, x < y) : merge f l (x :: r) = merge f l r := by
  cases l with
  | nil => simp [merge, hf, keepIf]
  | cons a l =>
    have := h a (by simp)
    have h' : ¬ a < x := by omega
    simp [merge, this, h', hf, keepIf]

/-- one round of `retain`: gallop to the left head `x`, decide it by whether it is found, go on with the rest -/
theorem merge_cons_gallop {f : Bool → Bool → Bool} (hf : f false true = false) (x : Nat) (l rest : List Nat)
    (hl : Sorted (x :: l)) :
    merge f (x :: l) rest
      = keepIf (f true ((gallop rest x).head? == some x)) [x] ++ merge f l (gallop rest x) := by
  rw [← merge_gallop hf]
  cases hg : gallop rest x with
  | nil => cases hk : f true false <;> simp [merge_nil_right, keepIf, hk]
  | cons b r' =>
    have hb := gallop_head rest x b r' hg
    by_cases hbx : b = x
    · subst hbx
      simp [merge, merge_skip hf b l r' (List.pairwise_cons.mp hl).1]
    · have : x < b := by omega
      have hne : (b == x) = false := by simp [hbx]
      simp [merge, this, hne]

/-- array_store/mod.rs:374 — `lhs &= &rhs` (retain + galloping index) computes the scalar `and` merge -/
theorem andAssign_eq_and (l r : List Nat) (hl : Sorted l) : andAssign l r = and l r := by
  induction l generalizing r with
  | nil => simp [andAssign, and]
  | cons x l ih =>
    rw [and_eq_merge, merge_cons_gallop rfl x l r hl, ← and_eq_merge, ← ih _ (List.pairwise_cons.mp hl).2]
    simp only [andAssign]
    cases (gallop r x).head? == some x <;> rfl

/-- array_store/mod.rs:413 — `lhs -= &rhs` computes the scalar `sub` merge -/
theorem subAssign_eq_sub (l r : List Nat) (hl : Sorted l) : subAssign l r = sub l r := by
  induction l generalizing r with
  | nil => simp [subAssign, sub]
  | cons x l ih =>
    rw [sub_eq_merge, merge_cons_gallop rfl x l r hl, ← sub_eq_merge, ← ih _ (List.pairwise_cons.mp hl).2]
    simp only [subAssign]
    cases (gallop r x).head? == some x <;> rfl

end Arr
end Roaring
