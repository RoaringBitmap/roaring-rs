import RoaringModel.Lemmas.BitmapOps
/-!
# Bitmap level: `is_disjoint`, `is_subset` (cmp.rs) over `Pairs`

First what `Spec.isSubset` / `Spec.isDisjoint` decide on sorted lists.  Then the relations as the SPEC defines them:
`is_disjoint` answers whether `&a & &b` is empty, `is_subset` whether `&a - &b` is — chunk by chunk
(`Container.isDisjoint_eq_and`, `isSubset_eq_sub`) and along `Pairs` (`all_eq_isEmpty`: the relation loop fails on exactly
the pairs for which the materialising loop keeps a chunk), so they are decided by the exactness of those two operations.
-/
namespace Roaring

namespace Spec

theorem isSubset_iff (l r : List Nat) (hl : Roaring.Sorted l) (hr : Roaring.Sorted r) :
    isSubset l r = true ↔ ∀ y, y ∈ l → y ∈ r := by
  unfold isSubset
  simp only [List.isEmpty_iff, List.eq_nil_iff_forall_not_mem, mem_sSub l r hl hr, not_and, Classical.not_not]

theorem isDisjoint_iff (l r : List Nat) (hl : Roaring.Sorted l) (hr : Roaring.Sorted r) :
    isDisjoint l r = true ↔ ∀ y, y ∈ l → ¬ y ∈ r := by
  unfold isDisjoint
  simp only [List.isEmpty_iff, List.eq_nil_iff_forall_not_mem, mem_sAnd l r hl hr, not_and]

end Spec

namespace Container

/-- container.rs:152 `is_disjoint` answers whether `&a & &b` is empty -/
theorem isDisjoint_eq_and (a b : Container) (ha : a.store.Inv) (hb : b.store.Inv) :
    a.isDisjoint b = (a.andRef b).isEmpty := by
  obtain ⟨_, hc, hm⟩ := op_spec Store.andRef_spec a b ha hb
  refine Bool.eq_iff_iff.mpr ((isDisjoint_spec a b ha hb).trans (Iff.trans ?_ (isEmpty_iff _ hc).symm))
  rw [List.eq_nil_iff_forall_not_mem]
  exact forall_congr' fun x => by rw [hm]; exact not_and.symm

/-- container.rs:156 `is_subset` answers whether `&a - &b` is empty -/
theorem isSubset_eq_sub (a b : Container) (ha : a.store.Canon) (hb : b.store.Canon) :
    a.isSubset b = (a.subRef b).isEmpty := by
  obtain ⟨_, hc, hm⟩ := op_spec Store.subRef_spec a b (Store.canon_inv _ ha) (Store.canon_inv _ hb)
  refine Bool.eq_iff_iff.mpr ((isSubset_spec a b ha hb).trans (Iff.trans ?_ (isEmpty_iff _ hc).symm))
  rw [List.eq_nil_iff_forall_not_mem]
  refine forall_congr' fun x => ?_
  rw [hm]
  exact ⟨fun h hc => hc.2 (h hc.1), fun h hx => Classical.byContradiction fun hn => h ⟨hx, hn⟩⟩

end Container

namespace Bitmap

/-- the per-pair test of `is_subset` (`gl = false`) and `is_disjoint` (`gl = true`) -/
def gAll (gl : Bool) (h : Container → Container → Bool) : Option Container × Option Container → Bool
  | (none, _) => true
  | (some _, none) => gl
  | (some l, some r) => h l r

theorem consOpt_isEmpty (o : Option Container) (rest : Bitmap) :
    isEmpty (consOpt o rest) = (o.isNone && isEmpty rest) := by
  cases o <;> rfl

/-- a relation loop of cmp.rs fails on exactly the pairs for which the materialising `Pairs` loop keeps a chunk -/
theorem all_eq_isEmpty {gl kl chk : Bool} {h : Container → Container → Bool} {f : Container → Container → Container}
    (hgl : gl = !kl) (hB : ∀ l r : Container, l.WF → r.WF → h l r = (chk && (f l r).isEmpty)) :
    ∀ a b : Bitmap, WF a → WF b → (pairs a b).all (gAll gl h) = isEmpty (pairsOp kl false chk f a b) := by
  refine pairs_induction ?_ ?_ ?_ ?_
  · rw [pairsOp, pairs]
    rfl
  · intro l ls bs ha hb hbs hp ih
    rw [hp, pairsOp_cons hp, List.all_cons, ih, consOpt_isEmpty, hgl]
    cases kl <;> rfl
  · intro r as rs ha hb has hp ih
    rw [hp, pairsOp_cons hp, List.all_cons, ih, consOpt_isEmpty]
    rfl
  · intro l r ls rs ha hb hkey hp ih
    rw [hp, pairsOp_cons hp, List.all_cons, ih, consOpt_isEmpty]
    have e : (gOp kl false chk f (some l, some r)).isNone = (chk && (f l r).isEmpty) := by
      show (if (chk && (f l r).isEmpty) = true then none else some (f l r)).isNone = _
      cases (chk && (f l r).isEmpty) <;> rfl
    rw [e, ← hB l r (ha.2 l List.mem_cons_self) (hb.2 r List.mem_cons_self)]
    rfl

theorem isSubset_eq (a b : Bitmap) : isSubset a b = (pairs a b).all (gAll false Container.isSubset) := by
  unfold isSubset
  congr 1

theorem isDisjoint_eq (a b : Bitmap) : isDisjoint a b = (pairs a b).all (gAll true Container.isDisjoint) := by
  unfold isDisjoint
  congr 1; funext p
  rcases p with ⟨_ | l, _ | r⟩ <;> rfl

/-- cmp.rs:58 `is_subset` is the SPEC relation: `&a - &b` is empty -/
theorem isSubset_eq_spec (a b : Bitmap) (ha : WF a) (hb : WF b) :
    isSubset a b = Spec.isSubset (elems a) (elems b) := by
  have h := pairsOp_exact oper_sub (f := Container.subRef) (fun _ _ => rfl) Store.subRef_spec a b ha hb
  rw [isSubset_eq, all_eq_isEmpty (gl := false) (kl := true) (chk := true) (f := Container.subRef) rfl (fun l r hl hr =>
    Container.isSubset_eq_sub l r (Store.wf_canon _ hl.2) (Store.wf_canon _ hr.2)) a b ha hb, isEmpty_spec _ h.1, h.2]
  rfl

/-- cmp.rs:29 `is_disjoint` is the SPEC relation: `&a & &b` is empty -/
theorem isDisjoint_eq_spec (a b : Bitmap) (ha : WF a) (hb : WF b) :
    isDisjoint a b = Spec.isDisjoint (elems a) (elems b) := by
  have h := pairsOp_exact oper_and (f := Container.andRef) (fun _ _ => rfl) Store.andRef_spec a b ha hb
  rw [isDisjoint_eq, all_eq_isEmpty (gl := true) (kl := false) (chk := true) (f := Container.andRef) rfl (fun l r hl hr =>
    Container.isDisjoint_eq_and l r (Store.wf_inv _ hl.2) (Store.wf_inv _ hr.2)) a b ha hb, isEmpty_spec _ h.1, h.2]
  rfl

theorem isSubset_spec (a b : Bitmap) (ha : WF a) (hb : WF b) :
    isSubset a b = true ↔ ∀ y, y ∈ elems a → y ∈ elems b := by
  rw [isSubset_eq_spec a b ha hb]
  exact Spec.isSubset_iff _ _ (sorted_elems a ha.dir) (sorted_elems b hb.dir)

theorem isDisjoint_spec (a b : Bitmap) (ha : WF a) (hb : WF b) :
    isDisjoint a b = true ↔ ∀ y, y ∈ elems a → ¬ y ∈ elems b := by
  rw [isDisjoint_eq_spec a b ha hb]
  exact Spec.isDisjoint_iff _ _ (sorted_elems a ha.dir) (sorted_elems b hb.dir)

end Bitmap
end Roaring
