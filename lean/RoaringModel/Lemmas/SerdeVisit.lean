import RoaringModel.Serde
/-!
# The serde visitor hands every delivery of a byte string to the same decoder
-/
namespace Roaring
namespace Serde
variable {α ε : Type} (decode : List Nat → Except ε (α × List Nat))

/-- collecting a sequence of `u8` gives back the byte string (`visit_seq` = `visit_bytes`) -/
theorem visitSeqOf_eq (els : List Nat) : visitSeqOf decode els = visitBytesOf decode els :=
  congrArg (visitBytesOf decode) (List.foldr_cons_nil (l := els))

variable {decode}

/-- if the decoder reads `bs` as `v` (whatever it leaves unread), the visitor yields `v` however `bs` is
    delivered -/
theorem visitOf_ok {bs rest : List Nat} {v : α} (h : decode bs = .ok (v, rest)) :
    visitOf decode (.bytes bs) = .ok v ∧ visitOf decode (.borrowedBytes bs) = .ok v ∧
    visitOf decode (.byteBuf bs) = .ok v ∧ visitOf decode (.seq bs) = .ok v := by
  have hb : visitBytesOf decode bs = .ok v := by rw [visitBytesOf, h]; rfl
  exact ⟨hb, hb, hb, (visitSeqOf_eq decode bs).trans hb⟩

end Serde
end Roaring
