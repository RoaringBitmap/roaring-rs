import RoaringModel.Lemmas.WordLemmas
/-!
# BitmapStore basics (bitmap_store.rs): the abstraction `toArray`, single-bit operations, min/max, conversions

All statements are about `Roaring.BStore.*` (BitmapStore.lean) under `BStore.Inv b`
(1024 words < 2^64, cached `len` = number of set bits).  `BStore.test b i` is bit `i`.
-/
namespace Roaring

theorem wbit_lt (i : Nat) : wbit i < 64 := Nat.mod_lt _ (by decide)

namespace BStore

theorem Inv.wkey_lt {b : BStore} (hb : b.Inv) {i : Nat} (hi : i < 65536) : wkey i < b.bits.length := by
  rw [hb.length]
  exact Nat.div_lt_of_lt_mul hi

theorem toArrayFrom_nil (k : Nat) : toArrayFrom k [] = [] := rfl

theorem toArrayFrom_cons (k w : Nat) (ws : List Nat) (h : w < 2^64) :
    toArrayFrom k (w :: ws) = bitsOf k w ++ toArrayFrom (k + 1) ws := by
  rw [toArrayFrom, drainWord_eq_bitsOf k w h]

/-- membership in the listing of the words `ws` placed at word indices `k, k+1, …`: bit `x % 64` of the `j`-th word,
    where `x / 64 = k + j` -/
theorem mem_toArrayFrom_iff_exists (ws : List Nat) (h : ∀ w ∈ ws, w < 2^64) (k x : Nat) :
    x ∈ toArrayFrom k ws ↔ ∃ j, j < ws.length ∧ x / 64 = k + j ∧ (word ws j).testBit (x % 64) = true := by
  induction ws generalizing k with
  | nil => exact ⟨fun hx => absurd hx List.not_mem_nil, fun ⟨_, hj, _⟩ => absurd hj (Nat.not_lt_zero _)⟩
  | cons w ws ih =>
    rw [toArrayFrom_cons k w ws (h w List.mem_cons_self), List.mem_append, Word.mem_bitsOf,
      ih (fun v hv => h v (List.mem_cons_of_mem _ hv)) (k + 1), List.length_cons, Nat.exists_lt_succ_left]
    simp only [Word.word_cons_zero, Word.word_cons_succ, Nat.add_zero, Nat.add_right_comm k 1, Nat.add_assoc]

theorem mem_toArrayFrom (ws : List Nat) (h : ∀ w ∈ ws, w < 2^64) (k x : Nat) :
    x ∈ toArrayFrom k ws ↔
      k ≤ x / 64 ∧ x / 64 < k + ws.length ∧ (word ws (x / 64 - k)).testBit (x % 64) = true := by
  rw [mem_toArrayFrom_iff_exists ws h]
  constructor
  · rintro ⟨j, hj, he, hb⟩
    rw [he, Nat.add_sub_cancel_left]
    exact ⟨Nat.le_add_right k j, Nat.add_lt_add_left hj k, hb⟩
  · rintro ⟨h1, h2, hb⟩
    exact ⟨x / 64 - k, Nat.sub_lt_left_of_lt_add h1 h2, (Nat.add_sub_cancel' h1).symm, hb⟩

theorem mem_toArrayFrom_bounds (k : Nat) (ws : List Nat) (hw : ∀ w ∈ ws, w < 2^64) (x : Nat)
    (hx : x ∈ toArrayFrom k ws) : 64 * k ≤ x ∧ x < 64 * (k + ws.length) :=
  have ⟨h1, h2, _⟩ := (mem_toArrayFrom ws hw k x).1 hx
  ⟨Nat.mul_comm k 64 ▸ (Nat.le_div_iff_mul_le (by decide)).1 h1, Nat.mul_comm _ 64 ▸ (Nat.div_lt_iff_lt_mul (by decide)).1 h2⟩

theorem sorted_toArrayFrom (ws : List Nat) (h : ∀ w ∈ ws, w < 2^64) (k : Nat) :
    Sorted (toArrayFrom k ws) := by
  induction ws generalizing k with
  | nil => simp [toArrayFrom_nil, Sorted]
  | cons w ws ih =>
    have hw : w < 2^64 := h w (by simp)
    have hws : ∀ w ∈ ws, w < 2^64 := fun v hv => h v (by simp [hv])
    rw [toArrayFrom_cons k w ws hw, Sorted, List.pairwise_append]
    refine ⟨sorted_bitsOf k w, ih hws (k + 1), ?_⟩
    intro a ha b hb
    rw [Word.mem_bitsOf] at ha
    rw [mem_toArrayFrom ws hws] at hb
    exact Nat.lt_of_div_lt_div (ha.1 ▸ hb.1)

theorem mem_toArray (b : BStore) (hb : b.Inv) (x : Nat) : x ∈ b.toArray ↔ x < 65536 ∧ b.test x = true := by
  unfold toArray test
  rw [mem_toArrayFrom b.bits hb.words 0 x, hb.length, Nat.sub_zero, Nat.zero_add,
    Nat.div_lt_iff_lt_mul (by decide : 0 < 64)]
  exact ⟨fun h => h.2, fun h => ⟨Nat.zero_le _, h⟩⟩

theorem sorted_toArray (b : BStore) (hb : b.Inv) : Sorted b.toArray :=
  sorted_toArrayFrom b.bits hb.words 0

theorem toArray_lt (b : BStore) (hb : b.Inv) : ∀ x ∈ b.toArray, x < 65536 :=
  fun x hx => ((mem_toArray b hb x).1 hx).1

/-- beyond the 1024 words every bit reads as clear, so `test` is the characteristic function of `toArray` on all of `Nat` -/
theorem Inv.test_lt {b : BStore} (hb : b.Inv) {x : Nat} (h : b.test x = true) : x < 65536 :=
  Nat.lt_of_not_le fun hx => by
    rw [test, Mask.word_of_ge (hb.length ▸ (Nat.le_div_iff_mul_le (by decide)).2 hx), Nat.zero_testBit] at h
    cases h

theorem test_eq_decide (b : BStore) (hb : b.Inv) (x : Nat) : b.test x = decide (x ∈ b.toArray) := by
  rw [Bool.eq_iff_iff, decide_eq_true_eq, mem_toArray b hb]
  exact ⟨fun h => ⟨hb.test_lt h, h⟩, And.right⟩

/-- a description of the bits of `r` below 65536 by a function with `g false false = false` holds of every position -/
theorem test_unguard {a b r : BStore} (ha : a.Inv) (hb : b.Inv) (hr : r.Inv) {g : Bool → Bool → Bool}
    (hg : g false false = false) (h : ∀ x, x < 65536 → r.test x = g (a.test x) (b.test x)) (x : Nat) :
    r.test x = g (a.test x) (b.test x) := by
  by_cases hx : x < 65536
  · exact h x hx
  · have hf : ∀ {c : BStore}, c.Inv → c.test x = false := fun hc => Bool.eq_false_iff.2 fun ht => hx (hc.test_lt ht)
    rw [hf ha, hf hb, hf hr, hg]

theorem length_toArray (b : BStore) (hb : b.Inv) : b.toArray.length = b.len := by
  rw [hb.len]; exact length_toArrayFrom b.bits hb.words 0

theorem inv_toArray (b : BStore) (hb : b.Inv) : Arr.Inv b.toArray :=
  ⟨sorted_toArray b hb, toArray_lt b hb⟩

theorem inv_replicate (n : Nat) (hn : n ≤ 1024) :
    BStore.Inv { len := 64 * n, bits := List.replicate n wMax ++ List.replicate (1024 - n) 0 } := by
  refine ⟨?_, ?_, ?_⟩
  · rw [List.length_append, List.length_replicate, List.length_replicate]; exact Nat.add_sub_of_le hn
  · intro w hw
    rcases List.mem_append.mp hw with h | h
    · rw [(List.mem_replicate.1 h).2]; exact wMax_lt
    · rw [(List.mem_replicate.1 h).2]; decide
  · show 64 * n = BStore.popSum _
    rw [BStore.popSum_append, Word.popSum_replicate, Word.popSum_replicate, Word.popcount_wMax, popcount_zero,
      Nat.mul_zero, Nat.add_zero, Nat.mul_comm]

theorem inv_new : BStore.new.Inv := inv_replicate 0 (Nat.zero_le _)

theorem test_new (x : Nat) : BStore.new.test x = false := by
  unfold test new zeros
  by_cases h : x / 64 < 1024
  · rw [Word.word_replicate _ _ _ h, Nat.zero_testBit]
  · rw [Mask.word_of_ge (by rw [List.length_replicate]; exact Nat.le_of_not_lt h), Nat.zero_testBit]

theorem toArray_new : BStore.new.toArray = [] := by
  apply List.eq_nil_iff_forall_not_mem.2
  intro x hx
  have := ((mem_toArray _ inv_new x).1 hx).2
  rw [test_new] at this; exact Bool.false_ne_true this

theorem inv_full : BStore.full.Inv := by
  have := inv_replicate 1024 (Nat.le_refl _)
  rwa [Nat.sub_self, List.replicate_zero, List.append_nil] at this

theorem test_full (x : Nat) (h : x < 65536) : BStore.full.test x = true := by
  unfold test full
  rw [Word.word_replicate _ _ _ ((Nat.div_lt_iff_lt_mul (by decide : 0 < 64)).2 h), wMax_eq,
    Nat.testBit_two_pow_sub_one]
  exact decide_eq_true (Nat.mod_lt x (by decide))

theorem mem_toArray_full (x : Nat) : x ∈ BStore.full.toArray ↔ x < 65536 := by
  rw [mem_toArray _ inv_full]
  constructor
  · exact fun h => h.1
  · exact fun h => ⟨h, test_full x h⟩

theorem ext (a b : BStore) (ha : a.Inv) (hb : b.Inv) (h : ∀ x, x < 65536 → a.test x = b.test x) : a = b := by
  have hbits : a.bits = b.bits := by
    apply Word.bits_ext a.bits b.bits (by rw [ha.length, hb.length]) ha.words hb.words
    intro i hi
    rw [ha.length] at hi
    exact h i hi
  have hlen : a.len = b.len := by rw [ha.len, hb.len, hbits]
  cases a; cases b; simp_all

theorem contains_eq_test (b : BStore) (i : Nat) : b.contains i = b.test i := by
  unfold contains test wkey wbit
  exact Word.and_one_shiftLeft_ne_zero _ _

theorem insert_eq (b : BStore) (i : Nat) :
    b.insert i = ({ len := b.len + (if b.test i then 0 else 1),
                    bits := b.bits.set (i / 64) (word b.bits (i / 64) ||| (1 <<< (i % 64))) }, !b.test i) := by
  unfold insert test wkey wbit
  simp only [Word.xor_setBit_shiftRight]
  cases h : (word b.bits (i / 64)).testBit (i % 64) <;> simp

theorem remove_eq (b : BStore) (hw : ∀ w ∈ b.bits, w < 2^64) (i : Nat) :
    b.remove i = ({ len := b.len - (if b.test i then 1 else 0),
                    bits := b.bits.set (i / 64) (word b.bits (i / 64) &&& not64 (1 <<< (i % 64))) }, b.test i) := by
  unfold remove test wkey wbit
  simp only [Word.xor_clearBit_shiftRight _ _ (Mask.word_lt hw (i / 64))]
  cases h : (word b.bits (i / 64)).testBit (i % 64) <;> simp

theorem pos_eq_iff (x i : Nat) : x / 64 = i / 64 ∧ i % 64 = x % 64 ↔ x = i :=
  ⟨fun h => by rw [← Nat.div_add_mod x 64, ← Nat.div_add_mod i 64, h.1, h.2], fun h => h ▸ ⟨rfl, rfl⟩⟩

/-- What replacing word `i / 64` by `v` does to a store, when `v` differs from the old word at most in bit `i % 64`,
    which becomes `c`, and `l` accounts for the change of the count.  `insert` and `remove` are the two instances. -/
theorem set_spec (b : BStore) (hb : b.Inv) (i : Nat) (hi : i < 65536) (v l : Nat) (c : Bool) (hv : v < 2^64)
    (hbit : ∀ j, j < 64 → v.testBit j = if i % 64 = j then c else (word b.bits (i / 64)).testBit j)
    (hl : l + popcount (word b.bits (i / 64)) = b.len + popcount v) :
    (BStore.mk l (b.bits.set (i / 64) v)).Inv ∧
      ∀ x, (BStore.mk l (b.bits.set (i / 64) v)).test x = if x = i then c else b.test x := by
  have hk : i / 64 < b.bits.length := hb.wkey_lt hi
  refine ⟨⟨List.length_set.trans hb.length, Word.mem_set_lt _ _ _ hb.words hv, ?_⟩, fun x => ?_⟩
  · have := Word.popSum_set b.bits (i / 64) v hk
    rw [← hb.len] at this
    exact Nat.add_right_cancel (hl.trans this.symm)
  · show (word (b.bits.set (i / 64) v) (x / 64)).testBit (x % 64) = _
    rw [Mask.word_set_eq]
    by_cases hc : x / 64 = i / 64
    · rw [if_pos ⟨hc, hk⟩, hbit _ (Nat.mod_lt x (by decide))]
      by_cases hm : i % 64 = x % 64
      · rw [if_pos hm, if_pos ((pos_eq_iff x i).1 ⟨hc, hm⟩)]
      · rw [if_neg hm, if_neg (fun h => hm ((pos_eq_iff x i).2 h).2), ← hc]; rfl
    · rw [if_neg (fun h => hc h.1), if_neg (fun h : x = i => hc (congrArg (· / 64) h))]; rfl

theorem insert_spec (b : BStore) (hb : b.Inv) (i : Nat) (hi : i < 65536) :
    (b.insert i).1.Inv ∧ (∀ x, (b.insert i).1.test x = (decide (x = i) || b.test x)) ∧
    (b.insert i).2 = !b.test i := by
  have hold : word b.bits (i / 64) < 2^64 := Mask.word_lt hb.words _
  have hbit : i % 64 < 64 := wbit_lt i
  obtain ⟨hinv, htest⟩ := set_spec b hb i hi (word b.bits (i / 64) ||| (1 <<< (i % 64)))
    (b.len + (if b.test i then 0 else 1)) true (Word.setBit_lt hold hbit)
    (fun j _ => by
      rw [Word.testBit_setBit]
      by_cases hm : i % 64 = j
      · rw [if_pos hm, decide_eq_true hm, Bool.or_true]
      · rw [if_neg hm, decide_eq_false hm, Bool.or_false])
    (by rw [Word.popcount_setBit _ _ hold hbit, Nat.add_assoc, Nat.add_comm (popcount _)]; rfl)
  rw [insert_eq]
  refine ⟨hinv, fun x => ?_, rfl⟩
  rw [htest x]
  by_cases hx : x = i
  · rw [if_pos hx, decide_eq_true hx, Bool.true_or]
  · rw [if_neg hx, decide_eq_false hx, Bool.false_or]

theorem sub_add_eq {l d p v : Nat} (h : v + d = p) (hp : p ≤ l) : l - d + p = l + v := by omega

theorem remove_spec (b : BStore) (hb : b.Inv) (i : Nat) (hi : i < 65536) :
    (b.remove i).1.Inv ∧ (∀ x, (b.remove i).1.test x = (decide (x ≠ i) && b.test x)) ∧
    (b.remove i).2 = b.test i := by
  have hold : word b.bits (i / 64) < 2^64 := Mask.word_lt hb.words _
  obtain ⟨hinv, htest⟩ := set_spec b hb i hi (word b.bits (i / 64) &&& not64 (1 <<< (i % 64)))
    (b.len - (if b.test i then 1 else 0)) false (and_lt _ _ hold)
    (fun j hj => by
      rw [Word.testBit_clearBit _ _ _ hj]
      by_cases hm : i % 64 = j
      · rw [if_pos hm, decide_eq_true hm]; exact Bool.and_false _
      · rw [if_neg hm, decide_eq_false hm]; exact Bool.and_true _)
    (sub_add_eq (Word.popcount_clearBit _ _ hold) (hb.len ▸ Word.popcount_word_le_popSum b.bits (i / 64)))
  rw [remove_eq b hb.words]
  refine ⟨hinv, fun x => ?_, rfl⟩
  rw [htest x]
  by_cases hx : x = i
  · rw [if_pos hx, decide_eq_false (not_not_intro hx), Bool.false_and]
  · rw [if_neg hx, decide_eq_true hx, Bool.true_and]

theorem min?_eq_map (b : BStore) :
    b.min? = (b.bits.zipIdx.find? (fun p => p.1 != 0)).map (fun p => p.2 * 64 + tz p.1) := by
  unfold min?; split <;> simp [*]

theorem max?_eq_map (b : BStore) :
    b.max? = (b.bits.zipIdx.reverse.find? (fun p => p.1 != 0)).map (fun p => p.2 * 64 + hiBit p.1) := by
  unfold max?; split <;> simp [*]

theorem min?_from (ws : List Nat) (k : Nat) :
    ((ws.zipIdx k).find? (fun p => p.1 != 0)).map (fun p => p.2 * 64 + tz p.1) = (toArrayFrom k ws).head? := by
  induction ws generalizing k with
  | nil => rfl
  | cons w ws ih =>
    rw [List.zipIdx_cons, List.find?_cons, toArrayFrom]
    by_cases h0 : w = 0
    · subst h0
      simp only [bne_self_eq_false]
      rw [ih (k + 1), drainWord, if_pos rfl, List.nil_append]
    · rw [drainWord, if_neg h0]
      simp only [bne_iff_ne.2 h0, Option.map_some, List.cons_append, List.head?_cons, Nat.mul_comm]

theorem max?_from (ws : List Nat) (h : ∀ w ∈ ws, w < 2^64) (k : Nat) :
    ((ws.zipIdx k).reverse.find? (fun p => p.1 != 0)).map (fun p => p.2 * 64 + hiBit p.1)
      = (toArrayFrom k ws).getLast? := by
  induction ws generalizing k with
  | nil => rfl
  | cons w ws ih =>
    have hw : w < 2^64 := h w (by simp)
    have hws : ∀ w ∈ ws, w < 2^64 := fun v hv => h v (by simp [hv])
    rw [List.zipIdx_cons, List.reverse_cons, List.find?_append, Option.map_or, ih hws (k + 1),
      toArrayFrom_cons k w ws hw, List.getLast?_append]
    congr 1
    by_cases h0 : w = 0
    · subst h0; simp [bitsOf_zero]
    · simp only [bitsOf, List.getLast?_map, Word.getLast?_bitPos w h0 hw]
      simp [h0]
      omega

set_option linter.unusedVariables false in
theorem min?_spec (b : BStore) (hb : b.Inv) : b.min? = b.toArray.head? := by
  rw [min?_eq_map]; exact min?_from b.bits 0

theorem max?_spec (b : BStore) (hb : b.Inv) : b.max? = b.toArray.getLast? := by
  rw [max?_eq_map]; exact max?_from b.bits hb.words 0

theorem max?_eq_none_iff (b : BStore) (hb : b.Inv) : b.max? = none ↔ b.toArray = [] := by
  rw [max?_spec b hb]; exact List.getLast?_eq_none_iff

theorem max?_eq_some (b : BStore) (hb : b.Inv) (m : Nat) (h : b.max? = some m) :
    m ∈ b.toArray ∧ ∀ x ∈ b.toArray, x ≤ m := by
  rw [max?_spec b hb] at h
  exact Arr.getLast?_sorted _ (sorted_toArray b hb) m h

set_option linter.unusedVariables false in
theorem push_spec (b : BStore) (hb : b.Inv) (i : Nat) (hi : i < 65536) :
    (b.push i) = if (∀ x ∈ b.toArray, x < i) then ((b.insert i).1, true) else (b, false) := by
  unfold push
  cases hm : b.max? with
  | none =>
    have := (max?_eq_none_iff b hb).1 hm
    rw [if_pos (by rw [this]; simp)]
  | some m =>
    have ⟨h1, h2⟩ := max?_eq_some b hb m hm
    by_cases hlt : m < i
    · rw [if_pos (by intro x hx; have := h2 x hx; omega)]
      simp [hlt]
    · rw [if_neg (by intro hall; exact hlt (hall m h1))]
      simp [hlt]

set_option linter.unusedVariables false in
theorem pushUnchecked_spec (dbg : Bool) (b : BStore) (hb : b.Inv) (i : Nat) (hi : i < 65536)
    (hmax : ∀ x ∈ b.toArray, x < i) : b.pushUnchecked dbg i = some (b.insert i).1 := by
  unfold pushUnchecked
  cases dbg with
  | false => simp
  | true =>
    cases hm : b.max? with
    | none => simp
    | some m =>
      have ⟨h1, _⟩ := max?_eq_some b hb m hm
      have := hmax m h1
      simp [this]

theorem toArray_inj (a b : BStore) (ha : a.Inv) (hb : b.Inv) (h : a.toArray = b.toArray) : a = b := by
  apply ext a b ha hb
  intro x hx
  have h1 := mem_toArray a ha x
  have h2 := mem_toArray b hb x
  rw [h] at h1
  cases hta : a.test x <;> cases htb : b.test x <;> simp_all

theorem orArr_eq_foldl (b : BStore) (v : List Nat) :
    b.orArr v = v.foldl (fun b i => (b.insert i).1) b := rfl

theorem orArr_spec (b : BStore) (hb : b.Inv) (v : List Nat) (hv : ∀ x ∈ v, x < 65536) :
    (b.orArr v).Inv ∧ ∀ x, (b.orArr v).test x = (b.test x || decide (x ∈ v)) := by
  rw [orArr_eq_foldl]
  induction v generalizing b with
  | nil => exact ⟨hb, fun x => by simp⟩
  | cons i v ih =>
    have hi : i < 65536 := hv i (by simp)
    obtain ⟨h1, h2, _⟩ := insert_spec b hb i hi
    obtain ⟨h3, h4⟩ := ih (b.insert i).1 h1 (fun x hx => hv x (by simp [hx]))
    rw [List.foldl_cons]
    refine ⟨h3, fun x => ?_⟩
    rw [h4 x, h2 x]
    by_cases e : x = i <;> simp [e]

/-- the words `ArrayStore::to_bitmap_store` builds are those of inserting the values one by one -/
theorem bits_orArr (v : List Nat) (b : BStore) :
    (b.orArr v).bits = v.foldl (fun bits i => bits.set (wkey i) (word bits (wkey i) ||| (1 <<< wbit i))) b.bits := by
  induction v generalizing b with
  | nil => rfl
  | cons i v ih => exact ih (b.insert i).1

/-- `ArrayStore::to_bitmap_store`: the result is `new.orArr v`, whose cached length is that of its listing `v` -/
theorem arrToBitmap_spec (v : List Nat) (hv : Arr.Inv v) :
    (Store.arrToBitmap v).Inv ∧ (Store.arrToBitmap v).toArray = v := by
  obtain ⟨hinv, htest⟩ := orArr_spec BStore.new inv_new v hv.2
  have harr : (BStore.new.orArr v).toArray = v := by
    apply Roaring.sorted_ext _ _ (sorted_toArray _ hinv) hv.1
    intro x
    rw [← decide_eq_true_iff (p := x ∈ _), ← test_eq_decide _ hinv, htest x, test_new, Bool.false_or, decide_eq_true_iff]
  have heq : Store.arrToBitmap v = BStore.new.orArr v := by
    have hlen : (BStore.new.orArr v).len = v.length := by rw [← length_toArray _ hinv, harr]
    show BStore.mk v.length (Store.arrToBitmapBits v) = _
    rw [← hlen]
    exact congrArg (BStore.mk _) (bits_orArr v BStore.new).symm
  rw [heq]
  exact ⟨hinv, harr⟩

theorem tryFrom_spec (len : Nat) (bits : List Nat) :
    tryFrom len bits = if len = popSum bits then some { len, bits } else none := by
  unfold tryFrom
  by_cases h : len = popSum bits <;> simp [h]

end BStore
end Roaring
