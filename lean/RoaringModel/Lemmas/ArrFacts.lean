import RoaringModel.Inv
import RoaringModel.Lemmas.WordCore
/-!
# ArrayStore facts (array_store/mod.rs) — every operation on a sorted duplicate-free vector

All statements are about `Roaring.Arr.*` (ArrayStore.lean) under `Arr.Inv v` (strictly ascending, values < 65536).
-/
namespace Roaring

/-- inclusion–exclusion for counting -/
theorem countP_or_and {α} (l : List α) (p q : α → Bool) :
    l.countP (fun x => p x || q x) + l.countP (fun x => p x && q x) = l.countP p + l.countP q := by
  induction l with
  | nil => simp
  | cons a l ih =>
    have h : ∀ x y : Bool, (if (x || y) = true then 1 else 0) + (if (x && y) = true then 1 else 0)
        = (if x = true then 1 else 0) + (if y = true then 1 else 0) := by decide
    have := h (p a) (q a)
    simp only [List.countP_cons]
    omega

namespace Arr

theorem sorted_ext (l r : List Nat) (hl : Sorted l) (hr : Sorted r) (h : ∀ x, x ∈ l ↔ x ∈ r) : l = r :=
  Roaring.sorted_ext l r hl hr h

theorem sorted_filter {v : List Nat} (hv : Sorted v) (p : Nat → Bool) : Sorted (v.filter p) :=
  List.Pairwise.sublist List.filter_sublist hv

/-! A predicate that holds on an initial stretch of the naturals (`(· < x)`, `(· ≤ x)`) cuts a sorted list into the
    prefix where it holds and the suffix where it does not; `takeWhile` finds the same cut. -/

theorem takeWhile_eq_filter (v : List Nat) (hv : Sorted v) (p : Nat → Bool)
    (hp : ∀ a b, a < b → p b = true → p a = true) : v.takeWhile p = v.filter p := by
  induction v with
  | nil => rfl
  | cons a v ih =>
    have hv' := List.pairwise_cons.mp hv
    cases h : p a
    · rw [List.takeWhile_cons, List.filter_cons, h]
      exact (List.filter_eq_nil_iff.mpr fun y hy hpy => by simp [hp a y (hv'.1 y hy) hpy] at h).symm
    · rw [List.takeWhile_cons, List.filter_cons, h, ih hv'.2]
      rfl

theorem drop_takeWhile (v : List Nat) (hv : Sorted v) (p : Nat → Bool)
    (hp : ∀ a b, a < b → p b = true → p a = true) :
    v.drop (v.takeWhile p).length = v.filter (fun x => !p x) := by
  induction v with
  | nil => rfl
  | cons a v ih =>
    have hv' := List.pairwise_cons.mp hv
    cases h : p a
    · rw [List.takeWhile_cons, List.filter_cons, h]
      refine congrArg (a :: ·) (List.filter_eq_self.mpr fun y hy => ?_).symm
      cases hpy : p y
      · rfl
      · simp [hp a y (hv'.1 y hy) hpy] at h
    · rw [List.takeWhile_cons, List.filter_cons, h]
      exact ih hv'.2

theorem take_takeWhile_length (v : List Nat) (p : Nat → Bool) : v.take (v.takeWhile p).length = v.takeWhile p :=
  (List.prefix_iff_eq_take.mp (List.takeWhile_prefix p)).symm

theorem lt_initial (x a b : Nat) (hab : a < b) (hb : decide (b < x) = true) : decide (a < x) = true :=
  decide_eq_true (Nat.lt_trans hab (of_decide_eq_true hb))

theorem le_initial (x a b : Nat) (hab : a < b) (hb : decide (b ≤ x) = true) : decide (a ≤ x) = true :=
  decide_eq_true (Nat.le_trans (Nat.le_of_lt hab) (of_decide_eq_true hb))

theorem not_decide_lt (y x : Nat) : (!decide (y < x)) = decide (x ≤ y) := by
  rw [← decide_not]; exact decide_eq_decide.mpr Nat.not_lt

theorem not_decide_le (y x : Nat) : (!decide (y ≤ x)) = decide (x < y) := by
  rw [← decide_not]; exact decide_eq_decide.mpr Nat.not_le

theorem takeWhile_lt_eq_filter (v : List Nat) (hv : Sorted v) (x : Nat) : v.takeWhile (· < x) = v.filter (· < x) :=
  takeWhile_eq_filter v hv _ (lt_initial x)

theorem drop_takeWhile_lt (v : List Nat) (hv : Sorted v) (e : Nat) :
    v.drop (v.takeWhile (· < e)).length = v.filter (e ≤ ·) :=
  (drop_takeWhile v hv _ (lt_initial e)).trans (List.filter_congr fun y _ => not_decide_lt y e)

theorem lowerBound_spec (v : List Nat) (hv : Sorted v) (x : Nat) :
    lowerBound v x = (v.filter (· < x)).length := by
  unfold lowerBound; rw [takeWhile_lt_eq_filter v hv]

theorem take_filter_lt (v : List Nat) (hv : Sorted v) (x : Nat) :
    v.take (v.filter (· < x)).length = v.filter (· < x) := by
  rw [← takeWhile_lt_eq_filter v hv, take_takeWhile_length]

theorem drop_filter_lt (v : List Nat) (hv : Sorted v) (x : Nat) :
    v.drop (v.filter (· < x)).length = v.filter (x ≤ ·) := by
  rw [← takeWhile_lt_eq_filter v hv, drop_takeWhile_lt v hv]

theorem take_filter_le (v : List Nat) (hv : Sorted v) (x : Nat) :
    v.take (v.filter (· ≤ x)).length = v.filter (· ≤ x) := by
  rw [← takeWhile_eq_filter v hv _ (le_initial x), take_takeWhile_length]

theorem drop_filter_le (v : List Nat) (hv : Sorted v) (x : Nat) :
    v.drop (v.filter (· ≤ x)).length = v.filter (x < ·) := by
  rw [← takeWhile_eq_filter v hv _ (le_initial x), drop_takeWhile v hv _ (le_initial x)]
  exact List.filter_congr fun y _ => not_decide_le y x

/-- on a sorted vector the index of `x` is the number of smaller values -/
theorem getElem?_eq_some_iff_sorted (v : List Nat) (hv : Sorted v) (i x : Nat) :
    v[i]? = some x ↔ x ∈ v ∧ i = (v.filter (· < x)).length := by
  induction v generalizing i with
  | nil => simp
  | cons a v ih =>
    have hv' := (List.pairwise_cons.mp hv)
    have hnil : v.filter (· < a) = [] := by
      rw [List.filter_eq_nil_iff]; intro y hy; have := hv'.1 y hy; simp; omega
    cases i with
    | zero =>
      simp only [List.getElem?_cons_zero, Option.some.injEq, List.mem_cons, List.filter_cons]
      constructor
      · intro h; subst h; simp [hnil]
      · rintro ⟨h1 | h1, h2⟩
        · exact h1.symm
        · have := hv'.1 x h1; simp [this] at h2
    | succ j =>
      simp only [List.getElem?_cons_succ, ih hv'.2, List.mem_cons, List.filter_cons]
      constructor
      · rintro ⟨h1, h2⟩
        have := hv'.1 x h1
        simp [this, h1, h2]
      · rintro ⟨h1 | h1, h2⟩
        · subst h1; simp [hnil] at h2
        · have := hv'.1 x h1
          simp [this] at h2
          exact ⟨h1, h2⟩

theorem length_filter_add (l : List Nat) (p q r : Nat → Bool)
    (h : ∀ x, r x = (p x || q x) ∧ (p x && q x) = false) :
    (l.filter p).length + (l.filter q).length = (l.filter r).length := by
  have hz : l.countP (fun x => p x && q x) = 0 := List.countP_eq_zero.2 fun x _ => by simp [(h x).2]
  rw [← List.countP_eq_length_filter, ← List.countP_eq_length_filter, ← List.countP_eq_length_filter,
    ← countP_or_and, hz, Nat.add_zero]
  exact List.countP_congr fun x _ => by rw [(h x).1]

theorem filter_lt_split (v : List Nat) (a n : Nat) :
    (v.filter (· < a + n)).length
      = (v.filter (· < a)).length + (v.filter (fun x => decide (a ≤ x) && decide (x < a + n))).length :=
  (length_filter_add v _ _ _ fun x => by
    by_cases h1 : a ≤ x <;> by_cases h2 : x < a + n <;> simp [h1, h2] <;> omega).symm

theorem filter_le_length (v : List Nat) (hv : Sorted v) (x : Nat) :
    (v.filter (· ≤ x)).length = (v.filter (· < x)).length + (if x ∈ v then 1 else 0) := by
  have h1 : v.filter (· ≤ x) = v.filter (· < x + 1) :=
    List.filter_congr fun y _ => decide_eq_decide.mpr Nat.lt_succ_iff.symm
  -- the values in `[x, x + 1)` are the copies of `x`, and a sorted list has at most one
  have h2 : v.filter (fun y => decide (x ≤ y) && decide (y < x + 1)) = v.filter (· == x) :=
    List.filter_congr fun y _ => by
      rw [Bool.eq_iff_iff, Bool.and_eq_true, decide_eq_true_eq, decide_eq_true_eq, beq_iff_eq, Nat.lt_succ_iff]
      exact ⟨fun h => Nat.le_antisymm h.2 h.1, fun h => h ▸ ⟨Nat.le_refl _, Nat.le_refl _⟩⟩
  rw [h1, filter_lt_split, h2, ← List.count_eq_length_filter, List.Nodup.count (hv.imp Nat.ne_of_lt)]

/-- `binary_search` on a sorted vector: found iff member; the index is the number of smaller values -/
theorem bsearch_eq (v : List Nat) (hv : Sorted v) (x : Nat) :
    bsearch v x = (decide (x ∈ v), (v.filter (· < x)).length) := by
  unfold bsearch
  rw [lowerBound_spec v hv]
  refine congrArg (·, _) ?_
  rw [Bool.eq_iff_iff, beq_iff_eq, decide_eq_true_eq, getElem?_eq_some_iff_sorted v hv]
  exact and_iff_left rfl

theorem contains_spec (v : List Nat) (hv : Sorted v) (x : Nat) : contains v x = decide (x ∈ v) := by
  unfold contains; rw [bsearch_eq v hv]

/-! The results of `insert`, `remove`, `insert_range`, `remove_range` all have the shape: what lies below `a`, then a
    sorted stretch inside `[a, b]` (possibly empty), then what lies above `b`. -/

theorem sorted_splice (v : List Nat) (hs : Sorted v) (a b : Nat) (mid : List Nat) (hm : Sorted mid)
    (hmb : ∀ x ∈ mid, a ≤ x ∧ x ≤ b) (hab : a ≤ b) :
    Sorted (v.filter (· < a) ++ mid ++ v.filter (b < ·)) := by
  rw [Sorted, List.pairwise_append, List.pairwise_append]
  refine ⟨⟨sorted_filter hs _, hm, fun x hx y hy => ?_⟩, sorted_filter hs _, fun x hx y hy => ?_⟩
  · exact Nat.lt_of_lt_of_le (of_decide_eq_true (List.mem_filter.mp hx).2) (hmb y hy).1
  · have hy' : b < y := of_decide_eq_true (List.mem_filter.mp hy).2
    rcases List.mem_append.mp hx with hx | hx
    · exact Nat.lt_trans (Nat.lt_of_lt_of_le (of_decide_eq_true (List.mem_filter.mp hx).2) hab) hy'
    · exact Nat.lt_of_le_of_lt (hmb x hx).2 hy'

theorem mem_splice (v : List Nat) (a b : Nat) (mid : List Nat) (x : Nat) :
    x ∈ v.filter (· < a) ++ mid ++ v.filter (b < ·) ↔ x ∈ mid ∨ (x ∈ v ∧ (x < a ∨ b < x)) := by
  simp only [List.mem_append, List.mem_filter, decide_eq_true_eq]
  constructor
  · rintro ((⟨h, c⟩ | h) | ⟨h, c⟩)
    · exact .inr ⟨h, .inl c⟩
    · exact .inl h
    · exact .inr ⟨h, .inr c⟩
  · rintro (h | ⟨h, c | c⟩)
    · exact .inl (.inr h)
    · exact .inl (.inl ⟨h, c⟩)
    · exact .inr ⟨h, c⟩

theorem inv_splice (v : List Nat) (hv : Arr.Inv v) (a b : Nat) (mid : List Nat) (hm : Arr.Inv mid)
    (hmb : ∀ x ∈ mid, a ≤ x ∧ x ≤ b) (hab : a ≤ b) :
    Arr.Inv (v.filter (· < a) ++ mid ++ v.filter (b < ·)) := by
  refine ⟨sorted_splice v hv.1 a b mid hm.1 hmb hab, fun x hx => ?_⟩
  rcases (mem_splice v a b mid x).mp hx with hx | hx
  · exact hm.2 x hx
  · exact hv.2 x hx.1

theorem inv_nil : Arr.Inv [] := ⟨List.Pairwise.nil, nofun⟩

theorem insert_spec (v : List Nat) (hv : Arr.Inv v) (i : Nat) (hi : i < 65536) :
    Arr.Inv (insert v i).1 ∧ (∀ x, x ∈ (insert v i).1 ↔ x = i ∨ x ∈ v) ∧ (insert v i).2 = !decide (i ∈ v) := by
  have hs := hv.1
  unfold insert
  rw [bsearch_eq v hs i]
  by_cases hm : i ∈ v
  · simp only [hm, decide_true, Bool.not_true, and_true]
    exact ⟨hv, fun x => ⟨Or.inr, fun h => h.elim (· ▸ hm) id⟩⟩
  · simp only [hm, decide_false, Bool.not_false, and_true]
    -- `i` is absent, so what is `≥ i` is `> i`
    have hge : v.filter (i ≤ ·) = v.filter (i < ·) := List.filter_congr fun x hx =>
      decide_eq_decide.mpr ⟨fun h => Nat.lt_of_le_of_ne h fun e => hm (e ▸ hx), Nat.le_of_lt⟩
    rw [take_filter_lt v hs, drop_filter_lt v hs, hge, List.append_cons]
    have hmid : ∀ x ∈ [i], i ≤ x ∧ x ≤ i := fun x hx => by
      rw [List.mem_singleton.mp hx]; exact ⟨Nat.le_refl i, Nat.le_refl i⟩
    refine ⟨inv_splice v hv i i [i] ⟨List.pairwise_singleton _ _, fun x hx => List.mem_singleton.mp hx ▸ hi⟩ hmid
      (Nat.le_refl i), fun x => ?_⟩
    rw [mem_splice, List.mem_singleton]
    exact or_congr_right ⟨fun h => h.1, fun h => ⟨h, Nat.lt_or_gt_of_ne fun e => hm (e ▸ h)⟩⟩

theorem remove_spec (v : List Nat) (hv : Arr.Inv v) (i : Nat) :
    Arr.Inv (remove v i).1 ∧ (∀ x, x ∈ (remove v i).1 ↔ x ∈ v ∧ x ≠ i) ∧ (remove v i).2 = decide (i ∈ v) := by
  have hs := hv.1
  unfold remove
  rw [bsearch_eq v hs i]
  by_cases hm : i ∈ v
  · simp only [hm, decide_true, and_true]
    have hlen : (v.filter (· < i)).length + 1 = (v.filter (· ≤ i)).length := by
      rw [filter_le_length v hs i, if_pos hm]
    rw [hlen, take_filter_lt v hs, drop_filter_le v hs, ← List.append_nil (v.filter (· < i))]
    refine ⟨inv_splice v hv i i [] inv_nil nofun (Nat.le_refl i), fun x => ?_⟩
    rw [mem_splice]
    simp only [List.not_mem_nil, false_or]
    exact and_congr_right fun _ => Nat.ne_iff_lt_or_gt.symm
  · simp only [hm, decide_false, and_true]
    exact ⟨hv, fun x => ⟨fun h => ⟨h, fun he => hm (he ▸ h)⟩, And.left⟩⟩

theorem drop_rangeEnd (v : List Nat) (hs : Sorted v) (s e : Nat) :
    v.drop ((v.filter (· < s)).length + ((v.filter (s ≤ ·)).filter (· ≤ e)).length)
      = (v.filter (s ≤ ·)).filter (e < ·) := by
  rw [← List.drop_drop, drop_filter_lt v hs, drop_filter_le _ (sorted_filter hs _)]

theorem rangeCount_eq (v : List Nat) (s e : Nat) :
    ((v.filter (s ≤ ·)).filter (· ≤ e)).length
      = (v.filter (fun x => decide (s ≤ x) && decide (x ≤ e))).length := by
  rw [List.filter_filter]
  congr 1
  apply List.filter_congr
  intro x _
  exact Bool.and_comm _ _

/-- normal form of the two binary searches + splice of `insert_range` -/
theorem insertRange_eq (v : List Nat) (hs : Sorted v) (s e : Nat) :
    insertRange v s e =
      (v.filter (· < s) ++ List.range' s (e - s + 1) ++ (v.filter (s ≤ ·)).filter (e < ·),
       e - s + 1 - (v.filter (fun x => decide (s ≤ x) && decide (x ≤ e))).length) := by
  have hw : Sorted (v.filter (s ≤ ·)) := sorted_filter hs _
  unfold insertRange
  simp only [bsearch_eq v hs s, drop_filter_lt v hs, bsearch_eq _ hw]
  rw [← drop_rangeEnd v hs, ← rangeCount_eq, filter_le_length _ hw, take_filter_lt v hs]
  by_cases hm : e ∈ v.filter (s ≤ ·) <;>
    simp only [hm, decide_true, decide_false, if_true, if_false, Nat.add_sub_cancel_left, Nat.add_zero]

theorem removeRange_eq (v : List Nat) (hs : Sorted v) (s e : Nat) :
    removeRange v s e =
      (v.filter (· < s) ++ (v.filter (s ≤ ·)).filter (e < ·),
       (v.filter (fun x => decide (s ≤ x) && decide (x ≤ e))).length) := by
  have hw : Sorted (v.filter (s ≤ ·)) := sorted_filter hs _
  unfold removeRange
  simp only [bsearch_eq v hs s, drop_filter_lt v hs, bsearch_eq _ hw]
  rw [← drop_rangeEnd v hs, ← rangeCount_eq, filter_le_length _ hw, take_filter_lt v hs]
  by_cases hm : e ∈ v.filter (s ≤ ·) <;>
    simp only [hm, decide_true, decide_false, if_true, if_false, Nat.add_sub_cancel_left, Nat.add_zero]

/-- above a non-empty range, the second search (in what is `≥ s`) sees what the whole vector has above `e` -/
theorem filter_ge_gt (v : List Nat) (s e : Nat) (hse : s ≤ e) :
    (v.filter (s ≤ ·)).filter (e < ·) = v.filter (e < ·) := by
  rw [List.filter_filter]
  exact List.filter_congr fun x _ => by
    rw [Bool.and_eq_left_iff_imp, decide_eq_true_eq, decide_eq_true_eq]
    exact fun h => Nat.le_trans hse (Nat.le_of_lt h)

theorem mem_range_iff (a b x : Nat) (hab : a ≤ b) : x ∈ List.range' a (b - a + 1) ↔ a ≤ x ∧ x ≤ b := by
  rw [List.mem_range'_1]
  omega

theorem mem_splice_range (v : List Nat) (a b x : Nat) (hab : a ≤ b) :
    x ∈ v.filter (· < a) ++ List.range' a (b - a + 1) ++ v.filter (b < ·) ↔ (a ≤ x ∧ x ≤ b) ∨ x ∈ v := by
  rw [mem_splice, mem_range_iff a b x hab]
  refine ⟨fun h => h.elim .inl fun h => .inr h.1, fun h => h.elim .inl fun h => ?_⟩
  by_cases c : a ≤ x ∧ x ≤ b
  · exact .inl c
  · exact .inr ⟨h, by omega⟩

theorem sorted_splice_range (v : List Nat) (hs : Sorted v) (a b : Nat) (hab : a ≤ b) :
    Sorted (v.filter (· < a) ++ List.range' a (b - a + 1) ++ v.filter (b < ·)) :=
  sorted_splice v hs a b _ List.pairwise_lt_range' (fun x hx => (mem_range_iff a b x hab).mp hx) hab

/-- guard `s ≤ e`: `Store::insert_range` returns early on an empty range -/
theorem insertRange_spec (v : List Nat) (hv : Arr.Inv v) (s e : Nat) (hse : s ≤ e) (he : e < 65536) :
    Arr.Inv (insertRange v s e).1 ∧
    (∀ x, x ∈ (insertRange v s e).1 ↔ (s ≤ x ∧ x ≤ e) ∨ x ∈ v) ∧
    (insertRange v s e).2 = (e - s + 1) - (v.filter (fun x => decide (s ≤ x) && decide (x ≤ e))).length := by
  rw [insertRange_eq v hv.1, filter_ge_gt v s e hse]
  refine ⟨⟨sorted_splice_range v hv.1 s e hse, fun x hx => ?_⟩, fun x => mem_splice_range v s e x hse, rfl⟩
  rcases (mem_splice_range v s e x hse).mp hx with h | h
  · exact Nat.lt_of_le_of_lt h.2 he
  · exact hv.2 x h

theorem removeRange_spec (v : List Nat) (hv : Arr.Inv v) (s e : Nat) (hse : s ≤ e) :
    Arr.Inv (removeRange v s e).1 ∧
    (∀ x, x ∈ (removeRange v s e).1 ↔ x ∈ v ∧ ¬ (s ≤ x ∧ x ≤ e)) ∧
    (removeRange v s e).2 = (v.filter (fun x => decide (s ≤ x) && decide (x ≤ e))).length := by
  rw [removeRange_eq v hv.1, filter_ge_gt v s e hse, ← List.append_nil (v.filter (· < s))]
  refine ⟨inv_splice v hv s e [] inv_nil nofun hse, fun x => ?_, rfl⟩
  rw [mem_splice]
  simp only [List.not_mem_nil, false_or]
  exact and_congr_right fun _ => by omega

theorem inv_append_singleton (v : List Nat) (hv : Arr.Inv v) (i : Nat) (hi : i < 65536)
    (hmax : ∀ x ∈ v, x < i) : Arr.Inv (v ++ [i]) := by
  obtain ⟨hs, hb⟩ := hv
  refine ⟨?_, ?_⟩
  · rw [Sorted, List.pairwise_append]
    refine ⟨hs, List.pairwise_singleton _ _, ?_⟩
    intro a ha b hb'
    simp only [List.mem_singleton] at hb'
    subst hb'; exact hmax a ha
  · intro x hx
    simp only [List.mem_append, List.mem_singleton] at hx
    rcases hx with h | h
    · exact hb x h
    · omega

theorem getLast?_sorted (v : List Nat) (hs : Sorted v) (m : Nat) (h : v.getLast? = some m) :
    m ∈ v ∧ ∀ x ∈ v, x ≤ m := by
  obtain ⟨ys, rfl⟩ := List.getLast?_eq_some_iff.mp h
  refine ⟨List.mem_append_right _ (List.mem_singleton_self m), fun x hx => ?_⟩
  rcases List.mem_append.mp hx with h | h
  · exact Nat.le_of_lt ((List.pairwise_append.mp hs).2.2 x h m (List.mem_singleton_self m))
  · exact Nat.le_of_eq (List.mem_singleton.mp h)

/-- `push` compares with the last element, which on a sorted vector is the maximum -/
theorem push_eq (v : List Nat) (hs : Sorted v) (i : Nat) :
    push v i = if (∀ x ∈ v, x < i) then (v ++ [i], true) else (v, false) := by
  unfold push max?
  cases hl : v.getLast? with
  | none =>
    rw [List.getLast?_eq_none_iff.mp hl]
    simp
  | some m =>
    obtain ⟨hm, hmax⟩ := getLast?_sorted v hs m hl
    by_cases c : m < i
    · rw [if_pos fun x hx => Nat.lt_of_le_of_lt (hmax x hx) c]
      simp only [c, if_true]
    · rw [if_neg fun h => c (h m hm)]
      simp only [c, if_false]

theorem push_spec (v : List Nat) (hv : Arr.Inv v) (i : Nat) (hi : i < 65536) :
    Arr.Inv (push v i).1 ∧
    ((push v i) = if (∀ x ∈ v, x < i) then (v ++ [i], true) else (v, false)) := by
  refine ⟨?_, push_eq v hv.1 i⟩
  rw [push_eq v hv.1 i]
  split
  · exact inv_append_singleton v hv i hi ‹_›
  · exact hv

/-- the debug assertion of `push_unchecked` cannot fire when the caller's promise holds -/
theorem pushUnchecked_spec (dbg : Bool) (v : List Nat) (hv : Arr.Inv v) (i : Nat) (hi : i < 65536)
    (hmax : ∀ x ∈ v, x < i) :
    pushUnchecked dbg v i = some (v ++ [i]) ∧ Arr.Inv (v ++ [i]) := by
  refine ⟨?_, inv_append_singleton v hv i hi hmax⟩
  unfold pushUnchecked max?
  cases dbg with
  | false => simp
  | true =>
    cases hl : v.getLast? with
    | none => simp
    | some m =>
      have := hmax m (getLast?_sorted v hv.1 m hl).1
      simp [this]

theorem inv_sublist {v w : List Nat} (hv : Arr.Inv v) (h : w.Sublist v) : Arr.Inv w :=
  ⟨hv.1.sublist h, fun x hx => hv.2 x (h.subset hx)⟩

theorem removeSmallest_spec (v : List Nat) (hv : Arr.Inv v) (n : Nat) (hn : n ≤ v.length) :
    removeSmallest v n = v.drop n ∧ Arr.Inv (v.drop n) := by
  refine ⟨?_, inv_sublist hv (List.drop_sublist n v)⟩
  have _ := hn
  unfold removeSmallest
  exact List.take_left' (by rw [List.length_drop])

theorem removeBiggest_spec (v : List Nat) (hv : Arr.Inv v) (n : Nat) :
    removeBiggest v n = v.take (v.length - n) ∧ Arr.Inv (v.take (v.length - n)) :=
  ⟨rfl, inv_sublist hv (List.take_sublist _ v)⟩

theorem rank_spec (v : List Nat) (hv : Sorted v) (i : Nat) : rank v i = (v.filter (· ≤ i)).length := by
  unfold rank
  rw [bsearch_eq v hv, filter_le_length v hv]
  by_cases hm : i ∈ v <;> simp only [hm, decide_true, decide_false, if_true, if_false, Nat.add_zero]

theorem isStrictlySorted_iff (v : List Nat) : isStrictlySorted v = true ↔ Sorted v := by
  unfold Sorted
  fun_induction isStrictlySorted v with
  | case1 => simp
  | case2 => simp
  | case3 a b l ih =>
    rw [Bool.and_eq_true, ih, List.pairwise_cons (a := a), decide_eq_true_eq]
    constructor
    · rintro ⟨hab, h⟩
      refine ⟨?_, h⟩
      intro x hx
      rcases List.mem_cons.mp hx with hx | hx
      · omega
      · have := (List.pairwise_cons.mp h).1 x hx; omega
    · rintro ⟨h1, h2⟩
      exact ⟨h1 b (by simp), h2⟩

/-- `from_vec_unchecked` never panics on a sorted vector -/
theorem fromVecUnchecked_spec (dbg : Bool) (v : List Nat) (hv : Sorted v) : fromVecUnchecked dbg v = some v := by
  unfold fromVecUnchecked
  simp [(isStrictlySorted_iff v).2 hv]

theorem eq_filter_of_subset (l r : List Nat) (hl : Sorted l) (hr : Sorted r) (h : ∀ x ∈ l, x ∈ r) :
    l = r.filter (fun x => decide (x ∈ l)) := by
  refine sorted_ext _ _ hl (sorted_filter hr _) fun x => ?_
  rw [List.mem_filter, decide_eq_true_eq]
  exact ⟨fun hx => ⟨h x hx, hx⟩, And.right⟩

theorem length_le_of_subset (l r : List Nat) (hl : Sorted l) (hr : Sorted r) (h : ∀ x ∈ l, x ∈ r) :
    l.length ≤ r.length :=
  Nat.le_trans (Nat.le_of_eq (congrArg List.length (eq_filter_of_subset l r hl hr h))) (List.length_filter_le _ _)

theorem sorted_bounded_length (l : List Nat) (hl : Sorted l) (a n : Nat)
    (hb : ∀ x ∈ l, a ≤ x ∧ x < a + n) :
    l.length ≤ n ∧ (l.length = n → ∀ x, a ≤ x → x < a + n → x ∈ l) := by
  have hsub : ∀ x ∈ l, x ∈ List.range' a n := fun x hx => List.mem_range'_1.mpr (hb x hx)
  have hlen := congrArg List.length (eq_filter_of_subset l _ hl List.pairwise_lt_range' hsub)
  have hn : (List.range' a n).length = n := List.length_range'
  constructor
  · exact Nat.le_trans (length_le_of_subset l _ hl List.pairwise_lt_range' hsub) (Nat.le_of_eq hn)
  · intro h x h1 h2
    have hfull := List.length_filter_eq_length_iff.mp (hlen.symm.trans (h.trans hn.symm))
    exact of_decide_eq_true (hfull x (List.mem_range'_1.mpr ⟨h1, h2⟩))

/-- a strictly ascending list holds at most `e - s + 1` values of `[s, e]` -/
theorem rangeCount_le (v : List Nat) (hs : Sorted v) (s e : Nat) (hse : s ≤ e) :
    (v.filter (fun x => decide (s ≤ x) && decide (x ≤ e))).length ≤ e - s + 1 :=
  (sorted_bounded_length _ (sorted_filter hs _) s (e - s + 1) fun x hx => by
    have := (List.mem_filter.mp hx).2
    rw [Bool.and_eq_true, decide_eq_true_eq, decide_eq_true_eq] at this
    rw [← Nat.add_assoc, Nat.add_sub_cancel' hse]
    exact ⟨this.1, Nat.lt_succ_of_le this.2⟩).1

theorem filter_range_of_forall (v : List Nat) (hs : Sorted v) (a n : Nat)
    (h : ∀ x, a ≤ x → x < a + n → x ∈ v) :
    v.filter (fun x => decide (a ≤ x) && decide (x < a + n)) = List.range' a n := by
  apply sorted_ext _ _ (sorted_filter hs _) List.pairwise_lt_range'
  intro x
  simp only [List.mem_filter, List.mem_range'_1, Bool.and_eq_true, decide_eq_true_eq]
  constructor
  · exact fun h' => h'.2
  · exact fun h' => ⟨h x h'.1 h'.2, h'⟩

theorem interval_count_eq_iff (v : List Nat) (hs : Sorted v) (a n : Nat) :
    (v.filter (fun x => decide (a ≤ x) && decide (x < a + n))).length = n ↔ ∀ x, a ≤ x → x < a + n → x ∈ v := by
  constructor
  · intro h x h1 h2
    have hb : ∀ y ∈ v.filter (fun x => decide (a ≤ x) && decide (x < a + n)), a ≤ y ∧ y < a + n :=
      fun y hy => by simpa using (List.mem_filter.mp hy).2
    exact (List.mem_filter.mp ((sorted_bounded_length _ (sorted_filter hs _) a n hb).2 h x h1 h2)).1
  · intro h
    rw [filter_range_of_forall v hs a n h, List.length_range']

/-- `s` (if present) sits at index `#{< s}`, so probing `n` places further for `s + n` asks that `s + n` is present and
    that exactly `n` values lie in `[s, s + n)`, i.e. all of them -/
theorem probe_iff (v : List Nat) (hs : Sorted v) (s n : Nat) :
    v[(v.filter (· < s)).length + n]? = some (s + n) ↔ s + n ∈ v ∧ ∀ x, s ≤ x → x < s + n → x ∈ v := by
  rw [getElem?_eq_some_iff_sorted v hs, filter_lt_split, ← interval_count_eq_iff v hs]
  exact and_congr_right fun _ => ⟨fun h => (Nat.add_left_cancel h).symm, fun h => by rw [h]⟩

/-- guard `s ≤ e` (the bitmap level never passes an empty range) -/
theorem containsRange_spec (v : List Nat) (hv : Arr.Inv v) (s e : Nat) (hse : s ≤ e) :
    containsRange v s e = true ↔ ∀ x, s ≤ x → x ≤ e → x ∈ v := by
  obtain ⟨hs, _⟩ := hv
  obtain ⟨n, rfl⟩ : ∃ n, e = s + n := ⟨e - s, (Nat.add_sub_cancel' hse).symm⟩
  unfold containsRange
  simp only [bsearch_eq v hs s, Nat.add_sub_cancel_left, ← Nat.add_assoc, Nat.add_sub_cancel]
  constructor
  · intro h x h1 h2
    split at h
    · cases h
    · by_cases hm : s ∈ v
      · simp only [hm, decide_true, beq_iff_eq] at h
        by_cases hx : x = s + n
        · exact hx ▸ ((probe_iff v hs s n).mp h).1
        · exact ((probe_iff v hs s n).mp h).2 x h1 (Nat.lt_of_le_of_ne h2 hx)
      · simp only [hm, decide_false] at h
        cases h
  · intro h
    have hall := (interval_count_eq_iff v hs s (n + 1)).mpr fun x h1 h2 => h x h1 (Nat.le_of_lt_succ h2)
    have hlen := List.length_filter_le (fun x => decide (s ≤ x) && decide (x < s + (n + 1))) v
    rw [if_neg (by omega)]
    simp only [h s (Nat.le_refl s) hse, decide_true, beq_iff_eq]
    exact (probe_iff v hs s n).mpr ⟨h _ hse (Nat.le_refl _), fun x h1 h2 => h x h1 (Nat.le_of_lt h2)⟩

end Arr
end Roaring
