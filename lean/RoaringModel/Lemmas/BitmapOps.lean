import RoaringModel.Lemmas.ContainerOps
import RoaringModel.Lemmas.BitmapQuery
import RoaringModel.Ops
import RoaringModel.Lemmas.View
/-!
# Bitmap level: the `Pairs` merge-join loops of ops.rs / cmp.rs against the set operations

`pairsOp` is the common shape of `&a | &b`, `&a & &b`, `&a - &b` and the three `^` loops: a `filterMap`
over `pairs a b` that keeps / drops one-sided chunks and combines chunks with equal keys.  Its invariant `KeyInv` is
stated chunk by chunk (`chunk res k = sop (chunk a k) (chunk b k)`); one step lemma serves the three kinds of pair, and
`View.op` (`Lemmas/View.lean`) lifts the chunks to the element lists: `pairsOp_exact`, for any operator bundle `Oper`
(which extends `Treemap.TA.SetOp`, the record of a SPEC operation that the 64-bit lifting shares with this one).
-/
namespace Roaring

/-- The full-strength statement for one operator form `op` against the SPEC operation `sop`. -/
def C02.Exact (op : Bitmap → Bitmap → Bitmap) (sop : List Nat → List Nat → List Nat) : Prop :=
  ∀ a b : Bitmap, a.WF → b.WF → (op a b).WF ∧ Bitmap.elems (op a b) = sop (Bitmap.elems a) (Bitmap.elems b)

namespace Bitmap
open Treemap.TA (SetOp)

theorem elems_nil : elems ([] : Bitmap) = [] := rfl

theorem wf_cons (c : Container) (cs : Bitmap) (h : WF (c :: cs)) :
    c.WF ∧ (∀ d ∈ cs, c.key < d.key) ∧ WF cs :=
  ⟨h.2 c (List.mem_cons_self ..), h.dir.head_lt, h.tail⟩

theorem wf_nil : WF ([] : Bitmap) := ⟨by simp, by simp⟩

theorem wf_cons_intro (c : Container) (cs : Bitmap) (hc : c.WF) (hk : ∀ d ∈ cs, c.key < d.key) (hcs : WF cs) :
    WF (c :: cs) :=
  ⟨List.pairwise_cons.mpr ⟨fun _ hk' => by obtain ⟨d, hd, rfl⟩ := List.mem_map.mp hk'; exact hk d hd, hcs.1⟩,
    List.forall_mem_cons.mpr ⟨hc, hcs.2⟩⟩

theorem lt_cons_of_lt {k : Nat} {c : Container} {cs : Bitmap} (hc : k < c.key) (hcs : ∀ d ∈ cs, c.key < d.key) :
    ∀ d ∈ c :: cs, k < d.key :=
  List.forall_mem_cons.mpr ⟨hc, fun d hd => Nat.lt_trans hc (hcs d hd)⟩

/-- Induction along `pairs a b` for well-formed operands: each step takes off a head chunk whose key lies below
    all remaining keys, on the left, on the right, or (equal keys) on both sides. -/
theorem pairs_induction {motive : Bitmap → Bitmap → Prop} (nil : motive [] [])
    (left : ∀ l ls bs, WF (l :: ls) → WF bs → (∀ d ∈ bs, l.key < d.key) →
      pairs (l :: ls) bs = (some l, none) :: pairs ls bs → motive ls bs → motive (l :: ls) bs)
    (right : ∀ r as rs, WF as → WF (r :: rs) → (∀ d ∈ as, r.key < d.key) →
      pairs as (r :: rs) = (none, some r) :: pairs as rs → motive as rs → motive as (r :: rs))
    (both : ∀ l r ls rs, WF (l :: ls) → WF (r :: rs) → l.key = r.key →
      pairs (l :: ls) (r :: rs) = (some l, some r) :: pairs ls rs → motive ls rs → motive (l :: ls) (r :: rs))
    (a b : Bitmap) (ha : WF a) (hb : WF b) : motive a b := by
  induction a, b using pairs.induct with
  | case1 => exact nil
  | case2 l ls ih => exact left l ls [] ha hb (fun _ hd => (List.not_mem_nil hd).elim) (by rw [pairs]) (ih ha.tail hb)
  | case3 r rs ih => exact right r [] rs ha hb (fun _ hd => (List.not_mem_nil hd).elim) (by rw [pairs]) (ih ha hb.tail)
  | case4 l ls r rs h1 ih => exact both l r ls rs ha hb h1 (by rw [pairs, if_pos h1]) (ih ha.tail hb.tail)
  | case5 l ls r rs h1 h2 ih =>
    exact left l ls (r :: rs) ha hb (lt_cons_of_lt h2 hb.dir.head_lt) (by rw [pairs, if_neg h1, if_pos h2])
      (ih ha.tail hb)
  | case6 l ls r rs h1 h2 ih =>
    have h21 : r.key < l.key := Nat.lt_of_le_of_ne (Nat.le_of_not_lt h2) (Ne.symm h1)
    exact right r (l :: ls) rs ha hb (lt_cons_of_lt h21 ha.dir.head_lt) (by rw [pairs, if_neg h1, if_neg h2])
      (ih ha hb.tail)

/-- the per-pair body shared by the `Pairs` loops of `| & - ^` -/
def gOp (keepL keepR chk : Bool) (f : Container → Container → Container) :
    Option Container × Option Container → Option Container
  | (some l, none) => if keepL then some l else none
  | (none, some r) => if keepR then some r else none
  | (some l, some r) => let c := f l r; if chk && c.isEmpty then none else some c
  | (none, none) => none

def pairsOp (keepL keepR chk : Bool) (f : Container → Container → Container) (a b : Bitmap) : Bitmap :=
  (pairs a b).filterMap (gOp keepL keepR chk f)

def consOpt (o : Option Container) (rest : Bitmap) : Bitmap :=
  match o with
  | none => rest
  | some c => c :: rest

theorem filterMap_cons_consOpt {α} (g : α → Option Container) (x : α) (xs : List α) :
    (x :: xs).filterMap g = consOpt (g x) (xs.filterMap g) := by
  cases h : g x <;> simp [consOpt, h]

theorem pairsOp_cons {kl kr chk : Bool} {f : Container → Container → Container} {a b a' b' : Bitmap}
    {p : Option Container × Option Container} (hp : pairs a b = p :: pairs a' b') :
    pairsOp kl kr chk f a b = consOpt (gOp kl kr chk f p) (pairsOp kl kr chk f a' b') := by
  unfold pairsOp
  rw [hp, filterMap_cons_consOpt]

/-- one of the set operations: its truth table `P`, its SPEC operation `sop`, and the flags of its `Pairs` loop
    (is a chunk present on one side only kept? is an empty combined chunk dropped?) -/
structure Oper (P : Prop → Prop → Prop) (sop : List Nat → List Nat → List Nat) (keepL keepR chk : Bool) : Prop
    extends SetOp sop P where
  nil_right : ∀ l, sop l [] = if keepL then l else []
  nil_left : ∀ r, sop [] r = if keepR then r else []
  nonempty : chk = false → ∀ p q : Prop, p → P p q

/-- `f` combines two chunks of equal key by the store operation `op`, followed by `ensure_correct_store` -/
def IsOp (f : Container → Container → Container) (op : Store → Store → Store) : Prop :=
  ∀ l r : Container, f l r = Container.ensureCorrectStore { key := l.key, store := op l.store r.store }

/-- a container operator impl (`ensure_correct_store` after the store operator) combines the values by `sop` -/
theorem isOp_spec {P : Prop → Prop → Prop} {sop : List Nat → List Nat → List Nat} (S : SetOp sop P)
    {f : Container → Container → Container} {op : Store → Store → Store} (hf : IsOp f op) (hop : Store.OpSpec P op)
    (c r : Container) (hc : c.store.Inv) (hr : r.store.Inv) :
    (f c r).key = c.key ∧ (f c r).store.Canon ∧ (f c r).store.elems = sop c.store.elems r.store.elems := by
  rw [hf]
  obtain ⟨h1, h2, h3⟩ := Container.op_spec hop c r hc hr
  exact ⟨h1, h2, S.ext (Store.sorted_elems _ hc) (Store.sorted_elems _ hr) (Store.sorted_elems _ (Store.canon_inv _ h2)) h3⟩

/-- the directory seen chunk by chunk -/
theorem DirQ.view {Q : Store → Prop} (hQ : ∀ s, Q s → s.Inv) {b : Bitmap} (h : DirQ Q b) :
    View 65536 (elems b) (chunk b) :=
  (funext (chunk_eq_part b) : chunk b = _) ▸ (h.ok hQ).view

section
variable {P : Prop → Prop → Prop} {sop : List Nat → List Nat → List Nat} {kl kr chk : Bool}

/-- the invariant of the `Pairs` loops, chunk by chunk: what is built so far is well-formed, lies above every key that
    the rest of both operands lies above, and holds `sop` of the two chunks under every key -/
def KeyInv (sop : List Nat → List Nat → List Nat) (a b res : Bitmap) : Prop :=
  WF res ∧
  (∀ k, (∀ c ∈ a, k < c.key) → (∀ c ∈ b, k < c.key) → ∀ d ∈ res, k < d.key) ∧
  ∀ k, chunk res k = sop (chunk a k) (chunk b k)

/-- the head chunks of the operands (either may be absent: `La`/`Lb` empty) combine to `c?` in front of `rest` -/
theorem KeyInv.step {a b as bs rest : Bitmap} {key : Nat} {La Lb : List Nat} {c? : Option Container}
    (hA : ∀ k, chunk a k = if key = k then La else chunk as k) (hB : ∀ k, chunk b k = if key = k then Lb else chunk bs k)
    (hlow : ∀ j, (∀ d ∈ a, j < d.key) → (∀ d ∈ b, j < d.key) →
      j < key ∧ (∀ d ∈ as, j < d.key) ∧ ∀ d ∈ bs, j < d.key)
    (has : ∀ d ∈ as, key < d.key) (hbs : ∀ d ∈ bs, key < d.key)
    (hc : ∀ c ∈ c?, c.WF ∧ c.key = key ∧ c.store.elems = sop La Lb) (hn : c? = none → sop La Lb = [])
    (ih : KeyInv sop as bs rest) : KeyInv sop a b (consOpt c? rest) := by
  obtain ⟨hw, hlb, hch⟩ := ih
  have hrk : ∀ d ∈ rest, key < d.key := hlb key has hbs
  have hrest : ∀ k, chunk rest k = if key = k then [] else sop (chunk as k) (chunk bs k) := fun k => by
    split
    · next hk => exact chunk_nil_of_lt (hk ▸ hrk)
    · exact hch k
  cases c? with
  | none =>
    refine ⟨hw, fun j h1 h2 => hlb j (hlow j h1 h2).2.1 (hlow j h1 h2).2.2, fun k => ?_⟩
    show chunk rest k = _
    rw [hA, hB, hrest]
    split
    · exact (hn rfl).symm
    · rfl
  | some c =>
    obtain ⟨hcw, hck, hce⟩ := hc c rfl
    refine ⟨wf_cons_intro c rest hcw (hck ▸ hrk) hw,
      fun j h1 h2 => lt_cons_of_lt (hck ▸ (hlow j h1 h2).1) (hck ▸ hrk), fun k => ?_⟩
    show chunk (c :: rest) k = _
    rw [chunk, hck, hA, hB, hrest]
    split
    · exact hce
    · rfl

end

section loop
variable {P : Prop → Prop → Prop} {sop : List Nat → List Nat → List Nat} {kl kr chk : Bool}
  {f : Container → Container → Container} {op : Store → Store → Store}

theorem chunk_cons (c : Container) (cs : Bitmap) (k : Nat) :
    chunk (c :: cs) k = if c.key = k then c.store.elems else chunk cs k := rfl

theorem chunk_above {cs : Bitmap} {key : Nat} (h : ∀ d ∈ cs, key < d.key) (k : Nat) :
    chunk cs k = if key = k then [] else chunk cs k := by
  split
  · next hk => exact chunk_nil_of_lt (hk ▸ h)
  · rfl

theorem pairsOp_keyInv (O : Oper P sop kl kr chk) (hf : IsOp f op) (hop : Store.OpSpec P op) :
    ∀ (a b : Bitmap), WF a → WF b → KeyInv sop a b (pairsOp kl kr chk f a b) := by
  refine pairs_induction (motive := fun a b => KeyInv sop a b (pairsOp kl kr chk f a b)) ?_ ?_ ?_ ?_
  · simp only [pairsOp, pairs, List.filterMap_nil]
    refine ⟨wf_nil, fun _ _ _ _ hd => (List.not_mem_nil hd).elim, fun k => ?_⟩
    show ([] : List Nat) = sop [] []
    rw [O.nil_left]
    cases kr <;> rfl
  · intro l ls bs ha hb hbs hp ih
    obtain ⟨hl, hls, _⟩ := wf_cons l ls ha
    rw [pairsOp_cons hp]
    have h0 := O.nil_right l.store.elems
    have hlow : ∀ j, (∀ d ∈ l :: ls, j < d.key) → (∀ d ∈ bs, j < d.key) →
        j < l.key ∧ (∀ d ∈ ls, j < d.key) ∧ ∀ d ∈ bs, j < d.key :=
      fun j h1 h2 => ⟨h1 l List.mem_cons_self, (List.forall_mem_cons.mp h1).2, h2⟩
    cases kl with
    | false => exact .step (c? := none) (chunk_cons l ls) (chunk_above hbs) hlow hls hbs nofun (fun _ => h0) ih
    | true =>
      exact .step (c? := some l) (chunk_cons l ls) (chunk_above hbs) hlow hls hbs
        (fun c hc => Option.mem_some.mp hc ▸ ⟨hl, rfl, h0.symm⟩) nofun ih
  · intro r as rs ha hb has hp ih
    obtain ⟨hr, hrs, _⟩ := wf_cons r rs hb
    rw [pairsOp_cons hp]
    have h0 := O.nil_left r.store.elems
    have hlow : ∀ j, (∀ d ∈ as, j < d.key) → (∀ d ∈ r :: rs, j < d.key) →
        j < r.key ∧ (∀ d ∈ as, j < d.key) ∧ ∀ d ∈ rs, j < d.key :=
      fun j h1 h2 => ⟨h2 r List.mem_cons_self, h1, (List.forall_mem_cons.mp h2).2⟩
    cases kr with
    | false => exact .step (c? := none) (chunk_above has) (chunk_cons r rs) hlow has hrs nofun (fun _ => h0) ih
    | true =>
      exact .step (c? := some r) (chunk_above has) (chunk_cons r rs) hlow has hrs
        (fun c hc => Option.mem_some.mp hc ▸ ⟨hr, rfl, h0.symm⟩) nofun ih
  · intro l r ls rs ha hb hkey hp ih
    obtain ⟨hl, hls, _⟩ := wf_cons l ls ha
    obtain ⟨hr, hrs, _⟩ := wf_cons r rs hb
    obtain ⟨hfk, hfc, hfe⟩ := isOp_spec O.toSetOp hf hop l r (Store.wf_inv _ hl.2) (Store.wf_inv _ hr.2)
    rw [pairsOp_cons hp]
    refine .step (chunk_cons l ls) (fun k => hkey ▸ chunk_cons r rs k) (fun j h1 h2 => ⟨h1 l List.mem_cons_self,
      (List.forall_mem_cons.mp h1).2, (List.forall_mem_cons.mp h2).2⟩) hls (hkey ▸ hrs) ?_ ?_ ih
    · intro c hc
      dsimp only [gOp] at hc
      split at hc
      · cases hc
      · next hdrop =>
        cases hc
        refine ⟨⟨hfk ▸ hl.1, Store.wf_of_canon _ hfc fun hnil => hdrop ?_⟩, hfk, hfe⟩
        cases hchk : chk with
        | true =>
          rw [(Container.isEmpty_iff _ hfc).mpr hnil]
          rfl
        | false =>
          -- no emptiness check (`|`): the result contains the non-empty left chunk
          obtain ⟨x, hx⟩ := List.exists_mem_of_ne_nil _ (Store.wf_elems_ne _ hl.2)
          have := (O.mem _ _ (Store.sorted_elems _ (Store.wf_inv _ hl.2)) (Store.sorted_elems _ (Store.wf_inv _ hr.2)) x).2
            (O.nonempty hchk _ _ hx)
          rw [← hfe, hnil] at this
          exact absurd this List.not_mem_nil
    · intro hnone
      dsimp only [gOp] at hnone
      split at hnone
      · next hdrop =>
        rw [← hfe]
        exact (Container.isEmpty_iff _ hfc).mp (Bool.and_eq_true_iff.mp hdrop).2
      · cases hnone

theorem pairsOp_exact (O : Oper P sop kl kr chk) (hf : IsOp f op) (hop : Store.OpSpec P op)
    (a b : Bitmap) (ha : WF a) (hb : WF b) :
    WF (pairsOp kl kr chk f a b) ∧ elems (pairsOp kl kr chk f a b) = sop (elems a) (elems b) :=
  have ⟨hw, _, hk⟩ := pairsOp_keyInv O hf hop a b ha hb
  ⟨hw, View.op O.toSetOp (DirQ.view Store.wf_inv ha) (DirQ.view Store.wf_inv hb) (DirQ.view Store.wf_inv hw) hk⟩

end loop

theorem oper_or : Oper Store.POr Spec.sOr true true false where
  sorted := Spec.sorted_sOr
  mem := fun l r _ _ => Spec.mem_sOr l r
  nil_right := Spec.sOr_nil_right
  nil_left := Spec.sOr_nil_left
  nonempty := fun _ _ _ hp => Or.inl hp

theorem oper_and : Oper Store.PAnd Spec.sAnd false false true where
  sorted := Spec.sorted_sAnd
  mem := Spec.mem_sAnd
  nil_right := Spec.sAnd_nil_right
  nil_left := Spec.sAnd_nil_left
  nonempty := by intro h; cases h

theorem oper_sub : Oper Store.PSub Spec.sSub true false true where
  sorted := Spec.sorted_sSub
  mem := Spec.mem_sSub
  nil_right := Spec.sSub_nil_right
  nil_left := Spec.sSub_nil_left
  nonempty := by intro h; cases h

theorem oper_xor : Oper Store.PXor Spec.sXor true true true where
  sorted := Spec.sorted_sXor
  mem := Spec.mem_sXor
  nil_right := Spec.sXor_nil_right
  nil_left := Spec.sXor_nil_left
  nonempty := by intro h; cases h

theorem pxor_comm (p q : Prop) : Store.PXor p q ↔ Store.PXor q p := Or.comm.trans (or_congr And.comm And.comm)

theorem _root_.Roaring.Spec.sOr_comm (l r : List Nat) (hl : Sorted l) (hr : Sorted r) : Spec.sOr l r = Spec.sOr r l :=
  oper_or.comm (fun _ _ => Or.comm) l r hl hr

theorem _root_.Roaring.Spec.sAnd_comm (l r : List Nat) (hl : Sorted l) (hr : Sorted r) : Spec.sAnd l r = Spec.sAnd r l :=
  oper_and.comm (fun _ _ => And.comm) l r hl hr

/-- needed because `&a ^ b` is computed as `b ^= &a` -/
theorem _root_.Roaring.Spec.sXor_comm (l r : List Nat) (hl : Sorted l) (hr : Sorted r) : Spec.sXor l r = Spec.sXor r l :=
  oper_xor.comm pxor_comm l r hl hr

/-- an operation computed with exchanged operands, for a commutative SPEC operation -/
theorem exact_swap {sop : List Nat → List Nat → List Nat} (hc : ∀ l r, Sorted l → Sorted r → sop l r = sop r l)
    {g : Bitmap → Bitmap → Bitmap} (h : C02.Exact g sop) : C02.Exact (fun a b => g b a) sop := by
  intro a b ha hb
  rw [hc _ _ (sorted_elems a ha.dir) (sorted_elems b hb.dir)]
  exact h b a hb ha

theorem orRR_eq (a b : Bitmap) : orRR a b = pairsOp true true false Container.orRef a b := by
  unfold orRR pairsOp
  congr 1

/-- `if !c.is_empty() { Some(c) }` as `gOp` tests it -/
theorem keep_eq (c : Container) :
    (if !c.isEmpty then some c else none) = if (true && c.isEmpty) = true then none else some c := by
  cases c.isEmpty <;> rfl

theorem andRR_eq (a b : Bitmap) : andRR a b = pairsOp false false true Container.andRef a b := by
  unfold andRR pairsOp
  congr 1; funext p
  rcases p with ⟨_ | l, _ | r⟩
  case some.some => exact keep_eq _
  all_goals rfl

theorem subRR_eq (a b : Bitmap) : subRR a b = pairsOp true false true Container.subRef a b := by
  unfold subRR pairsOp
  congr 1; funext p
  rcases p with ⟨_ | l, _ | r⟩
  case some.some => exact keep_eq _
  all_goals rfl

theorem xorWith_eq (f : Container → Container → Container) (a b : Bitmap) :
    xorWith f a b = pairsOp true true true f a b := by
  unfold xorWith pairsOp
  congr 1; funext p
  rcases p with ⟨_ | l, _ | r⟩
  case some.some => exact keep_eq _
  all_goals rfl

/-- the three `Pairs` loops of `^` (ops.rs:380-441) -/
theorem xorWith_exact {f : Container → Container → Container} {op : Store → Store → Store} (hf : IsOp f op)
    (hop : Store.OpSpec Store.PXor op) : C02.Exact (xorWith f) Spec.sXor := by
  intro a b
  rw [xorWith_eq]
  exact pairsOp_exact oper_xor hf hop a b

end Bitmap
end Roaring
