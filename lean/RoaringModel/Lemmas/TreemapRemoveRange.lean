import RoaringModel.Lemmas.TreemapKernel32
import RoaringModel.Lemmas.TreemapRangeConv
/-!
# `RoaringTreemap::remove_range` (inherent.rs:207-238) through the partition directory

The first loop rewrites every partition whose key lies in `[sk, ek]` (interval `[si or 0, ei or u32::MAX]`)
and records the emptied keys; the second loop removes them.  Everything is structural in the partition list:
`elems` is the concatenation of the partitions and `filter` distributes over it.
-/
namespace Roaring
namespace Treemap
open TL

variable (K : Kernel32)

/-- the new value of one partition -/
def rrPart (sk si ek ei : Nat) (p : Nat × Bitmap) : Nat × Bitmap :=
  if p.1 ≥ sk && p.1 ≤ ek then
    (p.1, (Bitmap.removeRange p.2 (.incl (Radix.spanLo sk si p.1)) (.incl (Radix.spanHi u32Max ek ei p.1))).1)
  else p

/-- the number of values removed from one partition -/
def rrCnt (sk si ek ei : Nat) (p : Nat × Bitmap) : Nat :=
  if p.1 ≥ sk && p.1 ≤ ek then
    (Bitmap.removeRange p.2 (.incl (Radix.spanLo sk si p.1)) (.incl (Radix.spanHi u32Max ek ei p.1))).2
  else 0

theorem rrPart_fst (sk si ek ei : Nat) (p : Nat × Bitmap) : (rrPart sk si ek ei p).1 = p.1 := by
  unfold rrPart; split <;> rfl

theorem removeRangeLoop_cons (sk si ek ei : Nat) (p : Nat × Bitmap) (t : Treemap) :
    removeRangeLoop sk si ek ei (p :: t) =
      (rrPart sk si ek ei p :: (removeRangeLoop sk si ek ei t).1,
       rrCnt sk si ek ei p + (removeRangeLoop sk si ek ei t).2.1,
       if Bitmap.isEmpty (rrPart sk si ek ei p).2 && (p.1 ≥ sk && p.1 ≤ ek)
         then p.1 :: (removeRangeLoop sk si ek ei t).2.2 else (removeRangeLoop sk si ek ei t).2.2) := by
  obtain ⟨key, rb⟩ := p
  rw [removeRangeLoop]
  unfold rrPart rrCnt Radix.spanLo Radix.spanHi
  by_cases h : (decide (key ≥ sk) && decide (key ≤ ek)) = true
  · simp only [h, ↓reduceIte, Bool.and_true]
  · simp only [h, Bool.false_eq_true, ↓reduceIte, Bool.and_false, Nat.zero_add]

/-- what one partition contributes: inside `sk ..= ek` the 32-bit `remove_range` of the part of the interval that lies in
    its window, outside nothing -/
theorem rrPart_spec {sk si ek ei : Nat} (hsi : si < 4294967296) (hei : ei < 4294967296)
    (hse : sk * 4294967296 + si ≤ ek * 4294967296 + ei) {k : Nat} {b : Bitmap} (hb : K.WF b) :
    K.WF (rrPart sk si ek ei (k, b)).2 ∧
    Bitmap.elems (rrPart sk si ek ei (k, b)).2 = (Bitmap.elems b).filter (fun x =>
      !(decide (sk * 4294967296 + si ≤ k * 4294967296 + x) && decide (k * 4294967296 + x ≤ ek * 4294967296 + ei))) ∧
    rrCnt sk si ek ei (k, b) = ((Bitmap.elems b).filter (fun x =>
      decide (sk * 4294967296 + si ≤ k * 4294967296 + x) && decide (k * 4294967296 + x ≤ ek * 4294967296 + ei))).length := by
  -- the window test on a value of this partition: the loop's guard on the key, and the bounds it passes
  have hsp := fun x (hx : x ∈ Bitmap.elems b) =>
    Radix.span_decide (B := 4294967296) (top := u32Max) (sh := sk) (eh := ek) (k := k) rfl hsi hei (K.elems_lt b hb x hx)
  unfold rrPart rrCnt
  by_cases hin : sk ≤ k ∧ k ≤ ek
  · have hin' : (decide (k ≥ sk) && decide (k ≤ ek)) = true := by simpa using hin
    obtain ⟨hlo, hhi⟩ := Radix.span_le (top := u32Max) (Nat.le_of_lt_succ hsi) (Nat.le_of_lt_succ hei)
      (Radix.low_le_of_key_eq hse) k
    obtain ⟨r1, r2, r3⟩ := K.removeRange_spec b _ _ hb hlo (Nat.lt_succ_of_le hhi)
    rw [Spec.removeIv_eq] at r2 r3
    simp only [hin', ↓reduceIte]
    refine ⟨r1, r2.trans ?_, r3.trans ?_⟩
    · exact List.filter_congr fun x hx => by rw [hsp x hx, decide_eq_true hin, Bool.true_and]
    · exact congrArg _ (List.filter_congr fun x hx => by rw [hsp x hx, decide_eq_true hin, Bool.true_and])
  · have hin' : (decide (k ≥ sk) && decide (k ≤ ek)) = false := by simpa using hin
    simp only [hin', Bool.false_eq_true, ↓reduceIte]
    refine ⟨hb, (List.filter_eq_self.mpr fun x hx => ?_).symm, (List.length_eq_zero_iff.mpr
      (List.filter_eq_nil_iff.mpr fun x hx => ?_)).symm⟩
    · rw [hsp x hx, decide_eq_false hin]
      rfl
    · rw [hsp x hx, decide_eq_false hin]
      exact Bool.false_ne_true

/-- the first loop unfolded: new partitions, count, `keys_to_remove` -/
theorem removeRangeLoop_eq (sk si ek ei : Nat) (t : Treemap) :
    removeRangeLoop sk si ek ei t = (t.map (rrPart sk si ek ei), (t.map (rrCnt sk si ek ei)).sum,
      (t.filter fun p => Bitmap.isEmpty (rrPart sk si ek ei p).2 && (p.1 ≥ sk && p.1 ≤ ek)).map (·.1)) := by
  induction t with
  | nil => rfl
  | cons p t ih =>
    rw [removeRangeLoop_cons, ih, List.filter_cons]
    dsimp only
    rw [apply_ite (List.map _)]
    rfl

/-! ### the second loop: `for key in keys_to_remove { self.map.remove(&key) }` -/

theorem foldl_removeK (ks : List Nat) (t : Treemap) :
    ks.foldl removeK t = t.filter (fun p => decide (p.1 ∉ ks)) := by
  induction ks generalizing t with
  | nil => exact (List.filter_eq_self.mpr fun _ _ => decide_eq_true List.not_mem_nil).symm
  | cons k ks ih =>
    rw [List.foldl_cons, ih, removeK, List.filter_filter]
    refine List.filter_congr fun p _ => ?_
    rw [Bool.eq_iff_iff, Bool.and_eq_true, decide_eq_true_eq, decide_eq_true_eq, bne_iff_ne, List.mem_cons, not_or]
    exact And.comm

theorem key_unique {t : Treemap} (hs : KeysSorted t) {p q : Nat × Bitmap} (hp : p ∈ t) (hq : q ∈ t)
    (h : p.1 = q.1) : p = q := by
  have h1 := get_eq_some_of_mem hs (k := p.1) (b := p.2) hp
  have h2 := get_eq_some_of_mem hs (k := q.1) (b := q.2) hq
  rw [h, h2] at h1
  exact Prod.ext h (Option.some.inj h1).symm

/-- `remove_range`: the values inside the range are removed (emptied partitions are dropped), the result is
    their number -/
theorem removeRange_spec (t : Treemap) (hw : WF K t) (lo hi : Bound)
    (hlo : Bound.le u64Max lo) (hhi : Bound.le u64Max hi) :
    WF K (removeRange t lo hi).1 ∧
    elems (removeRange t lo hi).1 = (Spec.removeRange u64Max (elems t) lo hi).1 ∧
    (removeRange t lo hi).2 = (Spec.removeRange u64Max (elems t) lo hi).2 := by
  rw [removeRange, convertRange64_interval lo hi hlo hhi]
  unfold Spec.removeRange
  cases hiv : Spec.interval u64Max lo hi with
  | none => exact ⟨hw, rfl, rfl⟩
  | some iv =>
    obtain ⟨start, en⟩ := iv
    obtain ⟨hse, hen64⟩ := interval64_bounds hiv
    have hen' : en < 18446744073709551616 := Nat.lt_succ_of_le hen64
    obtain ⟨sk, si, hsi, rfl⟩ := Radix.exists_mul_add (B := 4294967296) (by decide) start
    obtain ⟨ek, ei, hei, rfl⟩ := Radix.exists_mul_add (B := 4294967296) (by decide) en
    dsimp only
    rw [split_mul_add hsi (Nat.lt_of_le_of_lt hse hen'), split_mul_add hei hen', removeRangeLoop_eq, Spec.removeIv_eq]
    dsimp only
    have hparts : ∀ p ∈ t, K.WF p.2 := fun p hp => (hw.parts p hp).2.1
    have hrr := fun p (hp : p ∈ t) => rrPart_spec K hsi hei hse (k := p.1) (hparts p hp)
    -- outside `sk ..= ek` a partition is left as it is: not empty
    have hin : ∀ p ∈ t, Bitmap.isEmpty (rrPart sk si ek ei p).2 = true →
        (decide (p.1 ≥ sk) && decide (p.1 ≤ ek)) = true := by
      intro p hp he
      cases hc : decide (p.1 ≥ sk) && decide (p.1 ≤ ek) with
      | true => rfl
      | false =>
        rw [rrPart, if_neg (by rw [hc]; exact Bool.false_ne_true)] at he
        exact absurd ((K.isEmpty_spec _ (hparts p hp)).1 he) (hw.parts p hp).2.2
    generalize hrr' : rrPart sk si ek ei = rr at hrr hin
    have hrr1 : ∀ p, (rr p).1 = p.1 := by intro p; rw [← hrr']; exact rrPart_fst ..
    have hs1 : KeysSorted (t.map rr) := by
      rw [KeysSorted, keys, List.map_map, List.map_congr_left (f := Prod.fst ∘ rr) (g := Prod.fst) fun p _ => hrr1 p]
      exact hw.sorted
    -- the second loop drops exactly the emptied partitions
    have hfil : ((t.filter fun p => Bitmap.isEmpty (rr p).2 && (p.1 ≥ sk && p.1 ≤ ek)).map (·.1)).foldl removeK (t.map rr) =
        (t.map rr).filter (fun p => !Bitmap.isEmpty p.2) := by
      rw [foldl_removeK]
      apply List.filter_congr
      intro p' hp'
      obtain ⟨p, hp, rfl⟩ := List.mem_map.mp hp'
      rw [Bool.eq_iff_iff, decide_eq_true_eq, Bool.not_eq_true', hrr1, List.mem_map]
      constructor
      · intro hnot
        rw [Bool.eq_false_iff]
        exact fun he => hnot ⟨p, List.mem_filter.mpr ⟨hp, by rw [he, hin p hp he]; rfl⟩, rfl⟩
      · rintro he ⟨q, hq, e⟩
        obtain ⟨hq1, hq2⟩ := List.mem_filter.mp hq
        rw [key_unique hw.sorted hq1 hp e, he] at hq2
        cases hq2
    rw [hfil]
    have hwf : WF K ((t.map rr).filter (fun p => !Bitmap.isEmpty p.2)) := by
      refine ⟨List.Pairwise.sublist (List.Sublist.map _ List.filter_sublist) hs1, ?_⟩
      intro p' hp'
      obtain ⟨h1, h2⟩ := List.mem_filter.mp hp'
      obtain ⟨p, hp, rfl⟩ := List.mem_map.mp h1
      refine ⟨by rw [hrr1]; exact (hw.parts p hp).1, (hrr p hp).1, fun hnil => ?_⟩
      rw [(K.isEmpty_spec _ (hrr p hp).1).2 hnil] at h2
      cases h2
    refine ⟨hwf, ?_, ?_⟩
    · rw [elems_eq_blk (hwf.lt (kE K)), elems_eq_blk (hw.lt (kE K)), Blk.elems_filter, Blk.elems_map_filter rr
        (fun y => !(decide (sk * 4294967296 + si ≤ y) && decide (y ≤ ek * 4294967296 + ei))) t
        (fun p _ => hrr1 p) fun p hp => (hrr p hp).2.1]
      intro p' hp' hf
      obtain ⟨p, hp, rfl⟩ := List.mem_map.mp hp'
      exact (K.isEmpty_spec _ (hrr p hp).1).1 (by simpa using hf)
    · rw [elems_eq_blk (hw.lt (kE K)), Blk.length_filter]
      exact congrArg List.sum (List.map_congr_left fun p hp => (hrr p hp).2.2)

end Treemap
end Roaring
