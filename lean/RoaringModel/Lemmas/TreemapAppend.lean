import RoaringModel.Lemmas.TreemapKernel32
import RoaringModel.Lemmas.SpecFacts
import RoaringModel.Lemmas.AlgebraSpec
import RoaringModel.SpecCursor64
/-!
# The value-at-a-time mutators through the partition directory: `insert`, `remove` (inherent.rs:50, 177),
  `extend` (iter.rs:462-475), `push` / `push_unchecked` (inherent.rs:126-162), `from_sorted_iter` / `append`
  (iter.rs:496-552), and
  `from_bitmaps` (iter.rs:414)

Each of them replaces or drops one partition: `insertKV_elems` / `removeK_elems` with the set operation's result.

`push` and `push_unchecked` look at the last partition only.  `forall_lt_iff_last` says why that is enough: `v` is
above every value iff its key is above the last key, or equal to it with its low half above the last partition.
-/
namespace Roaring
namespace Treemap
open TL

variable (K : Kernel32)

theorem insert_spec (t : Treemap) (hw : WF K t) (v : Nat) (hv : v < 18446744073709551616) :
    WF K (Treemap.insert t v).1 ∧ elems (Treemap.insert t v).1 = (Spec.insert (elems t) v).1 ∧
      (Treemap.insert t v).2 = (Spec.insert (elems t) v).2 := by
  obtain ⟨k, x, hx, rfl⟩ := Radix.exists_mul_add (B := P32) (by decide) v
  rw [Treemap.insert, split_mul_add hx hv]
  dsimp only [entryOrDefault]
  obtain ⟨h1, h2, h3⟩ := K.insert_spec _ x (wf_getD K hw k) hx
  have hne : Bitmap.elems (Bitmap.insert ((get t k).getD Bitmap.new) x).1 ≠ [] :=
    List.ne_nil_of_mem (a := x) (by rw [h2, Spec.mem_insert]; exact Or.inl rfl)
  obtain ⟨hw', he⟩ := insertKV_elems K hw (key_lt_of_u64 hv) h1 hne
    (Spec.sorted_insert _ (sorted_elems (kE K) hw) (k * P32 + x))
    (fun y hy => by
      rw [h2, Spec.mem_insert, Spec.mem_insert, mem_elems_mul_add K hw _ hy, Nat.add_left_cancel_iff])
    (fun y hy => by
      rw [Spec.mem_insert]; exact or_iff_right fun e => hy (by rw [e]; exact Radix.mul_add_div k hx))
  refine ⟨hw', he, ?_⟩
  rw [h3, Spec.insert_ret, Spec.insert_ret]
  simp only [mem_elems_mul_add K hw k hx]

theorem remove_spec (t : Treemap) (hw : WF K t) (v : Nat) (hv : v < 18446744073709551616) :
    WF K (Treemap.remove t v).1 ∧ elems (Treemap.remove t v).1 = (Spec.remove (elems t) v).1 ∧
      (Treemap.remove t v).2 = (Spec.remove (elems t) v).2 := by
  obtain ⟨k, x, hx, rfl⟩ := Radix.exists_mul_add (B := P32) (by decide) v
  rw [Treemap.remove, split_mul_add hx hv]
  dsimp only
  have hsort := sorted_elems (kE K) hw
  have hmem := mem_elems_mul_add K hw k hx
  cases hg : get t k with
  | none =>
    have hnot : k * P32 + x ∉ elems t := by rw [hmem, partElems_of_get_none hg]; exact List.not_mem_nil
    refine ⟨hw, (List.filter_eq_self.mpr fun y hy => ?_).symm, ?_⟩
    · exact bne_iff_ne.mpr fun e => hnot (e ▸ hy)
    · rw [Spec.remove_ret, decide_eq_false hnot]
  | some b =>
    obtain ⟨hk, hb, hbne⟩ := hw.get hg
    obtain ⟨h1, h2, h3⟩ := K.remove_spec b x hb hx
    have hret : (Bitmap.remove b x).2 = (Spec.remove (elems t) (k * P32 + x)).2 := by
      rw [h3, Spec.remove_ret, Spec.remove_ret]; simp only [hmem, partElems_of_get hg]
    -- the set operation acts on the window of `k` as the 32-bit one does on the partition
    have hin : ∀ y, y < P32 →
        (k * P32 + y ∈ (Spec.remove (elems t) (k * P32 + x)).1 ↔ y ∈ Bitmap.elems (Bitmap.remove b x).1) := by
      intro y hy
      rw [h2, Spec.mem_remove, Spec.mem_remove, mem_elems_mul_add K hw _ hy, partElems_of_get hg, ne_eq, ne_eq,
        Nat.add_left_cancel_iff]
    have hout : ∀ y, y / P32 ≠ k → (y ∈ (Spec.remove (elems t) (k * P32 + x)).1 ↔ y ∈ elems t) := by
      intro y hy
      rw [Spec.mem_remove]
      exact and_iff_left fun e => hy (by rw [e]; exact Radix.mul_add_div k hx)
    have hs' := Spec.sorted_remove _ hsort (k * P32 + x)
    dsimp only
    by_cases he : Bitmap.isEmpty (Bitmap.remove b x).1 = true
    · -- emptied, so `x` was there: the partition is dropped
      have hnil := (K.isEmpty_spec _ h1).1 he
      have hr : (Bitmap.remove b x).2 = true := by
        rw [h3, Spec.remove_ret, decide_eq_true_eq]
        have hy := List.head_mem hbne
        have : List.head (Bitmap.elems b) hbne ∉ Bitmap.elems (Bitmap.remove b x).1 := by
          rw [hnil]; exact List.not_mem_nil
        rw [h2, Spec.mem_remove, not_and, Classical.not_not] at this
        exact this hy ▸ hy
      rw [if_pos hr, if_pos he]
      obtain ⟨hw', e'⟩ := removeK_elems K hw k hs'
        (fun y hy => by rw [hin y hy, hnil]; exact List.not_mem_nil) hout
      exact ⟨hw', e', hr.symm.trans hret⟩
    · have hne : Bitmap.elems (Bitmap.remove b x).1 ≠ [] := fun h => he ((K.isEmpty_spec _ h1).2 h)
      obtain ⟨hw', e'⟩ := insertKV_elems K hw hk h1 hne hs' hin hout
      rw [if_neg he]
      cases hr : (Bitmap.remove b x).2 with
      | true => exact ⟨hw', e', hr.symm.trans hret⟩
      | false => exact ⟨hw', e', hr.symm.trans hret⟩

theorem extend_spec (vs : List Nat) (hv : ∀ v ∈ vs, v < 18446744073709551616) :
    ∀ (t : Treemap), WF K t →
      WF K (Treemap.extend t vs) ∧ elems (Treemap.extend t vs) = Spec.extend (elems t) vs := by
  induction vs with
  | nil => intro t hw; exact ⟨hw, rfl⟩
  | cons v vs ih =>
    intro t hw
    obtain ⟨h1, h2, _⟩ := insert_spec K t hw v (hv v (List.mem_cons_self ..))
    have := ih (fun x hx => hv x (List.mem_cons_of_mem _ hx)) _ h1
    rw [h2] at this
    exact this

theorem get_none_of_last_lt {t : Treemap} (hs : KeysSorted t) {key : Nat} {b : Bitmap}
    (hl : t.getLast? = some (key, b)) {k : Nat} (hk : key < k) : get t k = none := by
  rw [get_eq_none_iff]
  intro hmem
  obtain ⟨q, hq, rfl⟩ := List.mem_map.mp hmem
  exact absurd ((last_key_max' hs hl).2 q hq) (Nat.not_le.mpr hk)

/-- `map.insert` under the last key rewrites the last entry in place -/
theorem insertKV_last {t : Treemap} (hs : KeysSorted t) {key : Nat} {b b' : Bitmap}
    (hl : t.getLast? = some (key, b)) : insertKV t key b' = t.dropLast ++ [(key, b')] := by
  induction t with
  | nil => cases hl
  | cons p t ih =>
    cases t with
    | nil =>
      cases hl
      rw [insertKV, if_neg (Nat.lt_irrefl _), if_pos rfl]; rfl
    | cons q t =>
      rw [List.getLast?_cons_cons] at hl
      have hs' := (keysSorted_cons.mp hs).2
      have hlt : p.1 < key := (keysSorted_cons.mp hs).1 _ (last_key_max' hs' hl).1
      rw [insertKV, if_neg (Nat.lt_asymm hlt), if_neg (Nat.ne_of_gt hlt), ih hs' hl]; rfl

theorem forall_lt_iff_last {t : Treemap} (hw : WF K t) {key : Nat} {b : Bitmap} (hl : t.getLast? = some (key, b))
    (k : Nat) {x : Nat} (hx : x < P32) :
    (∀ y ∈ elems t, y < k * P32 + x) ↔ key < k ∨ key = k ∧ ∀ y ∈ Bitmap.elems b, y < x := by
  obtain ⟨hmem, hkmax⟩ := last_key_max' hw.sorted hl
  obtain ⟨_, hb, hbne⟩ := hw.parts _ hmem
  have hg := get_eq_some_of_mem hw.sorted hmem
  have hlt := K.elems_lt b hb
  have hin : ∀ y ∈ Bitmap.elems b, key * P32 + y ∈ elems t := fun y hy => by
    rw [← join_eq (hlt y hy)]; exact join_mem_elems hmem hy
  constructor
  · intro h
    -- the last partition is not empty
    have hy0 := List.head_mem hbne
    rcases (Radix.lt_iff_lex (hlt _ hy0) hx).1 (h _ (hin _ hy0)) with hk | ⟨hk, _⟩
    · exact Or.inl hk
    · exact Or.inr ⟨hk, fun y hy => ((Radix.lt_iff_lex (hlt y hy) hx).1 (h _ (hin y hy))).elim
        (fun h' => absurd (hk ▸ h') (Nat.lt_irrefl _)) And.right⟩
  · intro h y hy
    obtain ⟨b', hg', hm'⟩ := (mem_elems (kE K) hw y).1 hy
    have hle : y / P32 ≤ key := hkmax _ (mem_of_get_eq_some hg')
    rw [← Nat.div_add_mod' y P32, Radix.lt_iff_lex (Nat.mod_lt _ (by decide)) hx]
    rcases h with h | ⟨hk, h⟩
    · exact Or.inl (Nat.lt_of_le_of_lt hle h)
    · rcases Nat.lt_or_eq_of_le hle with hlt' | heq
      · exact Or.inl (hk ▸ hlt')
      · rw [heq, hg] at hg'
        cases hg'
        exact Or.inr ⟨heq.trans hk, h _ hm'⟩

/-- storing, under key `k`, a bitmap that holds the old partition plus `x`, appends `k·2^32 + x` — provided that
    is above every value -/
theorem append_part {t : Treemap} {k x : Nat} (hw : WF K t) (hx : x < P32) (hv : k * P32 + x < 18446744073709551616)
    (hmax : ∀ y ∈ elems t, y < k * P32 + x) {nb : Bitmap} (hnb : K.WF nb)
    (he : Bitmap.elems nb = partElems t k ++ [x]) :
    WF K (insertKV t k nb) ∧ elems (insertKV t k nb) = elems t ++ [k * P32 + x] :=
  insertKV_elems K hw (key_lt_of_u64 hv) hnb
    (by rw [he]; exact List.append_ne_nil_of_right_ne_nil _ (List.cons_ne_nil _ _))
    (sorted_concat (sorted_elems (kE K) hw) hmax)
    (fun y hy => by
      rw [he, List.mem_append, List.mem_append, List.mem_singleton, List.mem_singleton, mem_elems_mul_add K hw _ hy,
        Nat.add_left_cancel_iff])
    (fun y hy => by
      rw [List.mem_append, List.mem_singleton]
      exact or_iff_left fun e => hy (by rw [e]; exact Radix.mul_add_div k hx))

/-- `push_unchecked` of a value above the maximum appends it; no debug assertion fires, in either build
    configuration -/
theorem pushUnchecked_spec (dbg : Bool) (t : Treemap) (hw : WF K t) (v : Nat) (hv : v < 18446744073709551616)
    (hmax : ∀ x ∈ elems t, x < v) :
    ∃ t', pushUnchecked dbg t v = some t' ∧ WF K t' ∧ elems t' = elems t ++ [v] := by
  obtain ⟨k, x, hx, rfl⟩ := Radix.exists_mul_add (B := P32) (by decide) v
  rw [pushUnchecked, split_mul_add hx hv]
  dsimp only
  -- a fresh partition: there is none under key `k`
  have fresh : get t k = none →
      ∃ t', (Bitmap.pushUnchecked dbg Bitmap.new x).map (fun rb => insertKV t k rb) = some t' ∧
        WF K t' ∧ elems t' = elems t ++ [k * P32 + x] := by
    intro hg
    obtain ⟨rb, e1, w1, l1⟩ := K.pushUnchecked_spec dbg Bitmap.new _ K.new_WF hx (fun _ h => nomatch h)
    rw [e1]
    exact ⟨_, rfl, append_part K hw hx hv hmax w1 (by rw [l1, partElems_of_get_none hg]; rfl)⟩
  cases hl : t.getLast? with
  | none => exact fresh (by rw [List.getLast?_eq_none_iff.mp hl]; rfl)
  | some p =>
    obtain ⟨key, b⟩ := p
    have hmem := (last_key_max' hw.sorted hl).1
    dsimp only
    rcases (forall_lt_iff_last K hw hl k hx).1 hmax with hk | ⟨hk, hall⟩
    · have h1 : ¬ key = k := Nat.ne_of_lt hk
      have h2 : ¬ key > k := Nat.lt_asymm hk
      simp only [h1, h2, decide_false, Bool.and_false, Bool.false_eq_true, ↓reduceIte]
      exact fresh (get_none_of_last_lt hw.sorted hl hk)
    · subst hk
      obtain ⟨b', e1, w1, l1⟩ := K.pushUnchecked_spec dbg b _ (hw.parts _ hmem).2.1 hx hall
      rw [if_pos rfl, e1, Option.map_some, ← insertKV_last hw.sorted hl]
      exact ⟨_, rfl, append_part K hw hx hv hmax w1 (by rw [l1, partElems_of_get (get_eq_some_of_mem hw.sorted hmem)])⟩

/-- `push` succeeds exactly when `v` is above the current maximum (it compares with the last partition
    first), and then appends `v` -/
theorem push_spec (t : Treemap) (hw : WF K t) (v : Nat) (hv : v < 18446744073709551616) :
    WF K (Treemap.push t v).1 ∧ elems (Treemap.push t v).1 = (Spec.push (elems t) v).1 ∧
      (Treemap.push t v).2 = (Spec.push (elems t) v).2 := by
  have hsort := sorted_elems (kE K) hw
  obtain ⟨k, x, hx, rfl⟩ := Radix.exists_mul_add (B := P32) (by decide) v
  rw [Treemap.push, split_mul_add hx hv, Spec.push_eq _ _ hsort]
  dsimp only
  -- a fresh partition holding `x`
  have fresh : get t k = none → (∀ y ∈ elems t, y < k * P32 + x) →
      WF K (insertKV t k (Bitmap.push Bitmap.new x).1) ∧
      elems (insertKV t k (Bitmap.push Bitmap.new x).1) = elems t ++ [k * P32 + x] := by
    intro hg hmax
    obtain ⟨w1, l1, _⟩ := K.push_spec Bitmap.new _ K.new_WF hx
    exact append_part K hw hx hv hmax w1 (by rw [l1, partElems_of_get_none hg]; rfl)
  cases hl : t.getLast? with
  | none =>
    have ht : t = [] := List.getLast?_eq_none_iff.mp hl
    have hmax : ∀ y ∈ elems t, y < k * P32 + x := by rw [ht]; exact fun _ h => nomatch h
    rw [if_pos hmax]
    exact ⟨(fresh (by rw [ht]; rfl) hmax).1, (fresh (by rw [ht]; rfl) hmax).2, rfl⟩
  | some p =>
    obtain ⟨key, b⟩ := p
    have hmem := (last_key_max' hw.sorted hl).1
    obtain ⟨hk, hb, hbne⟩ := hw.parts _ hmem
    have hg := get_eq_some_of_mem hw.sorted hmem
    have hiff := forall_lt_iff_last K hw hl k hx
    dsimp only
    by_cases h1 : key = k
    · -- the last partition is the partition of `v`: the 32-bit `push` decides
      subst h1
      obtain ⟨p1, p2, p3⟩ := K.push_spec b _ hb hx
      rw [Spec.push_eq _ _ (K.elems_sorted b hb)] at p2 p3
      rw [if_pos rfl, ← insertKV_last hw.sorted hl, p3]
      by_cases hall : ∀ y ∈ Bitmap.elems b, y < x
      · have hmax := hiff.2 (Or.inr ⟨rfl, hall⟩)
        rw [if_pos hall] at p2
        rw [if_pos hall, if_pos hmax]
        obtain ⟨a1, a2⟩ := append_part K hw hx hv hmax p1 (by rw [p2, partElems_of_get hg])
        exact ⟨a1, a2, rfl⟩
      · have hmax : ¬ ∀ y ∈ elems t, y < key * P32 + x := fun h =>
          hall ((hiff.1 h).resolve_left (Nat.lt_irrefl _)).2
        rw [if_neg hall] at p2
        rw [if_neg hall, if_neg hmax]
        -- refused: the partition is stored back with the same values
        obtain ⟨a1, a2⟩ := insertKV_elems K hw hk p1 (by rw [p2]; exact hbne) hsort
          (fun y hy => by rw [p2, mem_elems_mul_add K hw _ hy, partElems_of_get hg]) (fun _ _ => Iff.rfl)
        exact ⟨a1, a2, rfl⟩
    · rw [if_neg h1]
      by_cases h2 : key > k
      · -- a higher partition exists: refused
        have hmax : ¬ ∀ y ∈ elems t, y < k * P32 + x := fun h =>
          (hiff.1 h).elim (Nat.lt_asymm h2) fun h' => h1 h'.1
        rw [if_pos h2, if_neg hmax]
        exact ⟨hw, rfl, rfl⟩
      · have hk' : key < k := Nat.lt_of_le_of_ne (Nat.not_lt.mp h2) h1
        have hmax := hiff.2 (Or.inl hk')
        rw [if_neg h2, if_pos hmax]
        obtain ⟨a1, a2⟩ := fresh (get_none_of_last_lt hw.sorted hl hk') hmax
        exact ⟨a1, a2, rfl⟩

theorem appendLoop_eq (dbg : Bool) : ∀ (vs : List Nat) (t : Treemap) (prev count : Nat),
    appendLoop dbg t prev count vs = Spec.appendFrom (pushUnchecked dbg) t (some prev) count vs
  | [], _, _, _ => rfl
  | v :: vs, t, prev, count => by
    rw [appendLoop, Spec.appendFrom]
    refine ite_congr decide_eq_true_eq.symm (fun _ => rfl) fun _ => ?_
    cases pushUnchecked dbg t v with
    | none => rfl
    | some t' => exact appendLoop_eq dbg vs t' v (count + 1)

/-- `append` is the loop started at the maximum: the round it spells out before the loop is a round like the others -/
theorem append_eq (dbg : Bool) (t : Treemap) (vs : List Nat) :
    append dbg t vs = Spec.appendFrom (pushUnchecked dbg) t (max? t) 0 vs := by
  cases vs with
  | nil => rfl
  | cons first rest =>
    rw [append]
    cases max? t with
    | none =>
      rw [Spec.appendFrom]
      cases pushUnchecked dbg t first with
      | none => rfl
      | some t' => exact appendLoop_eq dbg rest t' first 1
    | some m => exact appendLoop_eq dbg (first :: rest) t m 0

/-- `append` (and `from_sorted_iter` = `append` on the empty treemap): never panics, in either build
    configuration; accepts exactly the strictly ascending prefix that starts above the maximum; `Ok(n)` iff
    everything was accepted, else `Err(k)` with exactly `k` values added.  `hmaxq` is C10's `max` theorem. -/
theorem append_spec (dbg : Bool) (t : Treemap) (h : WF K t) (hmaxq : Treemap.max? t = (elems t).getLast?)
    (vs : List Nat) (hvs : ∀ v ∈ vs, v < 18446744073709551616) :
    ∃ t', append dbg t vs = some (t', (Spec.append (elems t) vs).2) ∧ WF K t' ∧
      elems t' = (Spec.append (elems t) vs).1 := by
  rw [append_eq, hmaxq]
  exact Spec.appendFrom_spec (pushUnchecked_spec K dbg) (fun _ h => sorted_elems (kE K) h) vs t 0 h hvs

/-- one `BTreeMap::insert` of a non-empty partition, on the SPEC side -/
def fbStep (s : List Nat) (p : Nat × List Nat) : List Nat :=
  Spec.sOr (s.filter (fun x => x / 4294967296 != p.1)) (p.2.map (fun y => p.1 * 4294967296 + y))

theorem fromBitmaps_fold (l : List (Nat × Bitmap)) (t : Treemap) (hw : WF K t)
    (h : ∀ p ∈ l, p.1 < 4294967296 ∧ K.WF p.2 ∧ Bitmap.elems p.2 ≠ []) :
    WF K (l.foldl (fun t p => insertKV t p.1 p.2) t) ∧
    elems (l.foldl (fun t p => insertKV t p.1 p.2) t) =
      (l.map (fun p => (p.1, Bitmap.elems p.2))).foldl fbStep (elems t) := by
  induction l generalizing t with
  | nil => exact ⟨hw, rfl⟩
  | cons p l ih =>
    obtain ⟨hk, hb, hne⟩ := h p (List.mem_cons_self ..)
    have hlt := K.elems_lt _ hb
    obtain ⟨hw', he⟩ := insertKV_elems K hw hk hb hne (s := fbStep (elems t) (p.1, Bitmap.elems p.2))
      (Spec.sorted_sOr _ _ (Arr.sorted_filter (sorted_elems (kE K) hw) _) (sorted_map_add _ (K.elems_sorted _ hb)))
      (fun y hy => by
        rw [fbStep, Spec.mem_sOr, List.mem_filter, Radix.mul_add_div p.1 hy, bne_self_eq_false, List.mem_map]
        exact ⟨fun h' => h'.elim (fun h' => nomatch h'.2) fun ⟨z, hz, e⟩ => Nat.add_left_cancel e ▸ hz,
          fun h' => Or.inr ⟨y, h', rfl⟩⟩)
      (fun x hx => by
        rw [fbStep, Spec.mem_sOr, List.mem_filter, List.mem_map]
        exact ⟨fun h' => h'.elim And.left fun ⟨y, hy, e⟩ => absurd (e ▸ Radix.mul_add_div p.1 (hlt y hy)) hx,
          fun h' => Or.inl ⟨h', bne_iff_ne.mpr hx⟩⟩)
    have ih := ih (insertKV t p.1 p.2) hw' (fun q hq => h q (List.mem_cons_of_mem _ hq))
    rw [he] at ih
    exact ih

/-- `from_bitmaps`: empty bitmaps are skipped, a repeated key replaces the earlier partition -/
theorem fromBitmaps_spec (items : List (Nat × Bitmap)) (h : ∀ p ∈ items, p.1 < 4294967296 ∧ K.WF p.2) :
    WF K (fromBitmaps items) ∧
    elems (fromBitmaps items) = Spec.fromBitmaps (items.map (fun p => (p.1, Bitmap.elems p.2))) := by
  unfold fromBitmaps Spec.fromBitmaps
  have hfil : (items.map (fun p => (p.1, Bitmap.elems p.2))).filter (fun p => !p.2.isEmpty) =
      (items.filter (fun p => !Bitmap.isEmpty p.2)).map (fun p => (p.1, Bitmap.elems p.2)) := by
    rw [List.filter_map]
    congr 1
    apply List.filter_congr
    intro p hp
    simp only [Function.comp]
    congr 1
    rw [Bool.eq_iff_iff, K.isEmpty_spec _ (h p hp).2]
    exact List.isEmpty_iff
  rw [hfil]
  exact fromBitmaps_fold K _ [] WFd.nil fun p hp => by
    obtain ⟨h1, h2⟩ := List.mem_filter.mp hp
    refine ⟨(h p h1).1, (h p h1).2, fun hnil => ?_⟩
    rw [(K.isEmpty_spec _ (h p h1).2).2 hnil] at h2
    cases h2

end Treemap
end Roaring
