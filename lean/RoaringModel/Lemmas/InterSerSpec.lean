import RoaringModel.Lemmas.InterSer
import RoaringModel.Lemmas.DecodeSpec
import RoaringModel.Lemmas.BitmapSearchOps
import RoaringModel.Lemmas.Dir
import RoaringModel.Lemmas.Canonical
/-!
# `intersection_with_serialized_unchecked` on conformant streams (C18)

`interSer_value`: for a well-formed left operand `a` and a byte string accepted by the strict reference decoder
`Spec.decode` with set `S`, `Bitmap.interSer dbg a bytes` (both build configurations) returns a `Bitmap.WF` value with
elements `Spec.sAnd (elems a) S`.

On such a stream the call is `&=` with the decoded value `b`: the loop over `self.containers` (streams with an offset
table, `interOffsets_eq`) and the sequential loop over the descriptions (`interSequential_eq`, the very `b &= &a`) both
compute a `Bitmap.searchOp`, the shape of `a &= &b` (`Lemmas/BitmapSearchOps.lean`), so the value is the one of C02
(`pairsOp_exact`).  What is proved here is that the reads land on the right chunks: the cursor reader simulates the
slice reader and never changes the data (`cursor_of_slice`); `decode_table` (`Lemmas/DecodeSpec.lean`) gives the decoded
containers with their positions (`Layout`); the binary search in the descriptions finds what `binary_search_by_key` finds
in the decoded containers (`Layout.find`); reading one chunk at such a position gives a structurally valid store with the
chunk's values (`interReadStore_spec`).  Run chunks are not normalised before the `&=`: a container operation sees a
store only through its values (`Container.op_congr`, `interPush_eq`).
-/
namespace Roaring
open Parser

/-- a successful `p` leaves the cursor's data as it is (only the position moves) -/
def Keeps {α : Type} (p : Parser Cursor α) : Prop := ∀ c a c', p c = .ok (a, c') → c'.data = c.data

theorem keeps_pure {α : Type} (a : α) : Keeps (pure a : Parser Cursor α) := by
  intro c a' c' h
  simp only [pure, Parser.pure, Except.ok.injEq, Prod.mk.injEq] at h
  rw [← h.2]

theorem keeps_fail {α : Type} (e : DecErr) : Keeps (fail e : Parser Cursor α) := by
  intro c a c' h; simp [fail] at h

theorem keeps_bind {α β : Type} (p : Parser Cursor α) (f : α → Parser Cursor β) (hp : Keeps p)
    (hf : ∀ a, Keeps (f a)) : Keeps (p >>= f) := by
  intro c b c' h
  simp only [bind, Parser.bind] at h
  split at h
  · rename_i a c1 hpa
    rw [hf a c1 b c' h, hp c a c1 hpa]
  · simp at h

theorem keeps_readExact (n : Nat) : Keeps (Cursor.readExact n) := by
  intro c a c' h
  unfold Cursor.readExact at h
  split at h
  · simp only [Except.ok.injEq, Prod.mk.injEq] at h; rw [← h.2]
  · split at h
    · simp only [Except.ok.injEq, Prod.mk.injEq] at h; rw [← h.2]
    · simp at h

theorem keeps_seekStart (off : Nat) : Keeps (Cursor.seekStart off) := by
  intro c a c' h
  simp only [Cursor.seekStart, Except.ok.injEq, Prod.mk.injEq] at h; rw [← h.2]

theorem keeps_seekCur (n : Nat) : Keeps (Cursor.seekCur n) := by
  intro c a c' h
  simp only [Cursor.seekCur, Except.ok.injEq, Prod.mk.injEq] at h; rw [← h.2]

theorem keeps_closed : CursorClosed (fun _ => True) @Keeps :=
  { pure := keeps_pure, fail := fun e _ => keeps_fail e, bind := keeps_bind, ok_of_ne := fun _ _ => trivial,
    readExact := keeps_readExact, seekStart := keeps_seekStart, seekCur := keeps_seekCur }

/-- transfer: what the slice parser does on the bytes from the cursor position on, the cursor parser does on
    the cursor -/
theorem cursor_of_slice {α : Type} (p' : Parser Cursor α) (p : Parser Bytes α)
    (hs : Sim (fun c : Cursor => c.data.drop c.pos) p' p) (hk : Keeps p')
    (c : Cursor) (a : α) (rest : Bytes) (h : p (c.data.drop c.pos) = .ok (a, rest)) :
    ∃ c', p' c = .ok (a, c') ∧ c'.data = c.data ∧ c.data.drop c'.pos = rest := by
  have h1 := hs c
  rw [h] at h1
  cases hp : p' c with
  | error e => rw [hp] at h1; simp [Except.map] at h1
  | ok r =>
    obtain ⟨a', c'⟩ := r
    rw [hp] at h1
    simp only [Except.map, Except.ok.injEq, Prod.mk.injEq] at h1
    have hd := hk c a' c' hp
    refine ⟨c', by rw [h1.1], hd, ?_⟩
    rw [← hd]; exact h1.2

theorem sim_readStoreG {σ' σ : Type} {π : σ' → σ} {R' : Nat → Parser σ' (List Nat)} {R : Nat → Parser σ (List Nat)}
    (hR : ∀ n, Sim π (R' n) (R n)) (dbg : Bool) (card : Nat) (isRun : Bool) :
    Sim π (readStoreG R' dbg card isRun) (readStoreG R dbg card isRun) :=
  (same_readStoreG (ok := fun _ => True) (fun _ _ => trivial) dbg (fun _ => trivial) card isRun).sim hR

theorem readStore_spec (dbg : Bool) (card : Nat) (isRun : Bool) (bs vals rest : List Nat)
    (hb : IsBytes bs) (hcard : 1 ≤ card) (h : Spec.decodeChunk isRun card bs = some (vals, rest)) :
    ∃ st, readStoreG readN dbg card isRun bs = .ok (st, rest) ∧ st.Inv ∧ st.elems = vals := by
  cases isRun with
  | true =>
    obtain ⟨st, hrun, hinv, hel, _⟩ := decodeRunStore_spec card bs vals rest hcard h
    exact ⟨st, by simpa [readStoreG] using hrun, hinv, hel⟩
  | false =>
    obtain ⟨st, hst, hwf, hel⟩ := decodeStore_spec card false bs vals rest hb hcard h
    refine ⟨st, ?_, Store.wf_inv _ hwf, hel⟩
    simpa [readStoreG, decodeStore] using hst false dbg

theorem interReadStore_spec (dbg : Bool) (card : Nat) (isRun : Bool) (c : Cursor) (vals rest : List Nat)
    (hb : IsBytes c.data) (hcard : 1 ≤ card)
    (h : Spec.decodeChunk isRun card (c.data.drop c.pos) = some (vals, rest)) :
    ∃ st c', interReadStore dbg card isRun c = .ok (st, c') ∧ st.Inv ∧ st.elems = vals ∧
      c'.data = c.data ∧ c.data.drop c'.pos = rest := by
  obtain ⟨st, hst, hinv, hel⟩ := readStore_spec dbg card isRun _ vals rest (isBytes_drop _ hb) hcard h
  obtain ⟨c', h1, h2, h3⟩ := cursor_of_slice _ _ (sim_readStoreG sim_cursor dbg card isRun)
    (keeps_closed.interReadStore dbg (fun _ => trivial) card isRun) c st rest hst
  exact ⟨st, c', h1, hinv, hel, h2, h3⟩

theorem find_eq (a : Bitmap) (key : Nat) :
    (match Bitmap.search a key with
      | (true, index) => a[index]?
      | (false, _) => none) = Bitmap.find a key := rfl

theorem find_some {a : Bitmap} {k : Nat} {c : Container} : Bitmap.find a k = some c → c ∈ a ∧ c.key = k := by
  induction a with
  | nil => intro h; cases (Bitmap.find_nil k).symm.trans h
  | cons r rs ih =>
    rw [Bitmap.find_cons]
    split
    · intro h; exact ⟨List.mem_cons_of_mem _ (ih h).1, (ih h).2⟩
    · split
      · rename_i hk
        intro h
        cases h
        exact ⟨List.mem_cons_self, hk⟩
      · intro h; cases h

theorem descrSearch_cons (d : Nat × Nat) (ds : List (Nat × Nat)) (k : Nat) :
    descrSearch (d :: ds) k =
      if d.1 < k then (descrSearch ds k).map (· + 1) else if d.1 = k then some 0 else none := by
  unfold descrSearch
  by_cases h : d.1 < k
  · simp only [List.takeWhile_cons, h, decide_true, if_true, List.length_cons, List.getElem?_cons_succ]
    generalize (List.takeWhile (fun d => decide (d.1 < k)) ds).length = i
    cases hi : ds[i]? with
    | none => rfl
    | some c => dsimp only; split <;> rfl
  · simp only [List.takeWhile_cons, h, decide_false, Bool.false_eq_true, if_false, List.length_nil,
      List.getElem?_cons_zero]

/-- one round: the chunk `bc` of the stream, read as `st`, meets the container `c` -/
theorem interPush_eq {bc : Container} {st : Store} (c : Container) (acc : List Container)
    (hst : st.Inv) (hbc : bc.store.Inv) (he : st.elems = bc.store.elems) (hc : c.store.Inv) :
    interPush bc.key st c acc =
      acc ++ Bitmap.consOpt
        (if (true && (bc.andAssignRef c).isEmpty) = true then none else some (bc.andAssignRef c)) [] := by
  have : Container.andAssignRef { key := bc.key, store := st } c = bc.andAssignRef c :=
    Container.op_congr (Store.andAssignRef_spec bKernel) bc.key hst hbc hc he
  unfold interPush
  rw [this]
  cases h : (bc.andAssignRef c).isEmpty <;> simp [Bitmap.consOpt, h]

/-- the binary search in the descriptions of a laid-out stream finds what `binary_search_by_key` finds in the decoded
    containers: a hit is the chunk's index, with its description, its position (its offset entry, if there is a table)
    and its values -/
theorem Layout.find {whole : List Nat} {flags : Option (List Nat)} {ds : List (Nat × Nat)} {i pos : Nat}
    {offs : Option (List Nat)} {cs : List Container} (hl : Layout whole flags ds i pos offs cs) (k : Nat) :
    match Bitmap.find cs k with
    | some rc => ∃ j d p p', descrSearch ds k = some j ∧ ds[j]? = some d ∧ d.1 = k ∧ rc.key = k ∧
        (∀ os, offs = some os → os[j]? = some p) ∧
        Spec.decodeChunk (isRunAt flags (i + j)) (d.2 + 1) (whole.drop p) = some (rc.store.elems, whole.drop p')
    | none => descrSearch ds k = none := by
  induction ds generalizing i pos offs cs with
  | nil =>
    cases hl
    rfl
  | cons d ds ih =>
    obtain ⟨key, cardM1⟩ := d
    obtain ⟨c, cs', pos', offs', rfl, hk, hofs, hch, hl'⟩ := hl
    have ih := ih hl'
    rw [descrSearch_cons, Bitmap.find_cons, hk]
    by_cases h1 : key < k
    · rw [if_pos h1, if_pos h1]
      cases hf : Bitmap.find cs' k with
      | none => rw [hf] at ih; rw [ih]; rfl
      | some rc =>
        rw [hf] at ih
        obtain ⟨j, d, p, p', hs, hd, hdk, hrk, hp, hdec⟩ := ih
        refine ⟨j + 1, d, p, p', by rw [hs]; rfl, hd, hdk, hrk, ?_,
          by rw [← Nat.add_assoc, Nat.add_right_comm]; exact hdec⟩
        intro os hos
        obtain ⟨tl, rfl, htl⟩ := hofs os hos
        exact hp tl htl
    · rw [if_neg h1, if_neg h1]
      by_cases h2 : key = k
      · rw [if_pos h2, if_pos h2]
        refine ⟨0, (key, cardM1), pos, pos', rfl, rfl, h2, hk.trans h2, ?_, hch⟩
        intro os hos
        obtain ⟨tl, rfl, _⟩ := hofs os hos
        rfl
      · rw [if_neg h2, if_neg h2]

/-! ### the loop over `self.containers` (streams with an offset table): `self ∩= stream`, chunk by chunk -/

theorem interOffsets_eq (dbg : Bool) (hd : Header) (whole : List Nat) (b : Bitmap) (pos0 : Nat)
    (hbytes : IsBytes whole)
    (hlay : Layout whole hd.runBitmap hd.descr 0 pos0 (some hd.offsets) b) (hb : ∀ c ∈ b, c.store.Inv)
    (cs acc : List Container) (c0 : Cursor) (hc0 : c0.data = whole) (hcs : ∀ c ∈ cs, c.store.Inv) :
    ∃ c1, interOffsets dbg hd cs acc c0 =
      .ok (acc ++ Bitmap.searchOp false true (fun c rc => rc.andAssignRef c) cs b, c1) := by
  induction cs generalizing acc c0 with
  | nil => exact ⟨c0, congrArg (fun l => Except.ok (l, c0)) (List.append_nil acc).symm⟩
  | cons c cs ih =>
    have hch := hlay.find c.key
    rw [Bitmap.searchOp_cons]
    unfold interOffsets
    cases hf : Bitmap.find b c.key with
    | none =>
      rw [hf] at hch
      rw [hch]
      exact ih acc c0 hc0 fun d hd' => hcs d (List.mem_cons_of_mem _ hd')
    | some rc =>
      rw [hf] at hch
      obtain ⟨j, d, p, p', hs, hdj, hdk, hrk, hofs, hdec⟩ := hch
      rw [Nat.zero_add, ← hc0] at hdec
      obtain ⟨st, c', hr, hinv, hel, hdata, _⟩ := interReadStore_spec dbg (d.2 + 1) (isRunAt hd.runBitmap j)
        { c0 with pos := p } _ _ (hc0 ▸ hbytes) (Nat.succ_pos _) hdec
      obtain ⟨c1, h1⟩ := ih (interPush d.1 st c acc) c' (hdata.trans hc0) fun d hd' => hcs d (List.mem_cons_of_mem _ hd')
      refine ⟨c1, ?_⟩
      rw [hs]
      dsimp only
      rw [List.getD_eq_getElem?_getD, List.getD_eq_getElem?_getD, hdj, hofs _ rfl, Option.getD_some,
        Option.getD_some, bind_ok _ _ _ _ _ (rfl : Cursor.seekStart p c0 = .ok ((), { c0 with pos := p })),
        bind_ok _ _ _ _ _ hr, h1, hdk, ← hrk,
        interPush_eq c acc hinv (hb rc (find_some hf).1) hel (hcs c List.mem_cons_self), List.append_assoc]
      cases (rc.andAssignRef c).isEmpty <;> rfl

/-! ### the sequential loop (streams without offset table): `stream ∩= self`, chunk by chunk -/

/-- how far the reference decoder advances over a payload: what the skipping branches of the sequential
    loop compute -/
theorem decodeChunk_skip {isRun : Bool} {card : Nat} {bs vals rest : List Nat}
    (h : Spec.decodeChunk isRun card bs = some (vals, rest)) :
    if isRun then ∃ nb, readN 2 bs = .ok (nb, bs.drop 2) ∧ rest = (bs.drop 2).drop (2 * 2 * leVal nb)
    else if card ≤ ARRAY_LIMIT then rest = bs.drop (2 * card)
    else rest = bs.drop (8 * 1024) := by
  cases isRun with
  | true =>
    obtain ⟨nb, r1, ib, h1, h2, -⟩ := decodeChunk_run h
    obtain ⟨t1, _, _, d1, _⟩ := takeN_some h1
    obtain ⟨_, _, _, d2, _⟩ := takeN_some h2
    rw [if_pos rfl]
    refine ⟨nb, by rw [← d1]; exact t1, ?_⟩
    rw [d2, d1, ← leNat_eq]
  | false =>
    rw [if_neg Bool.false_ne_true]
    by_cases hc : card ≤ 4096
    · obtain ⟨vb, h1, -⟩ := decodeChunk_array hc h
      rw [if_pos (show card ≤ ARRAY_LIMIT from hc)]
      exact (takeN_some h1).2.2.2.1
    · obtain ⟨wb, h1, -⟩ := decodeChunk_bitset hc h
      rw [if_neg (show ¬ card ≤ ARRAY_LIMIT from hc)]
      exact (takeN_some h1).2.2.2.1

/-- a chunk whose key `self` does not hold is skipped: the cursor lands where the reference decoder continues -/
theorem interSkip_spec {isRun : Bool} {card : Nat} {vals rest : List Nat} (c0 : Cursor)
    (h : Spec.decodeChunk isRun card (c0.data.drop c0.pos) = some (vals, rest))
    {β : Type} (k : Parser Cursor β) :
    ∃ c', (if isRun = true then do
              let rb ← Cursor.readExact 2
              Cursor.seekCur (2 * 2 * leVal rb)
              k
            else if card ≤ ARRAY_LIMIT then do
              Cursor.seekCur (2 * card)
              k
            else do
              Cursor.seekCur (8 * 1024)
              k) c0 = k c' ∧ c'.data = c0.data ∧ c0.data.drop c'.pos = rest := by
  have hsk := decodeChunk_skip h
  split
  · rename_i hrun
    rw [if_pos hrun] at hsk
    obtain ⟨nb, hread, hrest⟩ := hsk
    obtain ⟨c'', hr, hdata, hdrop⟩ := cursor_of_slice _ _ (sim_cursor 2) (keeps_readExact 2) c0 nb _ hread
    exact ⟨{ c'' with pos := c''.pos + 2 * 2 * leVal nb }, by rw [bind_ok _ _ _ _ _ hr]; rfl, hdata,
      by rw [hrest, ← hdrop, List.drop_drop]⟩
  · rename_i hrun
    rw [if_neg hrun] at hsk
    split
    · rename_i hcard
      rw [if_pos hcard] at hsk
      exact ⟨{ c0 with pos := c0.pos + 2 * card }, rfl, rfl, by rw [hsk, List.drop_drop]⟩
    · rename_i hcard
      rw [if_neg hcard] at hsk
      exact ⟨{ c0 with pos := c0.pos + 8 * 1024 }, rfl, rfl, by rw [hsk, List.drop_drop]⟩

theorem interSequential_cons (dbg : Bool) (a : Bitmap) (rb : Option (List Nat)) (key cardM1 : Nat)
    (ds : List (Nat × Nat)) (i : Nat) (acc : List Container) :
    interSequential dbg a rb ((key, cardM1) :: ds) i acc =
      (match Bitmap.find a key with
      | some c => do
        let st ← interReadStore dbg (cardM1 + 1) (isRunAt rb i)
        interSequential dbg a rb ds (i + 1) (interPush key st c acc)
      | none =>
        if isRunAt rb i = true then do
          let rbs ← Cursor.readExact 2
          Cursor.seekCur (2 * 2 * leVal rbs)
          interSequential dbg a rb ds (i + 1) acc
        else if cardM1 + 1 ≤ ARRAY_LIMIT then do
          Cursor.seekCur (2 * (cardM1 + 1))
          interSequential dbg a rb ds (i + 1) acc
        else do
          Cursor.seekCur (8 * 1024)
          interSequential dbg a rb ds (i + 1) acc) := rfl

theorem interSequential_eq (dbg : Bool) (a : Bitmap) (ha : ∀ c ∈ a, c.store.Inv) (flags : Option (List Nat))
    (whole : List Nat) (hbytes : IsBytes whole) (ds : List (Nat × Nat)) (i pos : Nat) (offs : Option (List Nat))
    (bsuf acc : List Container) (c0 : Cursor) (hl : Layout whole flags ds i pos offs bsuf)
    (hb : ∀ c ∈ bsuf, c.store.Inv) (hc0 : c0.data = whole) (hpos : whole.drop c0.pos = whole.drop pos) :
    ∃ c1, interSequential dbg a flags ds i acc c0 =
      .ok (acc ++ Bitmap.searchOp false true Container.andAssignRef bsuf a, c1) := by
  induction ds generalizing i pos offs bsuf acc c0 with
  | nil =>
    cases hl
    exact ⟨c0, congrArg (fun l => Except.ok (l, c0)) (List.append_nil acc).symm⟩
  | cons d ds ih =>
    obtain ⟨key, cardM1⟩ := d
    obtain ⟨bc, bsuf', pos', offs', rfl, hbk, _, hdec, hl'⟩ := hl
    rw [← hpos, ← hc0] at hdec
    have hb' := fun d hd => hb d (List.mem_cons_of_mem _ hd)
    rw [Bitmap.searchOp_cons, interSequential_cons, hbk]
    cases hf : Bitmap.find a key with
    | some c =>
      obtain ⟨st, c', hr, hinv, hel, hdata, hrest⟩ := interReadStore_spec dbg (cardM1 + 1) (isRunAt flags i)
        c0 _ _ (hc0 ▸ hbytes) (Nat.succ_pos _) hdec
      obtain ⟨c1, h1⟩ := ih (i + 1) pos' offs' bsuf' (interPush key st c acc) c' hl' hb' (hdata.trans hc0)
        (by rw [← hc0]; exact hrest)
      refine ⟨c1, ?_⟩
      dsimp only
      rw [bind_ok _ _ _ _ _ hr, h1, ← hbk,
        interPush_eq c acc hinv (hb bc List.mem_cons_self) hel (ha c (find_some hf).1), List.append_assoc]
      cases (bc.andAssignRef c).isEmpty <;> rfl
    | none =>
      obtain ⟨c', he, hdata, hrest⟩ := interSkip_spec c0 hdec (interSequential dbg a flags ds (i + 1) acc)
      obtain ⟨c1, h1⟩ := ih (i + 1) pos' offs' bsuf' acc c' hl' hb' (hdata.trans hc0) (by rw [← hc0]; exact hrest)
      exact ⟨c1, he.trans h1⟩

/-- `rhs ∩= self` chunk by chunk, written from the side of `self`: C02's `&=` with the operands of the store operation
    exchanged -/
theorem Bitmap.searchOp_andFlip (a b : Bitmap) (ha : a.WF) (hb : b.WF) :
    (Bitmap.searchOp false true (fun c rc => rc.andAssignRef c) a b).WF ∧
      Bitmap.elems (Bitmap.searchOp false true (fun c rc => rc.andAssignRef c) a b) =
        Spec.sAnd (Bitmap.elems a) (Bitmap.elems b) := by
  have e : Bitmap.searchOp false true (fun c rc => rc.andAssignRef c) a b =
      Bitmap.searchOp false true
        (fun c rc => Container.ensureCorrectStore { key := c.key, store := rc.store.andAssignRef c.store }) a b := by
    unfold Bitmap.searchOp
    refine Bitmap.filterMap_congr_mem _ _ _ fun c _ => ?_
    cases hf : Bitmap.find b c.key with
    | none => rfl
    | some rc =>
      have : rc.andAssignRef c =
          Container.ensureCorrectStore { key := c.key, store := rc.store.andAssignRef c.store } := by
        rw [← (find_some hf).2]; rfl
      simp only [this]
  rw [e, Bitmap.searchOp_eq_pairsOp _ _ _ a b ha hb]
  exact Bitmap.pairsOp_exact Bitmap.oper_and (op := fun s t => t.andAssignRef s) (fun _ _ => rfl)
    (fun s t hs ht => ⟨(Store.andAssignRef_spec bKernel t s ht hs).1,
      fun x => ((Store.andAssignRef_spec bKernel t s ht hs).2 x).trans And.comm⟩) a b ha hb

/-- **C18, value**: on a conformant stream the call returns `self ∩ stream` (either path is the `&=` of C02 with the
    decoded value) -/
theorem interSer_value (dbg : Bool) (a : Bitmap) (bs S rest : List Nat) (ha : Bitmap.WF a) (hb : IsBytes bs)
    (h : Spec.decode bs = some (S, rest)) :
    ∃ r, Bitmap.interSer dbg a bs = .ok r ∧ Bitmap.WF r ∧ Bitmap.elems r = Spec.sAnd (Bitmap.elems a) S := by
  obtain ⟨hd, r4, offs, b, hhd, hho, hofs, _, hbwf, rfl, hlay⟩ := decode_table bs S rest hb h
  obtain ⟨c1, hc1, hdata, hpos⟩ := cursor_of_slice _ _ (sim_decodeHeader sim_cursor) keeps_closed.decodeHeader
    ⟨bs, 0⟩ hd r4 hhd
  have hai : ∀ c ∈ a, c.store.Inv := fun c hc => Store.wf_inv _ (ha.2 c hc).2
  have hbi : ∀ c ∈ b, c.store.Inv := fun c hc => Store.wf_inv _ (hbwf.2 c hc).2
  unfold Bitmap.interSer interSerG
  rw [bind_ok _ _ _ _ _ hc1]
  cases offs with
  | some os =>
    rw [← hofs os rfl] at hlay
    obtain ⟨c2, h1⟩ := interOffsets_eq dbg hd bs b _ hb hlay hbi a [] c1 hdata hai
    exact ⟨_, by rw [if_pos (show hd.hasOffsets = true from hho), h1]; rfl, Bitmap.searchOp_andFlip a b ha hbwf⟩
  | none =>
    obtain ⟨c2, h1⟩ := interSequential_eq dbg a hai hd.runBitmap bs hb hd.descr 0 _ none b [] c1 hlay hbi hdata
      (by rw [hpos]; exact List.suffix_iff_eq_drop.mp (rest_suffix _ mono_decodeHeader bs hd r4 hhd))
    refine ⟨_, by rw [if_neg (show ¬ hd.hasOffsets = true from hho ▸ Bool.false_ne_true), h1], ?_⟩
    rw [Bitmap.searchOp_eq_pairsOp _ _ _ b a hbwf ha,
      Bitmap.oper_and.comm (fun _ _ => And.comm) _ _ (Bitmap.sorted_elems a ha.dir) (Bitmap.sorted_elems b hbwf.dir)]
    exact Bitmap.pairsOp_exact Bitmap.oper_and (fun _ _ => rfl) (Store.andAssignRef_spec bKernel) b a hbwf ha

end Roaring
