import RoaringModel.Lemmas.TreemapDir
import RoaringModel.Lemmas.SpecFacts
import RoaringModel.Lemmas.Radix
/-!
# `convert_range_to_inclusive` on `u64` (treemap/util.rs) computes the specification's interval
-/
namespace Roaring
namespace Treemap

/-- for `u64` bounds, `convert_range_to_inclusive` returns exactly the inclusive interval of the SPEC
    (`None` ⇔ the range is empty) -/
theorem convertRange64_interval (lo hi : Bound) (_hlo : Bound.le u64Max lo) (hhi : Bound.le u64Max hi) :
    convertRange64 lo hi = Spec.interval u64Max lo hi :=
  Bound.ends_eq u64Max lo hhi

theorem interval64_bounds {lo hi : Bound} {a b : Nat} (h : Spec.interval u64Max lo hi = some (a, b)) :
    a ≤ b ∧ b ≤ u64Max :=
  ⟨(Spec.interval_some _ _ _ _ _ h).1, (Spec.interval_some _ _ _ _ _ h).2.1⟩

end Treemap
end Roaring
