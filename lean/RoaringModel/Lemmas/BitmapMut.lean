import RoaringModel.Lemmas.Dir
import RoaringModel.Lemmas.SpecFacts
import RoaringModel.Lemmas.RangeLemmas
/-!
# The `RoaringBitmap` mutators `insert`, `remove`, `remove_range` refine the set operations (inherent.rs)

`insert` is one `findModify`; `remove` and `remove_range` are both a `mapDrop` (transform every chunk, drop those that
became empty).  The remaining mutators are in `Lemmas/BitmapMut2.lean`.
-/
namespace Roaring
namespace Bitmap

theorem insert_eq_findModify (b : Bitmap) (v : Nat) :
    insert b v = findModify (hi16 v) (fun c => c.insert (lo16 v)) false b := rfl

theorem insert_spec (b : Bitmap) (h : b.WF) (v : Nat) (hv : v < 4294967296) :
    (insert b v).1.WF ∧ elems (insert b v).1 = (Spec.insert (elems b) v).1 ∧
    (insert b v).2 = (Spec.insert (elems b) v).2 := by
  obtain ⟨hk, hl⟩ := split_lt v hv
  have hdir := h.dir
  rw [insert_eq_findModify]
  obtain ⟨c0, k0, cn0, e0, r0, d0, ch0, m0⟩ :=
    findModify_spec (hi16 v) hk (fun c => c.insert (lo16 v)) false
      (fun c hck hc => ⟨hck ▸ (Container.insert_spec c hc _ hl).1, (Container.insert_spec c hc _ hl).2.1⟩) b hdir
  obtain ⟨_, i2, i3, i4⟩ := Container.insert_spec c0 cn0 (lo16 v) hl
  refine ⟨?_, ?_, ?_⟩
  · exact m0 h (List.ne_nil_of_mem ((i3 (lo16 v)).mpr (Or.inl rfl)))
  · apply elems_eq_of_mem_chunk _ d0 _ (Spec.sorted_insert _ (sorted_elems b hdir) v)
    intro k x hx
    rw [ch0 k, Spec.mem_insert, mem_elems_join b hdir k x hx, join_eq_iff hx]
    by_cases hkk : k = hi16 v
    · rw [if_pos hkk, i3, e0, hkk]
      exact or_congr_left (and_iff_right rfl).symm
    · rw [if_neg hkk]
      exact ⟨Or.inr, fun h' => h'.elim (fun e => absurd e.1 hkk) id⟩
  · rw [r0, Spec.insert_ret, i4, e0]
    simp only [mem_elems_split b hdir v]

/-! ### pointwise transformation of the chunks, dropping the ones that became empty -/

def mapDrop (f : Container → Container) (b : Bitmap) : Bitmap := (b.map f).filter (fun c => !c.isEmpty)

theorem mapDrop_cons (f : Container → Container) (c : Container) (cs : Bitmap) :
    mapDrop f (c :: cs) = if (f c).isEmpty then mapDrop f cs else f c :: mapDrop f cs := by
  simp only [mapDrop, List.map_cons, List.filter_cons]
  cases (f c).isEmpty <;> rfl

theorem mapDrop_append (f : Container → Container) (a b : Bitmap) : mapDrop f (a ++ b) = mapDrop f a ++ mapDrop f b := by
  simp [mapDrop]

theorem mem_mapDrop {f : Container → Container} {b : Bitmap} {d : Container} (hd : d ∈ mapDrop f b) :
    ∃ c ∈ b, d = f c ∧ d.isEmpty = false := by
  obtain ⟨h1, h2⟩ := List.mem_filter.mp hd
  obtain ⟨c, hc, rfl⟩ := List.mem_map.mp h1
  exact ⟨c, hc, rfl, by simpa using h2⟩

theorem isEmpty_iff (c : Container) (hc : c.store.Inv) : c.isEmpty = true ↔ c.store.elems = [] := by
  unfold Container.isEmpty
  rw [Store.isEmpty_spec _ hc, List.isEmpty_iff]

/-- a key-preserving `f` into canonical stores: what is left after dropping the emptied containers is well-formed -/
theorem mapDrop_wf (f : Container → Container) (b : Bitmap) (hdir : b.Dir)
    (hf : ∀ c ∈ b, (f c).key = c.key ∧ (f c).store.Canon) : (mapDrop f b).WF := by
  apply wf_of_dir
  · constructor
    · have e : (b.map f).map Container.key = b.map Container.key := by
        rw [List.map_map]
        exact List.map_congr_left (fun c hc => (hf c hc).1)
      exact List.Pairwise.sublist (List.filter_sublist.map _) (e ▸ hdir.1)
    · intro d hd
      obtain ⟨c, hc, rfl, _⟩ := mem_mapDrop hd
      exact ⟨(hf c hc).1 ▸ (hdir.2 c hc).1, (hf c hc).2⟩
  · intro d hd
    obtain ⟨c, hc, rfl, hne⟩ := mem_mapDrop hd
    intro hnil
    rw [(isEmpty_iff _ (Store.canon_inv _ (hf c hc).2)).mpr hnil] at hne
    cases hne

/-- if moreover `f` keeps of each container exactly the values with `P`, the elements are cut down to `P`; no order is
    needed: `filter` goes through the concatenation of the containers -/
theorem elems_mapDrop (f : Container → Container) (P : Nat → Bool) (b : Bitmap)
    (hf : ∀ c ∈ b, (f c).key = c.key ∧ (f c).store.Canon)
    (hl : ∀ c ∈ b, (f c).store.elems = c.store.elems.filter fun x => P (c.key * 65536 + x)) :
    elems (mapDrop f b) = (elems b).filter P := by
  unfold mapDrop
  rw [elems_eq_blk, Blk.elems_filter, Blk.elems_map_filter f P b (fun c hc => (hf c hc).1) hl]
  · rfl
  · intro d hd he
    obtain ⟨c, hc, rfl⟩ := List.mem_map.mp hd
    exact (isEmpty_iff _ (Store.canon_inv _ (hf c hc).2)).mp (by simpa using he)

theorem mapDrop_id (f : Container → Container) (b : Bitmap) (hne : ∀ c ∈ b, c.isEmpty = false)
    (hf : ∀ c ∈ b, f c = c) : mapDrop f b = b := by
  induction b with
  | nil => rfl
  | cons c cs ih =>
    rw [mapDrop_cons, hf c (List.mem_cons_self ..), hne c (List.mem_cons_self ..),
      ih (fun d hd => hne d (List.mem_cons_of_mem _ hd)) (fun d hd => hf d (List.mem_cons_of_mem _ hd))]
    rfl

theorem WF.isEmpty_false {b : Bitmap} (h : b.WF) : ∀ c ∈ b, c.isEmpty = false := by
  intro c hc
  rw [← Bool.not_eq_true, isEmpty_iff c (h.dir.inv hc)]
  exact h.ne c hc

theorem remove_found (pre : Bitmap) (c : Container) (rest : Bitmap) (v : Nat)
    (hs : search (pre ++ c :: rest) (hi16 v) = (true, pre.length)) :
    remove (pre ++ c :: rest) v =
      (if (c.remove (lo16 v)).2 && (c.remove (lo16 v)).1.isEmpty then pre ++ rest
        else pre ++ (c.remove (lo16 v)).1 :: rest, (c.remove (lo16 v)).2) := by
  unfold remove
  rw [hs]
  simp only [List.getElem?_append_right (Nat.le_refl _), Nat.sub_self, List.getElem?_cons_zero, List.take_left']
  cases (c.remove (lo16 v)).2 <;> cases (c.remove (lo16 v)).1.isEmpty <;> simp

/-- what `remove` does to each container -/
def removeF (v : Nat) (c : Container) : Container :=
  if c.key = hi16 v then (c.remove (lo16 v)).1 else c

theorem remove_eq_mapDrop (v : Nat) (b : Bitmap) (hwf : b.WF) : (remove b v).1 = mapDrop (removeF v) b := by
  have hne := hwf.isEmpty_false
  -- containers with another key are left alone
  have hid : ∀ l : Bitmap, (∀ d ∈ l, d ∈ b) → (∀ d ∈ l, d.key ≠ hi16 v) → mapDrop (removeF v) l = l :=
    fun l h1 h2 => mapDrop_id _ l (fun d hd => hne d (h1 d hd)) (fun d hd => if_neg (h2 d hd))
  obtain ⟨pre, post, rfl, hpre, ⟨c, rest, rfl, hk, hrest, hs⟩ | ⟨hpost, hs⟩⟩ := search_spec b (hi16 v) hwf.dir.1
  · have hcb : c ∈ pre ++ c :: rest := by simp
    rw [remove_found pre c rest v hs, mapDrop_append, mapDrop_cons,
      hid pre (fun d hd => List.mem_append_left _ hd) (fun d hd => Nat.ne_of_lt (hpre d hd)),
      hid rest (fun d hd => List.mem_append_right _ (List.mem_cons_of_mem _ hd)) (fun d hd => Nat.ne_of_gt (hrest d hd)),
      removeF, if_pos hk]
    -- a container that becomes empty has lost something
    have : (c.remove (lo16 v)).1.isEmpty = true → (c.remove (lo16 v)).2 = true := by
      intro hem
      obtain ⟨_, r2, r3, r4⟩ := Container.remove_spec c (hwf.dir.2 c hcb).2 _ (lo16_lt v)
      rw [isEmpty_iff _ (Store.canon_inv _ r2)] at hem
      rw [r4, decide_eq_true_eq]
      obtain ⟨a, ha⟩ := List.exists_mem_of_ne_nil _ (hwf.ne c hcb)
      by_cases e : a = lo16 v
      · exact e ▸ ha
      · have := (r3 a).mpr ⟨ha, e⟩
        rw [hem] at this
        cases this
    cases hem : (c.remove (lo16 v)).1.isEmpty
    · rw [Bool.and_false]; rfl
    · rw [this hem]; rfl
  · have : remove (pre ++ post) v = (pre ++ post, false) := by unfold remove; rw [hs]
    rw [this]
    exact (hid _ (fun d hd => hd) (fun d hd => (List.mem_append.mp hd).elim
      (fun h => Nat.ne_of_lt (hpre d h)) (fun h => Nat.ne_of_gt (hpost d h)))).symm

theorem remove_ret (v : Nat) (b : Bitmap) (hdir : b.Dir) :
    ((remove b v).2 = true ↔ lo16 v ∈ chunk b (hi16 v)) := by
  rcases hdir.search_cases (hi16 v) with ⟨pre, c, rest, rfl, hs, hk, hc⟩ | ⟨i, hs, hc⟩
  · rw [remove_found pre c rest v hs, hc,
      (Container.remove_spec c (hdir.2 c (by simp)).2 (lo16 v) (lo16_lt v)).2.2.2, decide_eq_true_eq]
  · unfold remove
    rw [hs, hc]
    simp

theorem remove_spec (b : Bitmap) (h : b.WF) (v : Nat) :
    (remove b v).1.WF ∧ elems (remove b v).1 = (Spec.remove (elems b) v).1 ∧
    (remove b v).2 = (Spec.remove (elems b) v).2 := by
  have hdir := h.dir
  rw [remove_eq_mapDrop v b h]
  have hf : ∀ c ∈ b, ((removeF v c).key = c.key ∧ (removeF v c).store.Canon) ∧
      (removeF v c).store.elems = c.store.elems.filter fun x => c.key * 65536 + x != v := by
    intro c hc
    have hcan := (hdir.2 c hc).2
    have hinv := Store.canon_inv _ hcan
    obtain ⟨r1, r2, r3, _⟩ := Container.remove_spec c hcan _ (lo16_lt v)
    unfold removeF
    split
    · rename_i hk
      refine ⟨⟨r1, r2⟩, Store.elems_eq_filter hinv (Store.canon_inv _ r2) _ fun x => ?_⟩
      rw [r3 x, bne_iff_ne]
      refine and_congr_right fun hx => not_congr ?_
      rw [join_eq_iff (Store.elems_lt _ hinv x hx), hk]
      exact (and_iff_right rfl).symm
    · rename_i hk
      refine ⟨⟨rfl, hcan⟩, (List.filter_eq_self.mpr fun x hx => bne_iff_ne.mpr fun e => hk ?_).symm⟩
      exact ((join_eq_iff (Store.elems_lt _ hinv x hx) v).mp e).1
  refine ⟨mapDrop_wf _ b hdir fun c hc => (hf c hc).1,
    elems_mapDrop _ (· != v) b (fun c hc => (hf c hc).1) fun c hc => (hf c hc).2, ?_⟩
  rw [Spec.remove_ret, Bool.eq_iff_iff, remove_ret v b hdir, decide_eq_true_eq, mem_elems_split b hdir]

/-- the per-container transformation of the `remove_range` loop -/
def rrF (sk si ek ei : Nat) (c : Container) : Container :=
  if c.key ≥ sk && c.key ≤ ek then
    (c.removeRange (if c.key = sk then si else 0) (if c.key = ek then ei else 65535)).1
  else c

def rrCnt (sk si ek ei : Nat) (c : Container) : Nat :=
  if c.key ≥ sk && c.key ≤ ek then
    (c.removeRange (if c.key = sk then si else 0) (if c.key = ek then ei else 65535)).2
  else 0

theorem removeRangeLoop_eq (sk si ek ei : Nat) : ∀ (b : Bitmap), b.WF →
    removeRangeLoop sk si ek ei b = (mapDrop (rrF sk si ek ei) b, (b.map (rrCnt sk si ek ei)).sum) := by
  intro b
  induction b with
  | nil => intro _; rfl
  | cons c cs ih =>
    intro hwf
    rw [mapDrop_cons]
    unfold removeRangeLoop
    rw [ih hwf.tail]
    simp only [rrF, rrCnt, List.map_cons, List.sum_cons]
    by_cases hin : (c.key ≥ sk && c.key ≤ ek) = true
    · simp only [hin, if_true]
      by_cases hem : (c.removeRange (if c.key = sk then si else 0) (if c.key = ek then ei else 65535)).1.isEmpty = true
      · simp [hem]
      · simp [hem]
    · simp only [hin]
      have := hwf.isEmpty_false c (List.mem_cons_self ..)
      simp [this]

/-- `remove_range` on one container with the bounds the bitmap-level loop passes for its key: the values between
    `start` and `en` go, and are counted -/
theorem rr_container (c : Container) (hcan : c.store.Canon) (sk sl ek el : Nat) (hsl : sl < 65536)
    (hel : el < 65536) (hse : sk * 65536 + sl ≤ ek * 65536 + el) :
    ((rrF sk sl ek el c).key = c.key ∧ (rrF sk sl ek el c).store.Canon) ∧
    (rrF sk sl ek el c).store.elems = c.store.elems.filter (fun x =>
      !(decide (sk * 65536 + sl ≤ c.key * 65536 + x) && decide (c.key * 65536 + x ≤ ek * 65536 + el))) ∧
    rrCnt sk sl ek el c = (c.store.elems.filter (fun x =>
      decide (sk * 65536 + sl ≤ c.key * 65536 + x) && decide (c.key * 65536 + x ≤ ek * 65536 + el))).length := by
  have hinv := Store.canon_inv _ hcan
  -- the window test on a value of this container: the loop's guard on the key, and the bounds it passes
  have hsp := fun x (hx : x ∈ c.store.elems) =>
    Radix.span_decide (B := 65536) (top := 65535) (sh := sk) (eh := ek) (k := c.key) rfl hsl hel (Store.elems_lt _ hinv x hx)
  unfold rrF rrCnt
  by_cases hin : sk ≤ c.key ∧ c.key ≤ ek
  · have hin' : (decide (c.key ≥ sk) && decide (c.key ≤ ek)) = true := by simpa using hin
    obtain ⟨hlo, hhi⟩ := Radix.span_le (top := 65535) (Nat.le_of_lt_succ hsl) (Nat.le_of_lt_succ hel)
      (Radix.low_le_of_key_eq hse) c.key
    obtain ⟨r1, r2, r3, r4⟩ := Container.removeRange_spec c hinv _ _ hlo (Nat.lt_succ_of_le hhi)
    rw [if_pos hin', if_pos hin']
    refine ⟨⟨r1, r2⟩, (Store.elems_eq_filter hinv (Store.canon_inv _ r2)
      (fun x => !(decide (Radix.spanLo sk sl c.key ≤ x) && decide (x ≤ Radix.spanHi 65535 ek el c.key))) fun x =>
        (r3 x).trans (and_congr_right fun _ => by
          rw [Bool.not_eq_true', ← Bool.decide_and, decide_eq_false_iff_not])).trans ?_, r4.trans ?_⟩
    · exact List.filter_congr fun x hx => by rw [hsp x hx, decide_eq_true hin, Bool.true_and]
    · exact congrArg _ (List.filter_congr fun x hx => by rw [hsp x hx, decide_eq_true hin, Bool.true_and])
  · have hin' : ¬ (decide (c.key ≥ sk) && decide (c.key ≤ ek)) = true := by simpa using hin
    rw [if_neg hin', if_neg hin']
    refine ⟨⟨rfl, hcan⟩, (List.filter_eq_self.mpr fun x hx => ?_).symm, (List.length_eq_zero_iff.mpr
      (List.filter_eq_nil_iff.mpr fun x hx => ?_)).symm⟩
    · rw [hsp x hx, decide_eq_false hin]
      rfl
    · rw [hsp x hx, decide_eq_false hin]
      exact Bool.false_ne_true

theorem removeRange_spec (b : Bitmap) (h : b.WF) (lo hi : Bound)
    (hlo : Bound.le u32Max lo) (hhi : Bound.le u32Max hi) :
    (removeRange b lo hi).1.WF ∧ elems (removeRange b lo hi).1 = (Spec.removeRange u32Max (elems b) lo hi).1 ∧
    (removeRange b lo hi).2 = (Spec.removeRange u32Max (elems b) lo hi).2 := by
  have hdir := h.dir
  unfold removeRange Spec.removeRange
  cases hc : convertRange u32Max lo hi with
  | error e =>
    rw [convertRange_error u32Max lo hi hlo hhi e hc]
    exact ⟨h, rfl, rfl⟩
  | ok r =>
    obtain ⟨st, en⟩ := r
    rw [convertRange_ok u32Max lo hi hlo hhi st en hc]
    obtain ⟨hse, _, _⟩ := Spec.interval_some u32Max lo hi st en (convertRange_ok u32Max lo hi hlo hhi st en hc)
    obtain ⟨sk, sl, hsl, rfl⟩ := exists_join st
    obtain ⟨ek, el, hel, rfl⟩ := exists_join en
    simp only []
    rw [hi16_join sk sl hsl, lo16_join sk sl hsl, hi16_join ek el hel, lo16_join ek el hel,
      removeRangeLoop_eq _ _ _ _ b h, Spec.removeIv_eq]
    have hcf := fun c (hcb : c ∈ b) => rr_container c (hdir.2 c hcb).2 sk sl ek el hsl hel hse
    refine ⟨mapDrop_wf _ b hdir fun c hcb => (hcf c hcb).1, elems_mapDrop _ _ b (fun c hcb => (hcf c hcb).1)
      fun c hcb => (hcf c hcb).2.1, ?_⟩
    show (b.map (rrCnt sk sl ek el)).sum = _
    rw [elems_eq_blk, Blk.length_filter]
    exact congrArg List.sum (List.map_congr_left fun c hcb => (hcf c hcb).2.2)

end Bitmap
end Roaring
