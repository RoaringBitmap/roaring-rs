import RoaringModel.Lemmas.CodecKernel
import RoaringModel.Lemmas.Parser
/-!
# What the checked decoder returns is well-formed (C13)

`PostG Good P p`: from a good reader state, whenever `p` succeeds its value satisfies `P` and the state is good
again; `Post P p` is the case of the slice reader on a byte string (all entries `< 256`).  Over any reader that
honours the `read_exact` contract (`ReaderOK`) an accepted header satisfies `HeaderOK` (`postG_decodeHeader`); over
the slice reader the checked decoder returns a `BitmapWF` value (`post_deserialize`).
-/
namespace Roaring
namespace Parser

/-- the `List Nat` is a byte string; by unfolding, the `∀ x ∈ bs, x < 256` that CodecWF and the property theorems
    write out (closure under `take` / `drop`: `isBytes_take`, `isBytes_drop` in DecodeSpec) -/
def IsBytes (bs : List Nat) : Prop := ∀ x ∈ bs, x < 256

end Parser

open Parser

/-- the `read_exact` contract: from a good state, a successful `read_exact(n)` yields exactly `n` bytes (each `< 256`)
    and a good state -/
def ReaderOK {σ : Type} (Good : σ → Prop) (R : Nat → Parser σ (List Nat)) : Prop :=
  ∀ n s bytes s', Good s → R n s = .ok (bytes, s') → bytes.length = n ∧ IsBytes bytes ∧ Good s'

theorem readerOK_readN : ReaderOK IsBytes readN := by
  intro n s bytes s' hs he
  obtain ⟨hl, rfl⟩ := readN_ok he
  exact ⟨hl, fun x hx => hs x (List.mem_append_left _ hx), fun x hx => hs x (List.mem_append_right _ hx)⟩

def PostG {σ α : Type} (Good : σ → Prop) (P : α → Prop) (p : Parser σ α) : Prop :=
  ∀ s a s', Good s → p s = .ok (a, s') → P a ∧ Good s'

abbrev Parser.Post {α : Type} (P : α → Prop) (p : Parser Bytes α) : Prop := PostG IsBytes P p

section postg
variable {σ : Type} {Good : σ → Prop}

theorem postG_pure {α : Type} {P : α → Prop} (a : α) (h : P a) : PostG Good P (pure a : Parser σ α) := by
  intro s a' s' hs he
  simp only [pure, Parser.pure, Except.ok.injEq, Prod.mk.injEq] at he
  obtain ⟨rfl, rfl⟩ := he
  exact ⟨h, hs⟩

theorem postG_fail {α : Type} {P : α → Prop} (e : DecErr) : PostG Good P (fail e : Parser σ α) := by
  intro s a s' _ he; simp [fail] at he

theorem postG_bind {α β : Type} {P : α → Prop} {Q : β → Prop} (p : Parser σ α) (f : α → Parser σ β)
    (hp : PostG Good P p) (hf : ∀ a, P a → PostG Good Q (f a)) : PostG Good Q (p >>= f) := by
  intro s b s' hs he
  obtain ⟨a, r1, hpa, he⟩ := bind_ok_inv he
  exact hf a (hp s a r1 hs hpa).1 r1 b s' (hp s a r1 hs hpa).2 he

theorem postG_read {R : Nat → Parser σ (List Nat)} (hR : ReaderOK Good R) (n : Nat) :
    PostG Good (fun bytes => bytes.length = n ∧ IsBytes bytes) (R n) := by
  intro s a s' hs he
  obtain ⟨h1, h2, h3⟩ := hR n s a s' hs he
  exact ⟨⟨h1, h2⟩, h3⟩

theorem postG_weaken {α : Type} {P Q : α → Prop} (p : Parser σ α) (hp : PostG Good P p) (h : ∀ a, P a → Q a) :
    PostG Good Q p := by
  intro s a s' hs he
  obtain ⟨h1, h2⟩ := hp s a s' hs he
  exact ⟨h a h1, h2⟩

theorem postG_ofExcept {α : Type} {P : α → Prop} (x : Except DecErr α) (h : ∀ a, x = .ok a → P a) :
    PostG Good P (ofExcept x : Parser σ α) := by
  cases x with
  | ok a => exact postG_pure a (h a rfl)
  | error e => exact postG_fail e

theorem postG_ite {α : Type} {P : α → Prop} (c : Prop) [Decidable c] {p q : Parser σ α}
    (hp : c → PostG Good P p) (hq : ¬c → PostG Good P q) : PostG Good P (if c then p else q) := by
  split
  · exact hp ‹_›
  · exact hq ‹_›

/-- a decoder over a reader that honours the contract leaves the reader in a good state -/
theorem Parser.Same.good {σ' : Type} {R' : Nat → Parser σ' (List Nat)} {R : Nat → Parser σ (List Nat)}
    {ok : DecErr → Prop} (hR : ReaderOK Good R) {α : Type} {p' : Parser σ' α} {p : Parser σ α}
    (h : Same R' R ok p' p) : PostG Good (fun _ => True) p := by
  induction h with
  | read n => exact postG_weaken _ (postG_read hR n) fun _ _ => trivial
  | pure a => exact postG_pure a trivial
  | fail e _ => exact postG_fail e
  | bind _ _ ih1 ih2 => exact postG_bind _ _ ih1 fun a _ => ih2 a

end postg

theorem post_readN (n : Nat) : Post (fun bytes => bytes.length = n ∧ IsBytes bytes) (readN n) :=
  postG_read readerOK_readN n

theorem storeWF_array_leWords {vb : List Nat} {card : Nat} (hb : IsBytes vb) (hlen : vb.length = card * 2)
    (hs : Arr.isStrictlySorted (leWords 2 vb) = true) (h1 : 1 ≤ card) (h2 : card ≤ 4096) :
    StoreWF (.array (leWords 2 vb)) := by
  have hl : (leWords 2 vb).length = card := by rw [leWords_length, hlen, Nat.mul_div_cancel _ (by decide)]
  exact ⟨(Arr.isStrictlySorted_iff _).mp hs, leWords_lt 2 vb hb, hl.symm ▸ h1, hl.symm ▸ h2⟩

theorem storeWF_bitmap_leWords {wb : List Nat} {card : Nat} (hb : IsBytes wb) (hlen : wb.length = 8192)
    (hpop : card = BStore.popSum (leWords 8 wb)) (h : 4096 < card) :
    StoreWF (.bitmap { len := card, bits := leWords 8 wb }) :=
  ⟨by rw [leWords_length, hlen], leWords_lt 8 wb hb, hpop, h⟩

theorem post_decodeArrayStore (dbg : Bool) (card : Nat) (h1 : 1 ≤ card) (h2 : card ≤ ARRAY_LIMIT) :
    Post StoreWF (decodeArrayStore readN true dbg card) := by
  unfold decodeArrayStore
  apply postG_bind _ _ (post_readN _); intro vb ⟨hlen, hb⟩
  simp only [↓reduceIte]
  split
  · exact postG_pure _ (storeWF_array_leWords hb hlen ‹_› h1 h2)
  · exact postG_fail _

theorem post_decodeBitmapStore (dbg : Bool) (card : Nat) (h1 : ARRAY_LIMIT < card) :
    Post StoreWF (decodeBitmapStore readN true dbg card) := by
  unfold decodeBitmapStore
  apply postG_bind _ _ (post_readN _); intro wb ⟨hlen, hb⟩
  simp only [↓reduceIte, BStore.tryFrom]
  split
  · exact postG_fail _
  · rename_i hne
    exact postG_pure _ (storeWF_bitmap_leWords hb hlen (by simpa using hne) h1)

theorem post_decodeRunStore :
    Post (fun st => StoreWFOrEmpty (Container.ensureCorrectStore { key := 0, store := st }).store)
      (decodeRunStore readN) := by
  unfold decodeRunStore
  apply postG_bind _ _ (post_readN _); intro rb _
  apply postG_bind _ _ (post_readN _); intro ib _
  dsimp only
  apply postG_ofExcept
  intro st hst
  exact runStore_wf _ _ _ hst

theorem post_decodeStore (dbg : Bool) (card : Nat) (isRun : Bool) (h1 : 1 ≤ card) :
    Post StoreWFOrEmpty (decodeStore readN true dbg card isRun) :=
  postG_ite _ (fun _ => postG_bind _ _ (post_decodeRunStore) fun st hst => postG_pure _ hst)
    fun _ => postG_ite _
      (fun hc => postG_weaken _ (post_decodeArrayStore dbg card h1 hc) fun _ h => Or.inl h)
      fun hc => postG_weaken _ (post_decodeBitmapStore dbg card (Nat.lt_of_not_le hc)) fun _ h => Or.inl h

theorem post_decodeContainers (dbg : Bool) (rb : Option (List Nat)) (ds : List (Nat × Nat)) (i : Nat) :
    Post (fun cs : List Container => cs.map (·.key) = ds.map (·.1) ∧ ∀ c ∈ cs, StoreWFOrEmpty c.store)
      (decodeContainers readN true dbg rb ds i) := by
  induction ds generalizing i with
  | nil => exact postG_pure _ ⟨rfl, fun _ h => (List.not_mem_nil h).elim⟩
  | cons d ds ih =>
    unfold decodeContainers
    apply postG_bind _ _ (post_decodeStore dbg (d.2 + 1) _ (Nat.succ_pos _)); intro st hst
    apply postG_bind _ _ (ih (i + 1)); intro cs ⟨hk, hcs⟩
    exact postG_pure _ ⟨congrArg (d.1 :: ·) hk, List.forall_mem_cons.mpr ⟨hst, hcs⟩⟩

theorem mem_pairs : ∀ (l : List Nat) (p : Nat × Nat), p ∈ pairs l → p.1 ∈ l ∧ p.2 ∈ l
  | [], p, h => by simp [pairs] at h
  | [_], p, h => by simp [pairs] at h
  | a :: b :: l, p, h => by
    simp only [pairs, List.mem_cons] at h
    rcases h with rfl | h
    · simp
    · have := mem_pairs l p h
      exact ⟨List.mem_cons_of_mem _ (List.mem_cons_of_mem _ this.1),
             List.mem_cons_of_mem _ (List.mem_cons_of_mem _ this.2)⟩

theorem pairs_length : ∀ (l : List Nat), (pairs l).length = l.length / 2
  | [] => rfl
  | [_] => by simp [pairs]
  | a :: b :: l => by
    simp only [pairs, List.length_cons, pairs_length l]
    exact (Nat.add_div_right _ (by decide)).symm

theorem pairs_lt (B : Nat) (l : List Nat) (h : ∀ x ∈ l, x < B) : ∀ p ∈ pairs l, p.1 < B ∧ p.2 < B := by
  intro p hp
  have := mem_pairs l p hp
  exact ⟨h _ this.1, h _ this.2⟩

/-- the `(key, value)` pairs made of `cnt * 4` bytes: `cnt` pairs of `u16`s -/
theorem pairs_leWords2 (cnt : Nat) (bs : List Nat) (hl : bs.length = cnt * 4) (hb : IsBytes bs) :
    (pairs (leWords 2 bs)).length = cnt ∧ ∀ p ∈ pairs (leWords 2 bs), p.1 < 65536 ∧ p.2 < 65536 := by
  refine ⟨?_, ?_⟩
  · rw [pairs_length, leWords_length, hl, Nat.div_div_eq_div_mul]
    exact Nat.mul_div_cancel _ (by decide)
  · have := leWords_lt 2 bs hb
    exact pairs_lt 65536 _ (fun x hx => by simpa using this x hx)

/-- what `decodeHeader` guarantees of a header it accepts, over any reader honouring the contract -/
def HeaderOK (h : Header) : Prop :=
  h.size ≤ 65536 ∧ h.descr.length = h.size
  ∧ (∀ d ∈ h.descr, d.1 < 65536 ∧ d.2 < 65536)
  ∧ (∀ bm, h.runBitmap = some bm → bm.length = (h.size + 7) / 8)
  ∧ (h.hasOffsets = true → h.offsets.length = h.size)
  ∧ (∀ o ∈ h.offsets, o < 4294967296)

theorem postG_decodeHeader {σ : Type} {Good : σ → Prop} {R : Nat → Parser σ (List Nat)} (hR : ReaderOK Good R) :
    PostG Good HeaderOK (decodeHeader R) := by
  have rd : ∀ n, PostG Good (fun _ => True) (R n) := fun n => postG_weaken _ (postG_read hR n) fun _ _ => trivial
  unfold decodeHeader
  refine postG_bind _ _ (rd _) fun cb _ => postG_bind (P := fun _ => True) _ _
    (postG_ite _ (fun _ => postG_bind _ _ (rd _) fun sb _ => postG_pure _ trivial)
      fun _ => postG_ite _ (fun _ => postG_pure _ trivial) fun _ => postG_fail _)
    fun (size, hasOffsets, hasRun) _ => postG_bind
      (P := fun rb : Option (List Nat) => ∀ bm, rb = some bm → bm.length = (size + 7) / 8) _ _
      (postG_ite _ (fun _ => postG_bind _ _ (postG_read hR _) fun bm hbm => postG_pure _ fun _ h => Option.some.inj h ▸ hbm.1)
        fun _ => postG_pure _ nofun)
    fun runBitmap hrb => postG_ite _ (fun _ => postG_fail _)
      fun hsz => postG_bind _ _ (postG_read hR _) fun db ⟨hdl, hdb⟩ => postG_bind
        (P := fun ob : List Nat => (hasOffsets = true → ob.length = size * 4) ∧ IsBytes ob) _ _
        (postG_ite _ (fun _ => postG_weaken _ (postG_read hR _) fun ob h => ⟨fun _ => h.1, h.2⟩)
          fun ho => postG_pure _ ⟨fun h => absurd h ho, nofun⟩)
        fun ob ⟨hol, hob⟩ => postG_pure _ ?_
  obtain ⟨p1, p2⟩ := pairs_leWords2 size db hdl hdb
  refine ⟨Nat.le_of_not_lt hsz, p1, p2, hrb, fun ho => ?_, fun o ho => ?_⟩
  · show (leWords 4 ob).length = size
    rw [leWords_length, hol ho]
    exact Nat.mul_div_cancel _ (by decide)
  · simpa using leWords_lt 4 ob hob o ho

theorem key_lt_of_descr {cs : List Container} {ds : List (Nat × Nat)} (hk : cs.map (·.key) = ds.map (·.1))
    (hd : ∀ d ∈ ds, d.1 < 65536) : ∀ c ∈ cs, c.key < 65536 := by
  intro c hc
  obtain ⟨d, hd', hdk⟩ := List.mem_map.mp (hk ▸ List.mem_map_of_mem hc : c.key ∈ ds.map (·.1))
  exact hdk ▸ hd d hd'

theorem not_any_isEmpty {cs : List Container} (h : cs.any Container.isEmpty = false)
    (hcs : ∀ c ∈ cs, StoreWFOrEmpty c.store) : ∀ c ∈ cs, StoreWF c.store := by
  intro c hc
  rcases hcs c hc with hw | he
  · exact hw
  · exfalso
    have : cs.any Container.isEmpty = true := by
      rw [List.any_eq_true]
      exact ⟨c, hc, by simp [Container.isEmpty, Store.isEmpty, he]⟩
    rw [h] at this; cases this

theorem post_deserialize (dbg : Bool) : Post BitmapWF (deserializeG readN true dbg) := by
  unfold deserializeG
  refine postG_bind _ _ (postG_decodeHeader readerOK_readN) fun h hh =>
    postG_bind _ _ (post_decodeContainers dbg h.runBitmap h.descr 0) fun cs ⟨hk, hcs⟩ =>
    postG_ite _ (fun _ => postG_ite _ (fun _ => postG_fail _) fun hne => postG_ite _ (fun _ => postG_fail _) fun hasc =>
      postG_pure _ ?_) nofun
  have hasc' : keysStrictlyAscending cs = true := by simpa using hasc
  have hne' : cs.any Container.isEmpty = false := by simpa using hne
  exact ⟨(keysStrictlyAscending_iff cs).mp hasc', fun c hc => ⟨key_lt_of_descr hk (fun d hd => (hh.2.2.1 d hd).1) c hc, not_any_isEmpty hne' hcs c hc⟩⟩

end Roaring
