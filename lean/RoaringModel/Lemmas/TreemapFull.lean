import RoaringModel.Lemmas.TreemapKernel
import RoaringModel.Lemmas.TreemapQuery
import RoaringModel.Lemmas.TreemapCanonical
/-!
# `RoaringTreemap::is_full` (inherent.rs:306) and `RoaringTreemap::full()` (inherent.rs:34)

`is_full` = `self.map.len() == 2^32 && self.map.values().all(RoaringBitmap::is_full)`.  For a well-formed treemap
(`TWF`) this is proved equal to "the set holds all 2^64 values", in the three equivalent readings
`(elems t).length = 2^64` (`Spec.isFull u64Max`), `∀ v < 2^64, v ∈ elems t`, and `∀ v < 2^64, contains t v`.
The argument is that of `Bitmap.isFull_spec` one level up (`Blk.full_iff`, Lemmas/Blocks.lean): at most 2^32
partitions (keys strictly ascending below 2^32), each holding at most 2^32 values, so the total is 2^64 exactly
when there are 2^32 partitions and each one is full.
-/
namespace Roaring
namespace Treemap
open TL

/-- a well-formed partition is `is_full` iff it holds 2^32 values (C07 `is_full`) -/
theorem part_isFull_iff {b : Bitmap} (hb : Bitmap.WF b) :
    Bitmap.isFull b = true ↔ (Bitmap.elems b).length = 4294967296 := by
  rw [Bitmap.isFull_spec b hb]
  simp [Spec.isFull, u32Max]

/-- **`is_full` ⇔ the set is all of `0 ..= u64::MAX`** (as a cardinality: `Spec.isFull u64Max`) -/
theorem isFull_spec (t : Treemap) (h : TWF t) : isFull t = Spec.isFull u64Max (elems t) := by
  have hwf : ∀ p ∈ t, Bitmap.WF p.2 := fun p hp => (h.parts p hp).2.1
  rw [Bool.eq_iff_iff]
  simp only [isFull, Spec.isFull, Bool.and_eq_true, beq_iff_eq, List.all_eq_true]
  show _ ↔ (elems t).length = 4294967296 * 4294967296
  rw [elems_eq_blk (h.lt elems32), Blk.full_iff (by decide) h.sorted (fun p hp => (h.parts p hp).1)
    (fun p hp => part_length_le kernel32 (hwf p hp))]
  exact and_congr_right fun _ => forall_congr' fun p => imp_congr_right fun hp => part_isFull_iff (hwf p hp)

theorem length_eq_iff_forall_mem {l : List Nat} {N : Nat} (hs : Sorted l) (hlt : ∀ x ∈ l, x < N) :
    l.length = N ↔ ∀ v, v < N → v ∈ l := by
  have hb := Arr.sorted_bounded_length l hs 0 N fun x hx => ⟨Nat.zero_le _, (Nat.zero_add N).symm ▸ hlt x hx⟩
  constructor
  · exact fun hlen v hv => hb.2 hlen v (Nat.zero_le _) ((Nat.zero_add N).symm ▸ hv)
  · intro hall
    have h2 := List.length_filter_le (fun x => decide (0 ≤ x) && decide (x < 0 + N)) l
    rw [Arr.filter_range_of_forall l hs 0 N fun x _ h2 => hall x ((Nat.zero_add N) ▸ h2), List.length_range'] at h2
    exact Nat.le_antisymm hb.1 h2

theorem isFull_iff_forall_mem (t : Treemap) (h : TWF t) :
    isFull t = true ↔ ∀ v, v < 18446744073709551616 → v ∈ elems t := by
  rw [isFull_spec t h, ← length_eq_iff_forall_mem (sorted_elems elems32 h) (elems_lt elems32 h)]
  simp [Spec.isFull, u64Max]

theorem isFull_iff_forall_contains (t : Treemap) (h : TWF t) :
    isFull t = true ↔ ∀ v, v < 18446744073709551616 → Treemap.contains t v = true := by
  rw [isFull_iff_forall_mem t h]
  refine forall_congr' fun v => imp_congr_right fun hv => ?_
  rw [contains_spec kernel32 t h v hv, Spec.contains, List.contains_iff_mem]

theorem elems_eq_of_isFull {s t : Treemap} (hs : TWF s) (ht : TWF t) (h1 : isFull s = true)
    (h2 : isFull t = true) : elems s = elems t :=
  sorted_ext (sorted_elems elems32 hs) (sorted_elems elems32 ht) fun x =>
    ⟨fun hx => (isFull_iff_forall_mem t ht).mp h2 x (elems_lt elems32 hs x hx),
     fun hx => (isFull_iff_forall_mem s hs).mp h1 x (elems_lt elems32 ht x hx)⟩

/-- inherent.rs:34 `full()`: `(0..=u32::MAX).zip(iter::repeat(RoaringBitmap::full())).collect()` — 2^32 partitions,
    each `RoaringBitmap::full()` (2 TiB of bitsets: never executed, neither by the driver nor by the harness) -/
def full : Treemap := (List.range 4294967296).map fun k => (k, fullBitmap)

theorem full_TWF : TWF full := by
  refine ⟨?_, ?_⟩
  · have : keys full = List.range 4294967296 := by
      unfold keys full
      rw [List.map_map]
      have : ((fun p : Nat × Bitmap => p.1) ∘ fun k => (k, fullBitmap)) = id := by funext k; rfl
      rw [this, List.map_id]
    show Sorted (keys full)
    rw [this]
    exact List.pairwise_lt_range
  · intro p hp
    obtain ⟨k, hk, rfl⟩ := List.mem_map.mp hp
    dsimp only
    refine ⟨List.mem_range.mp hk, fullBitmap_WF, ?_⟩
    rw [elems_fullBitmap]
    simp

theorem isFull_full : isFull full = true := by
  simp only [isFull, Bool.and_eq_true, beq_iff_eq, List.all_eq_true]
  refine ⟨by unfold full; rw [List.length_map, List.length_range], ?_⟩
  intro p hp
  obtain ⟨k, _, rfl⟩ := List.mem_map.mp hp
  dsimp only
  rw [part_isFull_iff fullBitmap_WF, elems_fullBitmap, List.length_range']

end Treemap
end Roaring
