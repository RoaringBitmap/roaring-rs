import RoaringModel.SafeMulti
import RoaringModel.Lemmas.SafeLemmas
import RoaringModel.Lemmas.SafeComposeLemmas
import RoaringModel.Lemmas.MultiKernelProof
/-!
# The `Safe_*` predicates of `SafeMulti.lean` follow from the accumulator invariant of the C09 proofs

`Multi.Acc cs` (`Lemmas/MultiKernel.lean`): ascending keys below 2^16 and `StoreValid` (= `Store.Inv`, `storeValid_iff`) of
every store — NOT canonical kinds, possibly empty stores.  `Bitmap.orStep_view` (the lemma C09 uses) shows that one merge
step keeps it, given the law `BlockOp` of the `Ok(loc)` arm (`blockOp_combineOwned`, `blockOp_combineRef` of
`Lemmas/MultiMerge.lean`, at `Multi.kernel`); the
store-level predicates (`BStore.safe_orArr`, `safe_xorArr`, `safe_opBitmaps`, `Arr.safe_toBitmap`,
`Container.safe_ensureCorrectStore`) need exactly `Store.Inv` of their operands.
-/
namespace Roaring.Multi
open Roaring Roaring.Spec

variable {ε : Type}

theorem word_lt (k : MergeOp) (x y : Nat) (hx : x < 2^64) (hy : y < 2^64) : k.word x y < 2^64 := by
  cases k
  · exact Nat.or_lt_two_pow hx hy
  · exact Nat.xor_lt_two_pow hx hy

theorem safe_storeOp (k : MergeOp) (recv : BStore) (hr : recv.Inv) (arg : Store) (ha : StoreValid arg) :
    Safe_storeOp k recv arg := by
  cases arg with
  | array v =>
    have hv : ∀ x ∈ v, x < 65536 := ha.2
    cases k
    · exact BStore.safe_orArr v recv hr hv
    · exact BStore.safe_xorArr recv hr v hv
  | bitmap b => exact BStore.safe_opBitmaps k.word (word_lt k) recv b hr ((storeValid_iff _).1 ha)

theorem inv_arrToBitmap (v : List Nat) (hv : StoreValid (.array v)) : (Store.arrToBitmap v).Inv :=
  (storeValid_iff _).1 (kernel.toBitmap (.array v) hv).1

theorem safe_combineOwned (k : MergeOp) (l r : Container) (hl : StoreValid l.store) (hr : StoreValid r.store) :
    Safe_combineOwned k l r := by
  obtain ⟨lk, ls⟩ := l
  obtain ⟨rk, rs⟩ := r
  cases ls with
  | array lv =>
    cases rs with
    | array rv =>
      exact ⟨Arr.safe_toBitmap lv ((storeValid_iff _).1 hl), safe_storeOp k _ (inv_arrToBitmap lv hl) _ hr⟩
    | bitmap rb => exact safe_storeOp k rb ((storeValid_iff _).1 hr) _ hl
  | bitmap lb => exact safe_storeOp k lb ((storeValid_iff _).1 hl) _ hr

/-- the `Ok(loc)` arm of `merge_container_ref` runs the store-level calls of the owned one on the borrowed container -/
theorem safe_combineRef (k : MergeOp) (l : Cow) (r : Container) (hl : StoreValid l.get.store)
    (hr : StoreValid r.store) : Safe_combineRef k l r := safe_combineOwned k l.get r hl hr

theorem acc_mergeStepOwned (k : MergeOp) {lhs : List Container} (hacc : Acc lhs) {r : Container}
    (hr : r.key < 65536 ∧ StoreValid r.store) : Acc (mergeStepOwned k.owned lhs r) := by
  rw [mergeStepOwned_eq]
  cases k
  · exact (Bitmap.orStep_view (blockOp_combineOwned mergeLaw_or kernel.orOwned) sOr_nil_left hr hacc).1
  · exact (Bitmap.orStep_view (blockOp_combineOwned mergeLaw_xor kernel.xorOwned) sXor_nil_left hr hacc).1

theorem acc_mergeContainerOwned (k : MergeOp) (rhs lhs : List Container) (hacc : Acc lhs)
    (hrs : ∀ r ∈ rhs, r.key < 65536 ∧ StoreValid r.store) : Acc (mergeContainerOwned k.owned lhs rhs) := by
  induction rhs generalizing lhs with
  | nil => exact hacc
  | cons r rs ih =>
    obtain ⟨hr, hrs⟩ := List.forall_mem_cons.1 hrs
    exact ih _ (acc_mergeStepOwned k hacc hr) hrs

theorem acc_mergeStepRef (k : MergeOp) {cs : List Cow} (hacc : Acc (cs.map Cow.get)) {r : Container}
    (hr : r.key < 65536 ∧ StoreValid r.store) : Acc ((mergeStepRef k.ref cs r).map Cow.get) := by
  rw [mergeStepRef_map_get]
  cases k
  · exact (Bitmap.orStep_view (blockOp_combineRef mergeLaw_or kernel.orRef) sOr_nil_left hr hacc).1
  · exact (Bitmap.orStep_view (blockOp_combineRef mergeLaw_xor kernel.xorRef) sXor_nil_left hr hacc).1

theorem acc_mergeContainerRef (k : MergeOp) (rhs : List Container) (cs : List Cow) (hacc : Acc (cs.map Cow.get))
    (hrs : ∀ r ∈ rhs, r.key < 65536 ∧ StoreValid r.store) : Acc ((mergeContainerRef k.ref cs rhs).map Cow.get) := by
  induction rhs generalizing cs with
  | nil => exact hacc
  | cons r rs ih =>
    obtain ⟨hr, hrs⟩ := List.forall_mem_cons.1 hrs
    exact ih _ (acc_mergeStepRef k hacc hr) hrs

/-- the containers of a well-formed operand, as the right-hand side of a merge -/
theorem rhs_of_wf {b : Bitmap} (h : WF b) : ∀ r ∈ b, r.key < 65536 ∧ StoreValid r.store :=
  fun r hr => ⟨(h.2 r hr).1, (h.2 r hr).2.1⟩

/-- **`merge_container_owned`**: for EVERY accumulator that satisfies the invariant (so also for the not yet canonical
    one in the middle of a multi-op) and every right-hand side with valid stores -/
theorem safe_mergeOwned (k : MergeOp) (rhs lhs : List Container) (hacc : Acc lhs)
    (hrs : ∀ r ∈ rhs, r.key < 65536 ∧ StoreValid r.store) : Safe_mergeOwned k lhs rhs := by
  induction rhs generalizing lhs with
  | nil => trivial
  | cons r rs ih =>
    obtain ⟨hr, hrs⟩ := List.forall_mem_cons.1 hrs
    unfold Safe_mergeOwned
    refine ⟨Bitmap.safe_search lhs r.key, ?_, ih _ (acc_mergeStepOwned k hacc hr) hrs⟩
    rcases Bitmap.search lhs r.key with ⟨_ | _, loc⟩
    · trivial
    · dsimp only
      cases hl : lhs[loc]? with
      | none => trivial
      | some l => exact safe_combineOwned k l r (hacc.2 l (List.mem_of_getElem? hl)).2 hr.2

theorem safe_mergeRef (k : MergeOp) (rhs : List Container) (cs : List Cow) (hacc : Acc (cs.map Cow.get))
    (hrs : ∀ r ∈ rhs, r.key < 65536 ∧ StoreValid r.store) : Safe_mergeRef k cs rhs := by
  induction rhs generalizing cs with
  | nil => trivial
  | cons r rs ih =>
    obtain ⟨hr, hrs⟩ := List.forall_mem_cons.1 hrs
    unfold Safe_mergeRef
    refine ⟨safe_searchCow cs r.key, ?_, ih _ (acc_mergeStepRef k hacc hr) hrs⟩
    rcases searchCow cs r.key with ⟨_ | _, loc⟩
    · trivial
    · dsimp only
      cases hl : cs[loc]? with
      | none => trivial
      | some l =>
        exact safe_combineRef k l r (hacc.2 l.get (List.mem_map_of_mem (List.mem_of_getElem? hl))).2 hr.2

theorem safe_mergeLoopOwned (k : MergeOp) (xs : List (Except ε Bitmap)) (cs : List Container) (hacc : Acc cs)
    (hwf : ∀ b ∈ okValues xs, WF b) :
    Safe_mergeLoopOwned k cs xs ∧ ∀ cs', mergeLoopOwned k.owned cs xs = .ok cs' → Acc cs' := by
  induction xs generalizing cs with
  | nil => exact ⟨trivial, fun cs' h => by cases h; exact hacc⟩
  | cons x rest ih =>
    cases x with
    | error e => exact ⟨trivial, fun cs' h => by cases h⟩
    | ok b =>
      obtain ⟨hb, hrest⟩ := List.forall_mem_cons.1 hwf
      have ih := ih _ (acc_mergeContainerOwned k b cs hacc (rhs_of_wf hb)) hrest
      exact ⟨⟨safe_mergeOwned k b cs hacc (rhs_of_wf hb), ih.1⟩, ih.2⟩

theorem safe_mergeLoopRef (k : MergeOp) (xs : List (Except ε Bitmap)) (cs : List Cow) (hacc : Acc (cs.map Cow.get))
    (hwf : ∀ b ∈ okValues xs, WF b) :
    Safe_mergeLoopRef k cs xs ∧ ∀ cs', mergeLoopRef k.ref cs xs = .ok cs' → Acc (cs'.map Cow.get) := by
  induction xs generalizing cs with
  | nil => exact ⟨trivial, fun cs' h => by cases h; exact hacc⟩
  | cons x rest ih =>
    cases x with
    | error e => exact ⟨trivial, fun cs' h => by cases h⟩
    | ok b =>
      obtain ⟨hb, hrest⟩ := List.forall_mem_cons.1 hwf
      have ih := ih _ (acc_mergeContainerRef k b cs hacc (rhs_of_wf hb)) hrest
      exact ⟨⟨safe_mergeRef k b cs hacc (rhs_of_wf hb), ih.1⟩, ih.2⟩

theorem safe_cleanupOwned {cs : List Container} (hacc : Acc cs) : Safe_cleanupOwned cs :=
  fun c hc _ => Container.safe_ensureCorrectStore c ((storeValid_iff _).1 (hacc.2 c hc).2)

theorem safe_cleanupRef {cs : List Cow} (hacc : Acc (cs.map Cow.get)) : Safe_cleanupRef cs :=
  fun c hc _ => Container.safe_ensureCorrectStore c.get
    ((storeValid_iff _).1 (hacc.2 c.get (List.mem_map_of_mem hc)).2)

/-- the merge loop from a well-formed first operand, then the clean-up of what it returns -/
theorem safe_runOwned (k : MergeOp) {c : Bitmap} (hc : WF c) {rest : List (Except ε Bitmap)}
    (hr : ∀ b ∈ okValues rest, WF b) :
    Safe_mergeLoopOwned k c rest ∧
      match mergeLoopOwned k.owned c rest with
      | .ok cs => Safe_cleanupOwned cs
      | .error _ => True := by
  have hl := safe_mergeLoopOwned k rest c hc.acc hr
  refine ⟨hl.1, ?_⟩
  cases hcs : mergeLoopOwned k.owned c rest with
  | ok cs => exact safe_cleanupOwned (hl.2 cs hcs)
  | error e => trivial

theorem safe_runRef (k : MergeOp) {c : Bitmap} (hc : WF c) {rest : List (Except ε Bitmap)}
    (hr : ∀ b ∈ okValues rest, WF b) :
    Safe_mergeLoopRef k (c.map Cow.borrowed) rest ∧
      match mergeLoopRef k.ref (c.map Cow.borrowed) rest with
      | .ok cs => Safe_cleanupRef cs
      | .error _ => True := by
  have hl := safe_mergeLoopRef k rest (c.map Cow.borrowed) (by rw [map_get_map_borrowed]; exact hc.acc) hr
  refine ⟨hl.1, ?_⟩
  cases hcs : mergeLoopRef k.ref (c.map Cow.borrowed) rest with
  | ok cs => exact safe_cleanupRef (hl.2 cs hcs)
  | error e => trivial

theorem safe_tryMultiOrOwnedWith {sort : List Bitmap → List Bitmap} (hs : ∀ l, (sort l).Perm l) (h : Hint)
    (xs : List (Except ε Bitmap)) (hwf : ∀ b ∈ okValues xs, Bitmap.WF b) : Safe_tryMultiOrOwnedWith sort h xs := by
  have hwf := wf_of_all hwf
  unfold Safe_tryMultiOrOwnedWith
  split
  · rename_i c rest he
    have hm := orStartWith_mem hs he
    exact safe_runOwned .or (hwf c hm.1) fun b hb => hwf b (hm.2 b hb)
  · trivial

theorem safe_tryMultiXorOwned (xs : List (Except ε Bitmap)) (hwf : ∀ b ∈ okValues xs, Bitmap.WF b) :
    Safe_tryMultiXorOwned xs := by
  unfold Safe_tryMultiXorOwned
  split
  · obtain ⟨hv, hiter⟩ := List.forall_mem_cons.1 (wf_of_all hwf)
    exact safe_runOwned .xor hv hiter
  · trivial

theorem safe_tryMultiOrRefWith {sort : List Bitmap → List Bitmap} (hs : ∀ l, (sort l).Perm l) (h : Hint)
    (xs : List (Except ε Bitmap)) (hwf : ∀ b ∈ okValues xs, Bitmap.WF b) : Safe_tryMultiOrRefWith sort h xs := by
  have hwf := wf_of_all hwf
  unfold Safe_tryMultiOrRefWith
  split
  · rename_i c rest he
    have hm := orStartWith_mem hs he
    exact safe_runRef .or (hwf c hm.1) fun b hb => hwf b (hm.2 b hb)
  · trivial

theorem safe_tryMultiXorRef (xs : List (Except ε Bitmap)) (hwf : ∀ b ∈ okValues xs, Bitmap.WF b) :
    Safe_tryMultiXorRef xs := by
  unfold Safe_tryMultiXorRef
  split
  · obtain ⟨hv, hiter⟩ := List.forall_mem_cons.1 (wf_of_all hwf)
    exact safe_runRef .xor hv hiter
  · trivial

end Roaring.Multi
