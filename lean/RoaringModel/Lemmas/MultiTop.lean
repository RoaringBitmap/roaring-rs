import RoaringModel.Lemmas.MultiMerge
/-!
# C09: the eight `try_multi_*` functions against the fold of the spec operation

The owned and the copy-on-write versions share their control flow; it is proved once over an abstract
accumulator (`Engine`), the two instances are built from `merge_container_owned/ref` + clean-up.
-/
namespace Roaring.Multi
open Roaring Roaring.Spec Roaring.Multi.SpecL

variable {ε : Type}

@[simp] theorem map_error {α β : Type} (f : α → β) (e : ε) : Except.map f (Except.error e : Except ε α) = .error e := rfl

/-- `β` is the accumulator type, `π` its view as a container list, `m` one merge step (the loop body) -/
structure Engine (ε : Type) (β : Type) (sop : List Nat → List Nat → List Nat) where
  init : Bitmap → β
  loop : β → List (Except ε Bitmap) → Except ε β
  clean : β → Bitmap
  π : β → List Container
  m : β → Bitmap → β
  loop_eq : ∀ cs xs, loop cs xs = match firstError xs with
    | some e => .error e
    | none => .ok ((okValues xs).foldl m cs)
  init_π : ∀ b, π (init b) = b
  m_spec : ∀ cs rhs, Acc (π cs) → Acc rhs →
    Acc (π (m cs rhs)) ∧ Bitmap.elems (π (m cs rhs)) = sop (Bitmap.elems (π cs)) (Bitmap.elems rhs)
  clean_spec : ∀ cs, Acc (π cs) → WF (clean cs) ∧ Bitmap.elems (clean cs) = Bitmap.elems (π cs)

def ownedEngine (ε : Type) {P : Prop → Prop → Prop} {sop : List Nat → List Nat → List Nat} (L : MergeLaw P sop)
    {op : Store → Store → Store} (hop : OpLaw P op) : Engine ε (List Container) sop where
  init := id
  loop := mergeLoopOwned op
  clean := cleanupOwned
  π := id
  m := mergeContainerOwned op
  loop_eq := mergeLoopOwned_eq op
  init_π := fun _ => rfl
  m_spec := fun _ _ => mergeContainerOwned_elems L hop
  clean_spec := fun _ => cleanupOwned_spec

def refEngine (ε : Type) {P : Prop → Prop → Prop} {sop : List Nat → List Nat → List Nat} (L : MergeLaw P sop)
    {op : Store → Store → Store} (hop : OpLaw P op) : Engine ε (List Cow) sop where
  init := fun b => b.map Cow.borrowed
  loop := mergeLoopRef op
  clean := cleanupRef
  π := fun cs => cs.map Cow.get
  m := mergeContainerRef op
  loop_eq := mergeLoopRef_eq op
  init_π := map_get_map_borrowed
  m_spec := fun _ _ => mergeContainerRef_elems L hop
  clean_spec := fun cs h => by
    rw [cleanupRef_eq]
    exact cleanupOwned_spec h

theorem Engine.foldl_spec {β : Type} {sop : List Nat → List Nat → List Nat} (G : Engine ε β sop) :
    ∀ (l : List Bitmap) (cs : β), Acc (G.π cs) → (∀ b ∈ l, WF b) →
      Acc (G.π (l.foldl G.m cs)) ∧
      Bitmap.elems (G.π (l.foldl G.m cs)) = (l.map Bitmap.elems).foldl sop (Bitmap.elems (G.π cs)) :=
  foldl_inv_elems (I := fun cs => Acc (G.π cs)) fun cs b hcs hb => G.m_spec cs b hcs hb.acc

/-- the result is the first error `fe`, or without one a well-formed bitmap with the elements `s` -/
def Outcome (r : Except ε Bitmap) (fe : Option ε) (s : List Nat) : Prop :=
  match fe with
  | some e => r = .error e
  | none => ∃ v, r = .ok v ∧ WF v ∧ Bitmap.elems v = s

theorem Outcome.map {r : Except ε Bitmap} {s : List Nat} : ∀ {fe : Option ε}, Outcome r fe s →
    r.map Bitmap.elems = match fe with
      | some e => .error e
      | none => .ok s
  | some e, h => by rw [show r = .error e from h]; rfl
  | none, ⟨v, hv, _, he⟩ => by rw [hv, ← he]; rfl

theorem Outcome.ok {r : Except ε Bitmap} {s : List Nat} (h : Outcome r none s) {v : Bitmap} (hv : r = .ok v) :
    WF v ∧ Bitmap.elems v = s := by
  obtain ⟨v', rfl, h1, h2⟩ := h
  cases hv
  exact ⟨h1, h2⟩

/-- run the engine from a first bitmap over a list of `Result`s and clean up -/
theorem Engine.run_outcome {β : Type} {sop : List Nat → List Nat → List Nat} (G : Engine ε β sop)
    {c : Bitmap} (hc : WF c) {rest : List (Except ε Bitmap)} (hr : ∀ b ∈ okValues rest, WF b) :
    Outcome (match G.loop (G.init c) rest with
      | .error e => (Except.error e : Except ε Bitmap)
      | .ok cs => .ok (G.clean cs)) (firstError rest)
      (((okValues rest).map Bitmap.elems).foldl sop (Bitmap.elems c)) := by
  rw [G.loop_eq]
  cases firstError rest with
  | some e => rfl
  | none =>
    have hacc : Acc (G.π (G.init c)) := by rw [G.init_π]; exact hc.acc
    have h := G.foldl_spec (okValues rest) (G.init c) hacc hr
    have hcl := G.clean_spec _ h.1
    exact ⟨_, rfl, hcl.1, by rw [hcl.2, h.2, G.init_π]⟩

def orWith {β : Type} (G : Engine ε β sOr) (sort : List Bitmap → List Bitmap) (h : Hint)
    (xs : List (Except ε Bitmap)) : Except ε Bitmap :=
  match orStartWith sort h xs with
  | .error e => .error e
  | .ok none => .ok Bitmap.new
  | .ok (some (c, rest)) =>
    match G.loop (G.init c) rest with
    | .error e => .error e
    | .ok cs => .ok (G.clean cs)

theorem orWith_outcome {β : Type} (G : Engine ε β sOr) {sort : List Bitmap → List Bitmap}
    (hs : IsSortDesc nContainers sort) {h : Hint} {xs : List (Except ε Bitmap)}
    (hh : Hint.Admissible h xs.length) (hwf : ∀ b ∈ okValues xs, WF b) :
    Outcome (orWith G sort h xs) (firstError xs) (((okValues xs).map Bitmap.elems).foldl sOr []) := by
  unfold orWith
  rcases orStartWith_cases hs.perm h xs with ⟨e, h1, hfe⟩ | ⟨h1, hx⟩ | ⟨c, rest, h1, hfe, hin, hout⟩
  · rw [h1, hfe]; rfl
  · rw [h1, hx hh]; exact ⟨_, rfl, wf_nil, rfl⟩
  · have hwf' : ∀ b ∈ c :: okValues rest, WF b := fun b hb => hwf b (hin b hb)
    obtain ⟨hc, hrest⟩ := List.forall_mem_cons.1 hwf'
    have hrun := G.run_outcome hc hrest
    rw [h1]
    rw [hfe] at hrun
    -- both folds are sorted lists with the same members: the operands left out are empty
    rwa [foldl_sOr_ext hc.elems_sorted List.Pairwise.nil (WF.map_elems_sorted hrest)
      (WF.map_elems_sorted hwf) fun x => ?_] at hrun
    constructor
    · rintro (hx | ⟨_, hs', hx⟩)
      · exact .inr ⟨_, List.mem_map_of_mem (hin c (List.mem_cons_self ..)), hx⟩
      · obtain ⟨b, hb, rfl⟩ := List.mem_map.1 hs'
        exact .inr ⟨_, List.mem_map_of_mem (hin b (List.mem_cons_of_mem _ hb)), hx⟩
    · rintro (hx | ⟨_, hs', hx⟩)
      · exact absurd hx List.not_mem_nil
      · obtain ⟨b, hb, rfl⟩ := List.mem_map.1 hs'
        rcases hout hs.sorted b hb with hb' | rfl
        · rcases List.mem_cons.1 hb' with rfl | hb'
          · exact .inl hx
          · exact .inr ⟨_, List.mem_map_of_mem hb', hx⟩
        · exact absurd hx List.not_mem_nil

/-! ### symmetric difference (sequential: no collection, no sort) -/

def xorWith {β : Type} (G : Engine ε β sXor) (xs : List (Except ε Bitmap)) : Except ε Bitmap :=
  match xs with
  | [] => .ok (G.clean (G.init []))
  | .error e :: _ => .error e
  | .ok v :: iter =>
    match G.loop (G.init v) iter with
    | .error e => .error e
    | .ok cs => .ok (G.clean cs)

theorem xorWith_outcome {β : Type} (G : Engine ε β sXor) {xs : List (Except ε Bitmap)}
    (hwf : ∀ b ∈ okValues xs, WF b) :
    Outcome (xorWith G xs) (firstError xs) (((okValues xs).map Bitmap.elems).foldl sXor []) := by
  unfold xorWith
  match xs, hwf with
  | [], _ =>
    have hcl := G.clean_spec (G.init []) (by rw [G.init_π]; exact wf_nil.acc)
    exact ⟨_, rfl, hcl.1, by rw [hcl.2, G.init_π]; rfl⟩
  | .error e :: _, _ => rfl
  | .ok v :: iter, hwf =>
    obtain ⟨hv, hiter⟩ := List.forall_mem_cons.1 hwf
    simp only [firstError, okValues, List.map_cons, List.foldl_cons, sXor_nil_left]
    exact G.run_outcome hv hiter

/-! ### intersection and difference: a fold of the whole-bitmap `&=` / `-=`, with the early exit on `∅` -/

structure AssignLaw (f : Bitmap → Bitmap → Bitmap) (sop : List Nat → List Nat → List Nat) : Prop where
  nil : ∀ r, f [] r = []
  spec : ∀ a b, WF a → WF b → WF (f a b) ∧ Bitmap.elems (f a b) = sop (Bitmap.elems a) (Bitmap.elems b)

theorem AssignLaw.foldl_spec {f : Bitmap → Bitmap → Bitmap} {sop : List Nat → List Nat → List Nat}
    (L : AssignLaw f sop) : ∀ (l : List Bitmap) (a : Bitmap), WF a → (∀ b ∈ l, WF b) →
      WF (l.foldl f a) ∧ Bitmap.elems (l.foldl f a) = (l.map Bitmap.elems).foldl sop (Bitmap.elems a) :=
  foldl_inv_elems (π := id) L.spec

def andWith (f : Bitmap → Bitmap → Bitmap) (sort : List Bitmap → List Bitmap) (h : Hint)
    (xs : List (Except ε Bitmap)) : Except ε Bitmap :=
  match andStartWith sort h xs with
  | .error e => .error e
  | .ok (some (lhs, rest)) => assignLoop f lhs rest
  | .ok none => .ok Bitmap.new

theorem andWith_ok {f : Bitmap → Bitmap → Bitmap} (L : AssignLaw f sAnd)
    {sort : List Bitmap → List Bitmap} (hs : IsSortAsc nContainers sort) {h : Hint}
    {xs : List (Except ε Bitmap)} (hh : Hint.Admissible h xs.length) (hwf : ∀ b ∈ okValues xs, WF b)
    (hfe : firstError xs = none) :
    Outcome (andWith f sort h xs) none (Spec.multi .and ((okValues xs).map Bitmap.elems)) := by
  unfold andWith
  rcases andStartWith_cases hs.perm h xs with ⟨e, _, he⟩ | ⟨h1, hx⟩ | ⟨a, rest, h1, hfe', hp⟩
  · rw [hfe] at he; cases he
  · rw [h1, hx hh]; exact ⟨_, rfl, wf_nil, rfl⟩
  · have hwf' : ∀ b ∈ a :: okValues rest, WF b := fun b hb => hwf b (hp.mem_iff.1 hb)
    obtain ⟨ha, hrest⟩ := List.forall_mem_cons.1 hwf'
    have hf := L.foldl_spec _ a ha hrest
    rw [h1]
    exact ⟨_, assignLoop_ok f L.nil a rest (hfe'.trans hfe), hf.1,
      hf.2.trans (multi_and_perm (hp.map Bitmap.elems) (WF.map_elems_sorted hwf'))⟩

theorem andWith_err_first {f : Bitmap → Bitmap → Bitmap} {sort : List Bitmap → List Bitmap} {h : Hint}
    {e : ε} {r : List (Except ε Bitmap)} (hh : Hint.Admissible h (Except.error e :: r).length) :
    andWith f sort h (Except.error e :: r) = .error e := by
  unfold andWith andStartWith
  rw [collectStart_eq]
  rcases hh with hh | hh
  · obtain ⟨n, hn⟩ : ∃ n, toCollect h (Except.error e :: r : List (Except ε Bitmap)).length = n + 1 :=
      ⟨_, (Nat.succ_pred_eq_of_pos hh).symm⟩
    rw [hn]
    rfl
  · cases hh

/-- an error anywhere: either the *first* error is returned, or the early exit fired first and the value is `∅` -/
theorem andWith_err {f : Bitmap → Bitmap → Bitmap} {sort : List Bitmap → List Bitmap}
    (hs : ∀ l, (sort l).Perm l) {h : Hint} {xs : List (Except ε Bitmap)} {e : ε}
    (hh : Hint.Admissible h xs.length) (hfe : firstError xs = some e) :
    andWith f sort h xs = .error e ∨ andWith f sort h xs = .ok [] := by
  unfold andWith
  rcases andStartWith_cases hs h xs with ⟨e', h1, he⟩ | ⟨_, hx⟩ | ⟨a, rest, h1, hfe', _⟩
  · rw [h1]
    cases he.symm.trans hfe
    exact .inl rfl
  · rw [hx hh] at hfe; cases hfe
  · rw [h1]
    exact assignLoop_err f a rest e (hfe'.trans hfe)

def subWith (f : Bitmap → Bitmap → Bitmap) (xs : List (Except ε Bitmap)) : Except ε Bitmap :=
  match xs with
  | [] => .ok Bitmap.new
  | .error e :: _ => .error e
  | .ok lhs :: iter => assignLoop f lhs iter

theorem subWith_ok {f : Bitmap → Bitmap → Bitmap} (L : AssignLaw f sSub)
    {xs : List (Except ε Bitmap)} (hwf : ∀ b ∈ okValues xs, WF b) (hfe : firstError xs = none) :
    Outcome (subWith f xs) none (Spec.multi .sub ((okValues xs).map Bitmap.elems)) := by
  match xs, hwf, hfe with
  | [], _, _ => exact ⟨_, rfl, wf_nil, rfl⟩
  | .ok lhs :: iter, hwf, hfe =>
    obtain ⟨hl, hiter⟩ := List.forall_mem_cons.1 hwf
    have hf := L.foldl_spec _ lhs hl hiter
    exact ⟨_, assignLoop_ok f L.nil lhs iter hfe, hf.1, hf.2⟩

theorem subWith_err_first {f : Bitmap → Bitmap → Bitmap} {e : ε} {r : List (Except ε Bitmap)} :
    subWith f (Except.error e :: r) = .error e := rfl

theorem subWith_err {f : Bitmap → Bitmap → Bitmap} {xs : List (Except ε Bitmap)} {e : ε}
    (hfe : firstError xs = some e) : subWith f xs = .error e ∨ subWith f xs = .ok [] := by
  rcases firstError_eq_some hfe with ⟨t, rfl⟩ | ⟨lhs, t, rfl, ht⟩
  · exact .inl rfl
  · exact assignLoop_err f lhs t e ht

theorem andOwnedLaw (K : Kernel) : AssignLaw andAssignOwned sAnd := ⟨andAssignOwned_nil, K.andOwned⟩
theorem andRefLaw (K : Kernel) : AssignLaw andAssignRef sAnd := ⟨andAssignRef_nil, K.andRef⟩
theorem subRefLaw (K : Kernel) : AssignLaw subAssignRef sSub := ⟨subAssignRef_nil, K.subRef⟩
theorem subOwnedLaw (K : Kernel) : AssignLaw subAssignOwned sSub := ⟨subAssignOwned_nil, K.subRef⟩

/-! ### error propagation of ∪ and ⊕ (kernel-free: only the control skeleton is involved) -/

theorem orStartWith_err {sort : List Bitmap → List Bitmap} (hs : ∀ l, (sort l).Perm l) {h : Hint}
    {xs : List (Except ε Bitmap)} {e : ε} (hh : Hint.Admissible h xs.length) (hfe : firstError xs = some e) :
    orStartWith sort h xs = .error e ∨
      ∃ c rest, orStartWith sort h xs = .ok (some (c, rest)) ∧ firstError rest = some e := by
  rcases orStartWith_cases hs h xs with ⟨e', h1, he⟩ | ⟨_, hx⟩ | ⟨c, rest, h1, hfe', _⟩
  · cases he.symm.trans hfe
    exact .inl h1
  · rw [hx hh] at hfe; cases hfe
  · exact .inr ⟨c, rest, h1, hfe'.trans hfe⟩

theorem tryMultiOrOwnedWith_err {sort : List Bitmap → List Bitmap} (hs : ∀ l, (sort l).Perm l) {h : Hint}
    {xs : List (Except ε Bitmap)} {e : ε} (hh : Hint.Admissible h xs.length) (hfe : firstError xs = some e) :
    tryMultiOrOwnedWith sort h xs = .error e := by
  unfold tryMultiOrOwnedWith
  rcases orStartWith_err hs hh hfe with h1 | ⟨c, rest, h1, h2⟩
  · rw [h1]
  · rw [h1]; simp only; rw [mergeLoopOwned_eq, h2]

theorem tryMultiOrRefWith_err {sort : List Bitmap → List Bitmap} (hs : ∀ l, (sort l).Perm l) {h : Hint}
    {xs : List (Except ε Bitmap)} {e : ε} (hh : Hint.Admissible h xs.length) (hfe : firstError xs = some e) :
    tryMultiOrRefWith sort h xs = .error e := by
  unfold tryMultiOrRefWith
  rcases orStartWith_err hs hh hfe with h1 | ⟨c, rest, h1, h2⟩
  · rw [h1]
  · rw [h1]; simp only; rw [mergeLoopRef_eq, h2]

theorem tryMultiXorOwned_err {xs : List (Except ε Bitmap)} {e : ε} (hfe : firstError xs = some e) :
    tryMultiXorOwned xs = .error e := by
  rcases firstError_eq_some hfe with ⟨t, rfl⟩ | ⟨v, t, rfl, ht⟩
  · rfl
  · unfold tryMultiXorOwned
    simp only
    rw [mergeLoopOwned_eq, ht]

theorem tryMultiXorRef_err {xs : List (Except ε Bitmap)} {e : ε} (hfe : firstError xs = some e) :
    tryMultiXorRef xs = .error e := by
  rcases firstError_eq_some hfe with ⟨t, rfl⟩ | ⟨v, t, rfl, ht⟩
  · rfl
  · unfold tryMultiXorRef
    simp only
    rw [mergeLoopRef_eq, ht]

/-! ### the model's functions are the generic ones at the two engines -/

theorem xorOwned_bridge (hop : OpLaw PXor Store.xorAssignOwned) (xs : List (Except ε Bitmap)) :
    tryMultiXorOwned xs = xorWith (ownedEngine ε mergeLaw_xor hop) xs := by
  unfold tryMultiXorOwned xorWith
  rcases xs with _ | ⟨e | v, r⟩
  · rfl
  · rfl
  · dsimp only [ownedEngine, id]
    cases mergeLoopOwned Store.xorAssignOwned v r <;> rfl

theorem xorRef_bridge (hop : OpLaw PXor Store.xorAssignRef) (xs : List (Except ε Bitmap)) :
    tryMultiXorRef xs = xorWith (refEngine ε mergeLaw_xor hop) xs := by
  unfold tryMultiXorRef xorWith
  rcases xs with _ | ⟨e | v, r⟩
  · rfl
  · rfl
  · dsimp only [refEngine]
    cases mergeLoopRef Store.xorAssignRef (v.map Cow.borrowed) r <;> rfl

theorem orOwned_bridge (hop : OpLaw POr Store.orAssignOwned) sort h (xs : List (Except ε Bitmap)) :
    tryMultiOrOwnedWith sort h xs = orWith (ownedEngine ε mergeLaw_or hop) sort h xs := by
  unfold tryMultiOrOwnedWith orWith
  rcases orStartWith sort h xs with e | _ | ⟨c, rest⟩
  · rfl
  · rfl
  · dsimp only [ownedEngine, id]
    cases mergeLoopOwned Store.orAssignOwned c rest <;> rfl

theorem orRef_bridge (hop : OpLaw POr Store.orAssignRef) sort h (xs : List (Except ε Bitmap)) :
    tryMultiOrRefWith sort h xs = orWith (refEngine ε mergeLaw_or hop) sort h xs := by
  unfold tryMultiOrRefWith orWith
  rcases orStartWith sort h xs with e | _ | ⟨c, rest⟩
  · rfl
  · rfl
  · dsimp only [refEngine]
    cases mergeLoopRef Store.orAssignRef (c.map Cow.borrowed) rest <;> rfl

def specOp : Op → MOp
  | .or => .or
  | .and => .and
  | .sub => .sub
  | .xor => .xor

/-- the items seen through the abstraction -/
def elemsItems (xs : List (Except ε Bitmap)) : List (Except ε Spec.Set) := xs.map (Except.map Bitmap.elems)

theorem firstError_elemsItems : ∀ xs : List (Except ε Bitmap), firstError (elemsItems xs) = firstError xs
  | [] => rfl
  | .error _ :: _ => rfl
  | .ok _ :: r => firstError_elemsItems r

theorem okValues_elemsItems : ∀ xs : List (Except ε Bitmap),
    okValues (elemsItems xs) = (okValues xs).map Bitmap.elems
  | [] => rfl
  | .error _ :: r => okValues_elemsItems r
  | .ok a :: r => congrArg (Bitmap.elems a :: ·) (okValues_elemsItems r)

/-- An outcome `r` is admitted by `Spec.multiRes` once it is the fold on an all-`Ok` sequence, the error of a
    failing first item, and otherwise the first error — or, for `∩` and `−` only, `Ok(∅)`. -/
theorem map_elems_mem_multiRes {op : MOp} {xs : List (Except ε Bitmap)} {r : Except ε Bitmap}
    (hok : firstError xs = none → r.map Bitmap.elems = .ok (Spec.multi op ((okValues xs).map Bitmap.elems)))
    (herr0 : ∀ e t, xs = Except.error e :: t → r = .error e)
    (herr : ∀ e, firstError xs = some e → r = .error e ∨ ((op = .and ∨ op = .sub) ∧ r = .ok [])) :
    r.map Bitmap.elems ∈ Spec.multiRes op (elemsItems xs) := by
  unfold Spec.multiRes
  rw [firstError_elemsItems, okValues_elemsItems]
  cases hfe : firstError xs with
  | none => rw [hok hfe]; exact List.mem_singleton_self _
  | some e =>
    -- every arm of `multiRes` starts with the first error; the arm of `∩`/`−` after an `Ok` head adds `Ok(∅)`
    rcases firstError_eq_some hfe with ⟨t, rfl⟩ | ⟨a, t, rfl, _⟩
    · rw [herr0 e t rfl]
      cases op <;> exact List.mem_cons_self ..
    · rcases herr e hfe with h | ⟨hop, h⟩
      · rw [h]
        cases op <;> exact List.mem_cons_self ..
      · rw [h]
        rcases hop with rfl | rfl <;> exact List.mem_cons_of_mem _ (List.mem_cons_self ..)

end Roaring.Multi
