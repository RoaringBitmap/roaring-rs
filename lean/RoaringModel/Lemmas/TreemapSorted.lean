import RoaringModel.Spec
/-!
# Strictly ascending lists as the partition directory of a treemap sees them

`TL` stands for "treemap list".  `TL.Sorted` is the bare `Pairwise (· < ·)`, the same proposition as `Roaring.Sorted`
(Inv.lean) and `Spec.Sorted` once those are unfolded.  The treemap files say `Sorted` with `TL` open; where
`Roaring.Sorted` is in scope as well (TreemapFull) the bare name is that one.
-/
namespace Roaring
namespace TL

abbrev Sorted (l : List Nat) : Prop := l.Pairwise (· < ·)

theorem sorted_iff_spec (l : List Nat) : Sorted l ↔ Spec.Sorted l := Iff.rfl

/-- two strictly ascending lists with the same members are equal: they are duplicate-free, hence permutations of
    each other, and a permutation between sorted lists is the identity -/
theorem sorted_ext {a b : List Nat} (ha : Sorted a) (hb : Sorted b) (h : ∀ x, x ∈ a ↔ x ∈ b) : a = b :=
  ((List.perm_ext_iff_of_nodup (ha.imp Nat.ne_of_lt) (hb.imp Nat.ne_of_lt)).2 h).eq_of_pairwise
    (fun _ _ _ _ h1 h2 => absurd h2 (Nat.lt_asymm h1)) ha hb

theorem sorted_append {a b : List Nat} (ha : Sorted a) (hb : Sorted b) (hab : ∀ x ∈ a, ∀ y ∈ b, x < y) :
    Sorted (a ++ b) := List.pairwise_append.mpr ⟨ha, hb, hab⟩

theorem sorted_concat {s : List Nat} (h : Sorted s) {v : Nat} (hv : ∀ x ∈ s, x < v) : Sorted (s ++ [v]) :=
  sorted_append h (List.pairwise_singleton _ _) fun x hx _ hy => List.mem_singleton.mp hy ▸ hv x hx

theorem sorted_map_add {l : List Nat} (c : Nat) (h : Sorted l) : Sorted (l.map (fun x => c + x)) :=
  List.pairwise_map.mpr (h.imp fun hab => Nat.add_lt_add_left hab c)

/-- the last entry is the maximum -/
theorem getLast?_eq_some_max {s : List Nat} (h : Sorted s) {m : Nat} (hm : s.getLast? = some m) :
    m ∈ s ∧ ∀ x ∈ s, x ≤ m := by
  obtain ⟨ys, rfl⟩ := List.getLast?_eq_some_iff.mp hm
  refine ⟨List.mem_append_right _ (List.mem_singleton_self m), fun x hx => ?_⟩
  rcases List.mem_append.mp hx with hx | hx
  · exact Nat.le_of_lt ((List.pairwise_append.mp h).2.2 x hx m (List.mem_singleton_self m))
  · exact Nat.le_of_eq (List.mem_singleton.mp hx)

/-- strictly ascending numbers from `a` on and below `n`: at most `n - a` of them -/
theorem length_le_sub {l : List Nat} {a n : Nat} (hs : Sorted l) (ha : ∀ x ∈ l, a ≤ x) (hn : ∀ x ∈ l, x < n) :
    l.length ≤ n - a := by
  induction l generalizing a with
  | nil => exact Nat.zero_le _
  | cons x l ih =>
    have hx := ha x (List.mem_cons_self ..)
    have hxn := hn x (List.mem_cons_self ..)
    have := ih (List.pairwise_cons.mp hs).2 (a := x + 1) (fun y hy => (List.pairwise_cons.mp hs).1 y hy)
      fun y hy => hn y (List.mem_cons_of_mem _ hy)
    rw [List.length_cons]
    omega

theorem length_le_of_lt {l : List Nat} {n : Nat} (hs : Sorted l) (hn : ∀ x ∈ l, x < n) : l.length ≤ n :=
  length_le_sub hs (fun _ _ => Nat.zero_le _) hn

end TL
end Roaring
