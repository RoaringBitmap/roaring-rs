import RoaringModel.Lemmas.CodecKernel
import RoaringModel.Lemmas.Dir
import RoaringModel.Lemmas.Radix
/-!
# `serialize b = Spec.encode (elems b)` (C05_bytes): bridge between the model's writer and the reference encoder

`namespace Grouped` holds the first half of the grouping argument (distinct high parts = keys) for any radix `B`;
`Lemmas/TreemapEncodeSpec.lean` uses it again with `B = 2^32`.  The second half (low parts under a key = that group's values)
is `Blk.filter_key_mod`.
-/
namespace Roaring

theorem leBytes4_eq (x : Nat) : Spec.leBytes 4 x = u32le (x % 4294967296) :=
  (leBytes_mod 4 x).symm.trans (u32le_eq _).symm
theorem leBytes8_eq (x : Nat) : Spec.leBytes 8 x = u64le x := (u64le_eq x).symm

theorem storeElems_facts {s : Store} (h : StoreWF s) :
    s.elems ≠ [] ∧ (∀ x ∈ s.elems, x < 65536) ∧ s.elems.length = s.len :=
  have hw := (storeWF_iff s).mp h
  ⟨Store.wf_elems_ne s hw, Store.elems_lt s (Store.wf_inv s hw), (Store.len_eq s (Store.wf_inv s hw)).symm⟩

/-! ### values listed group by group

The groups `a ∈ l` have strictly ascending keys and low parts `vals a` below `B`; their values `J (key a) i` have
high part `key a` and low part `i`.  Then the distinct high parts of all values (`K`, given by its recursion) are
the keys.  Used with `B = 2^16` for the containers of a bitmap and with `B = 2^32` for the partitions of a treemap. -/

namespace Grouped
section
variable {α : Type} {B : Nat} {K : List Nat → List Nat} {key : α → Nat} {vals : α → List Nat} {J : Nat → Nat → Nat}
  (hK0 : K [] = []) (hK1 : ∀ x, K [x] = [x / B])
  (hK2 : ∀ x y l, K (x :: y :: l) = if x / B = y / B then K (y :: l) else x / B :: K (y :: l))
  (hdiv : ∀ k i, i < B → J k i / B = k) (hmod : ∀ k i, i < B → J k i % B = i)

include hK0 hK1 hK2 in
theorem keys_append (k : Nat) (l1 l2 : List Nat) : l1 ≠ [] → (∀ x ∈ l1, x / B = k) → (∀ y ∈ l2, y / B ≠ k) →
    K (l1 ++ l2) = k :: K l2 := by
  induction l1 with
  | nil => exact fun h => absurd rfl h
  | cons x l1 ih =>
    intro _ h1 h2
    have hx := h1 x List.mem_cons_self
    cases l1 with
    | nil =>
      cases l2 with
      | nil => rw [List.append_nil, hK1, hK0, hx]
      | cons y l => exact (hK2 x y l).trans (by rw [hx, if_neg fun h => h2 y List.mem_cons_self h.symm])
    | cons x' l1 =>
      refine (hK2 x x' (l1 ++ l2)).trans ?_
      rw [hx, h1 x' (List.mem_cons_of_mem _ List.mem_cons_self), if_pos rfl]
      exact ih (List.cons_ne_nil _ _) (fun y hy => h1 y (List.mem_cons_of_mem _ hy)) h2

include hdiv hmod

theorem mem_part {a : α} {x : Nat} (hb : ∀ i ∈ vals a, i < B) (hx : x ∈ (vals a).map (J (key a))) :
    x / B = key a ∧ x % B ∈ vals a := by
  obtain ⟨i, hi, rfl⟩ := List.mem_map.mp hx
  rw [hdiv _ i (hb i hi), hmod _ i (hb i hi)]
  exact ⟨rfl, hi⟩

theorem tail_ne {a : α} {l : List α} (hs : ((a :: l).map key).Pairwise (· < ·)) (hv : ∀ b ∈ l, ∀ i ∈ vals b, i < B) :
    ∀ y ∈ l.flatMap (fun b => (vals b).map (J (key b))), y / B ≠ key a := by
  intro y hy
  obtain ⟨b, hb, hyb⟩ := List.mem_flatMap.mp hy
  exact (mem_part hdiv hmod (hv b hb) hyb).1 ▸ Nat.ne_of_gt ((List.pairwise_cons.mp hs).1 _ (List.mem_map_of_mem hb))

include hK0 hK1 hK2 in
theorem keys_flat (l : List α) : (l.map key).Pairwise (· < ·) → (∀ a ∈ l, vals a ≠ [] ∧ ∀ i ∈ vals a, i < B) →
    K (l.flatMap fun a => (vals a).map (J (key a))) = l.map key := by
  induction l with
  | nil => exact fun _ _ => hK0
  | cons a l ih =>
    intro hs hv
    have ha := hv a List.mem_cons_self
    have hv' := fun b hb => hv b (List.mem_cons_of_mem _ hb)
    rw [List.flatMap_cons, keys_append hK0 hK1 hK2 (key a) _ _ (fun h => ha.1 (List.map_eq_nil_iff.mp h))
      (fun x hx => (mem_part hdiv hmod ha.2 hx).1) (tail_ne hdiv hmod hs fun b hb => (hv' b hb).2),
      ih (List.pairwise_cons.mp hs).2 hv', List.map_cons]

end
end Grouped

theorem keysOf_elems (b : Bitmap) (h : BitmapWF b) : Spec.keysOf (Bitmap.elems b) = b.map (·.key) :=
  Grouped.keys_flat (B := 65536) rfl (fun _ => rfl) (fun _ _ _ => rfl) (fun k _ => Radix.mul_add_div k)
    (fun k _ => Radix.mul_add_mod k) b h.1 fun c hc => ⟨(storeElems_facts (h.2 c hc).2).1, (storeElems_facts (h.2 c hc).2).2.1⟩

theorem chunkOf_elems (b : Bitmap) (h : BitmapWF b) : ∀ c ∈ b, Spec.chunkOf (Bitmap.elems b) c.key = c.store.elems :=
  fun _ hc => Blk.filter_key_mod (B := 65536) (key := Container.key) (low := Bitmap.cLow) h.1
    (fun c hc => (storeElems_facts (h.2 c hc).2).2.1) hc

theorem payloadSize_elems {c : Container} (h : StoreWF c.store) : Spec.payloadSize c.store.elems = psize c := by
  rw [Spec.payloadSize, (storeElems_facts h).2.2, psize]
  cases hs : c.store with
  | array v => rw [hs] at h; exact (if_pos h.2.2.2).trans (Nat.mul_comm 2 _)
  | bitmap b => rw [hs] at h; exact if_neg (Nat.not_le.mpr h.2.2.2)

theorem encodeChunk_elems {c : Container} (h : StoreWF c.store) : Spec.encodeChunk c.store.elems = payloadOf c := by
  rw [Spec.encodeChunk, (storeElems_facts h).2.2, payloadOf]
  cases hs : c.store with
  | array v => rw [hs] at h; exact if_pos h.2.2.2
  | bitmap b =>
    rw [hs] at h
    refine (if_neg (Nat.not_le.mpr h.2.2.2)).trans ?_
    show (Spec.wordsOf 0 1024 b.toArray).flatMap (Spec.leBytes 8) = b.bits.flatMap u64le
    rw [(bitmap_toArray b h).2.2, funext leBytes8_eq]

theorem encodeOffsets_eq : ∀ (b : Bitmap) (pos : Nat), (∀ c ∈ b, StoreWF c.store) →
    Spec.encodeOffsets pos (b.map (·.store.elems)) = Bitmap.offsetBytes b pos
  | [], _, _ => rfl
  | c :: cs, pos, h => by
    simp only [List.map_cons, Spec.encodeOffsets, Bitmap.offsetBytes]
    rw [leBytes4_eq, payloadSize_elems (h c List.mem_cons_self),
      encodeOffsets_eq cs _ (fun d hd => h d (List.mem_cons_of_mem _ hd))]
    congr 2

theorem payload_eq : ∀ (b : Bitmap), (∀ c ∈ b, StoreWF c.store) →
    (b.map (·.store.elems)).flatMap Spec.encodeChunk = Bitmap.payloadBytes b
  | [], _ => rfl
  | c :: cs, h => by
    rw [payloadBytes_cons]
    simp only [List.map_cons, List.flatMap_cons]
    rw [encodeChunk_elems (h c List.mem_cons_self),
      payload_eq cs (fun d hd => h d (List.mem_cons_of_mem _ hd))]

theorem descr_eq : ∀ (b : Bitmap), (∀ c ∈ b, StoreWF c.store) →
    ((b.map (·.key)).zip (b.map (·.store.elems))).flatMap
        (fun kc => Spec.leBytes 2 kc.1 ++ Spec.leBytes 2 (kc.2.length - 1)) = Bitmap.descrBytes b
  | [], _ => rfl
  | c :: cs, h => by
    have ih := descr_eq cs (fun d hd => h d (List.mem_cons_of_mem _ hd))
    simp only [List.map_cons, List.zip_cons_cons, List.flatMap_cons, Bitmap.descrBytes] at ih ⊢
    rw [ih, ← u16le_eq, ← leBytes_mod 2, ← u16le_eq, (storeElems_facts (h c List.mem_cons_self)).2.2]
    rfl

theorem serialize_eq_encode (b : Bitmap) (h : BitmapWF b) :
    Bitmap.serialize b = Spec.encode (Bitmap.elems b) := by
  have hs : ∀ c ∈ b, StoreWF c.store := fun c hc => (h.2 c hc).2
  have hks : Spec.keysOf (Bitmap.elems b) = b.map (·.key) := keysOf_elems b h
  have hcs : (b.map (·.key)).map (Spec.chunkOf (Bitmap.elems b)) = b.map (·.store.elems) := by
    rw [List.map_map]
    apply List.map_congr_left
    intro c hc
    exact chunkOf_elems b h c hc
  unfold Spec.encode Bitmap.serialize
  simp only [hks, hcs, List.length_map]
  rw [descr_eq b hs, encodeOffsets_eq b _ hs, payload_eq b hs, leBytes4_eq, leBytes4_eq]

end Roaring
