import RoaringModel.Lemmas.BitmapMut
import RoaringModel.Lemmas.ContainerOps
/-!
# Canonical form: a well-formed bitmap is determined by its element set (the hinge of C04, C05, C08, C20)
-/
namespace Roaring

namespace Store

theorem eq_of_elems (s t : Store) (hs : s.WF) (ht : t.WF) (h : s.elems = t.elems) : s = t := by
  cases s with
  | array v =>
    cases t with
    | array w => simp only [Store.elems] at h; rw [h]
    | bitmap b =>
      exfalso
      have h1 := hs.2.2
      have h2 := ht.2
      have h3 := BStore.length_toArray b ht.1
      simp only [Store.elems] at h
      rw [← h] at h3; omega
  | bitmap a =>
    cases t with
    | array w =>
      exfalso
      have h1 := ht.2.2
      have h2 := hs.2
      have h3 := BStore.length_toArray a hs.1
      simp only [Store.elems] at h
      rw [h] at h3; omega
    | bitmap b =>
      congr 1
      apply BStore.ext a b hs.1 ht.1
      intro x hx
      simp only [Store.elems] at h
      have h1 := BStore.mem_toArray a hs.1 x
      have h2 := BStore.mem_toArray b ht.1 x
      rw [h] at h1
      rw [Bool.eq_iff_iff]
      constructor
      · intro hh; exact (h2.mp (h1.mpr ⟨hx, hh⟩)).2
      · intro hh; exact (h1.mp (h2.mpr ⟨hx, hh⟩)).2

theorem eq_iff (s t : Store) : Store.eq s t = true ↔ s = t := by
  cases s with
  | array v =>
    cases t with
    | array w => simp [Store.eq]
    | bitmap b => simp [Store.eq]
  | bitmap a =>
    cases t with
    | array w => simp [Store.eq]
    | bitmap b =>
      simp only [Store.eq, Bool.and_eq_true, beq_iff_eq, Store.bitmap.injEq]
      constructor
      · rintro ⟨h1, h2⟩; cases a; cases b; simp_all
      · intro h; rw [h]; exact ⟨rfl, rfl⟩

theorem canon_ext {s t : Store} (hs : s.Canon) (ht : t.Canon) (h : s.elems = t.elems) : s = t := by
  by_cases he : s.elems = []
  · rw [canon_elems_nil hs he, canon_elems_nil ht (h ▸ he)]
  · exact eq_of_elems s t (wf_of_canon s hs he) (wf_of_canon t ht (h ▸ he)) h

end Store

/-- a container operation sees its operands' stores only through their values -/
theorem Container.op_congr {P : Prop → Prop → Prop} {op : Store → Store → Store} (h : Store.OpSpec P op) (key : Nat)
    {s s' t : Store} (hs : s.Inv) (hs' : s'.Inv) (ht : t.Inv) (he : s.elems = s'.elems) :
    Container.ensureCorrectStore { key := key, store := op s t } =
      Container.ensureCorrectStore { key := key, store := op s' t } := by
  obtain ⟨k1, c1, m1⟩ := Container.op_spec h ⟨key, s⟩ ⟨key, t⟩ hs ht
  obtain ⟨k2, c2, m2⟩ := Container.op_spec h ⟨key, s'⟩ ⟨key, t⟩ hs' ht
  have hst := Store.canon_ext c1 c2 (Arr.sorted_ext _ _ (Store.sorted_elems _ (Store.canon_inv _ c1))
    (Store.sorted_elems _ (Store.canon_inv _ c2)) fun x => by rw [m1 x, m2 x]; exact he ▸ Iff.rfl)
  generalize Container.ensureCorrectStore { key := key, store := op s t } = x at k1 hst
  generalize Container.ensureCorrectStore { key := key, store := op s' t } = y at k2 hst
  cases x; cases y
  dsimp only at k1 k2 hst
  rw [k1, k2, hst]

namespace Bitmap

/-- `==` (the derived `PartialEq` with `Store::eq`) is structural equality of the model value -/
theorem eq_iff (a b : Bitmap) : Bitmap.eq a b = true ↔ a = b := by
  induction a generalizing b with
  | nil => cases b <;> simp [Bitmap.eq]
  | cons c cs ih =>
    cases b with
    | nil => simp [Bitmap.eq]
    | cons d ds =>
      simp only [Bitmap.eq, Bool.and_eq_true, beq_iff_eq, List.cons.injEq, ih, Store.eq_iff]
      constructor
      · rintro ⟨⟨h1, h2⟩, h3⟩; exact ⟨by cases c; cases d; simp_all, h3⟩
      · rintro ⟨h1, h2⟩; rw [h1]; exact ⟨⟨rfl, rfl⟩, h2⟩

/-- **Canonical form.** Two well-formed bitmaps with the same elements are the same value: key and low values
    determine a container, because its store is in the kind its cardinality demands. -/
theorem canonical (a b : Bitmap) (ha : a.WF) (hb : b.WF) (h : elems a = elems b) : a = b :=
  Blk.canonical ha.dir.ok hb.dir.ok ha.ne hb.ne (fun c hc d hd hk hl => by
    obtain ⟨k, s⟩ := c
    obtain ⟨k', s'⟩ := d
    cases (hk : k = k')
    exact congrArg _ (Store.eq_of_elems s s' (ha.2 _ hc).2 (hb.2 _ hd).2 hl)) h

end Bitmap
end Roaring
