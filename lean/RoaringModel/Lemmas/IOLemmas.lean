import RoaringModel.IO
import RoaringModel.Lemmas.Parser
/-!
# `read_exact` over a schedule = `read_exact` over the plain bytes; limited writers receive a prefix

Also here, for C14: the buffers `serialize_into` hands to `write_all` concatenate to the serialisation
(`Bitmap.serializeFields_flatten`).
-/
namespace Roaring

theorem take_take_length {α : Type} (l : List α) (j : Nat) : l.take (l.take j).length = l.take j :=
  List.take_eq_take_iff.2 (by rw [List.length_take, Nat.min_assoc, Nat.min_self])

theorem readN_split {m n : Nat} {data : List Nat} (hn : m ≤ n) (hd : m ≤ data.length) :
    readN n data = (readN (n - m) (data.drop m)).map fun r => (data.take m ++ r.1, r.2) := by
  unfold readN
  rw [List.length_drop]
  by_cases h : data.length < n
  · rw [if_pos h, if_pos (Nat.sub_lt_sub_right hd h)]; rfl
  · rw [if_neg h, if_neg (Nat.not_lt.2 (Nat.sub_le_sub_right (Nat.le_of_not_lt h) m)), List.drop_drop,
      Except.map, ← List.take_add, Nat.add_sub_cancel' hn]

/-- schedule-irrelevance of `read_exact`: bytes delivered, unread data and ok/EOF do not depend on how the
    reader splits the stream or how often it is interrupted -/
theorem readExactS_eq (sched : List IoEv) : ∀ (data : List Nat) (n : Nat),
    (readExactS sched data n).map (fun r => (r.1, r.2.data)) = readN n data := by
  induction sched with
  | nil =>
    intro data n
    cases n with
    | zero => rfl
    | succ n =>
      unfold readExactS readN
      split <;> rfl
  | cons ev s ih =>
    intro data n
    cases n with
    | zero => rfl
    | succ n =>
      cases ev with
      | intr => exact ih data (n + 1)
      | chunk k =>
        unfold readExactS
        dsimp only
        generalize hj : min (max k 1) (n + 1) = j
        have hj1 : 1 ≤ j := hj ▸ Nat.le_min.2 ⟨Nat.le_max_right k 1, Nat.succ_pos n⟩
        have hj2 : j ≤ n + 1 := hj ▸ Nat.min_le_right _ _
        have hm : (data.take j).length ≤ j := List.length_take_le _ _
        split
        · rename_i h0
          rw [List.length_take] at h0
          rw [readN, if_pos (by omega)]; rfl
        · rw [readN_split (Nat.le_trans hm hj2) (List.length_take_le' _ _), ← ih, take_take_length]
          cases readExactS s (data.drop (data.take j).length) (n + 1 - (data.take j).length) <;> rfl

theorem sim_sreader (n : Nat) : Parser.Sim SReader.data (SReader.readExact n) (readN n) :=
  fun r => readExactS_eq r.sched r.data n

/-- `write_all` on a limited sink: the sink receives exactly the first `room` bytes of the buffer and the
    call succeeds iff the whole buffer fit — for every schedule of chunk sizes and interrupts -/
theorem writeAllS_spec (sched : List IoEv) : ∀ (room : Nat) (buf : List Nat),
    (writeAllS sched room buf).2.1 = buf.take room ∧
    ((writeAllS sched room buf).1 = true ↔ buf.length ≤ room) := by
  induction sched with
  | nil =>
    intro room buf
    cases buf with
    | nil => exact ⟨List.take_nil.symm, fun _ => Nat.zero_le _, fun _ => rfl⟩
    | cons b bs =>
      unfold writeAllS
      split
      · rename_i h
        exact ⟨(List.take_of_length_le h).symm, fun _ => h, fun _ => rfl⟩
      · rename_i h
        exact ⟨rfl, fun hf => Bool.noConfusion hf, fun hl => absurd hl h⟩
  | cons ev s ih =>
    intro room buf
    cases buf with
    | nil => cases ev <;> exact ⟨List.take_nil.symm, fun _ => Nat.zero_le _, fun _ => rfl⟩
    | cons b bs =>
      cases ev with
      | intr => exact ih room (b :: bs)
      | chunk k =>
        unfold writeAllS
        dsimp only
        generalize hm : min (max k 1) (min (b :: bs).length room) = m
        have hmr : m ≤ room := hm ▸ Nat.le_trans (Nat.min_le_right _ _) (Nat.min_le_right _ _)
        split
        · rename_i h0
          have hroom : room = 0 := by rw [List.length_cons] at hm; omega
          subst hroom
          exact ⟨rfl, fun hf => Bool.noConfusion hf, fun hl => absurd hl (Nat.not_succ_le_zero _)⟩
        · obtain ⟨ih1, ih2⟩ := ih (room - m) ((b :: bs).drop m)
          refine ⟨?_, ?_⟩
          · rw [ih1, ← List.take_add, Nat.add_sub_cancel' hmr]
          · rw [ih2, List.length_drop, Nat.sub_le_sub_iff_right hmr]

theorem writeAll_spec (w : SWriter) (buf : List Nat) :
    (w.writeAll buf).2.bytes = w.bytes ++ buf.take w.room ∧
    (w.writeAll buf).2.room = w.room - (buf.take w.room).length ∧
    ((w.writeAll buf).1 = true ↔ buf.length ≤ w.room) := by
  obtain ⟨h1, h2⟩ := writeAllS_spec w.sched w.room buf
  unfold SWriter.writeAll SWriter.bytes
  dsimp only
  rw [h1, List.reverse_append, List.reverse_reverse]
  exact ⟨rfl, rfl, h2⟩

theorem writeFields_spec : ∀ (fields : List (List Nat)) (w : SWriter),
    (w.writeFields fields).2.bytes = w.bytes ++ fields.flatten.take w.room ∧
    ((w.writeFields fields).1 = true ↔ fields.flatten.length ≤ w.room)
  | [], w => ⟨by rw [List.flatten_nil, List.take_nil, List.append_nil]; rfl, fun _ => Nat.zero_le _, fun _ => rfl⟩
  | f :: fs, w => by
    obtain ⟨h1, h2, h3⟩ := writeAll_spec w f
    rw [SWriter.writeFields, List.flatten_cons, List.length_append, List.take_append]
    cases hw : w.writeAll f with
    | mk ok w' =>
      rw [hw] at h1 h2 h3
      cases ok with
      | true =>
        have hfit : f.length ≤ w.room := h3.mp rfl
        obtain ⟨r1, r2⟩ := writeFields_spec fs w'
        rw [List.take_of_length_le hfit] at h1 h2
        dsimp only at h1 h2 ⊢
        rw [r1, r2, h1, h2, List.append_assoc, List.take_of_length_le hfit]
        exact ⟨rfl, Nat.le_sub_iff_add_le' hfit⟩
      | false =>
        have hnot : ¬ f.length ≤ w.room := fun h => Bool.noConfusion (h3.mpr h)
        dsimp only at h1 ⊢
        rw [h1, Nat.sub_eq_zero_of_le (Nat.le_of_not_le hnot), List.take_zero, List.append_nil]
        exact ⟨rfl, fun hf => Bool.noConfusion hf, fun hl => absurd (Nat.le_trans (Nat.le_add_right _ _) hl) hnot⟩

theorem flatten_flatMap {α β : Type} (l : List α) (f : α → List (List β)) :
    (l.flatMap f).flatten = l.flatMap fun a => (f a).flatten := by
  rw [List.flatMap_def, List.flatten_flatten, List.map_map]
  rfl

namespace Bitmap

theorem descrFields_flatten (b : Bitmap) : (descrFields b).flatten = descrBytes b :=
  (flatten_flatMap b _).trans (congrArg b.flatMap (funext fun _ => by
    rw [List.flatten_cons, List.flatten_cons, List.flatten_nil, List.append_nil]))

theorem offsetFields_flatten : ∀ (b : Bitmap) (off : Nat), (offsetFields b off).flatten = offsetBytes b off
  | [], _ => rfl
  | _ :: cs, _ => by
    rw [offsetFields, offsetBytes, List.flatten_cons, offsetFields_flatten cs]
    rfl

theorem payloadFields_flatten (b : Bitmap) : (payloadFields b).flatten = payloadBytes b :=
  (flatten_flatMap b _).trans (congrArg b.flatMap (funext fun c => by cases c.store <;> rfl))

theorem serializeFields_flatten (b : Bitmap) : (serializeFields b).flatten = serialize b := by
  rw [serializeFields, serialize, List.flatten_append, List.flatten_append, List.flatten_append, descrFields_flatten,
    offsetFields_flatten, payloadFields_flatten, List.flatten_cons, List.flatten_cons, List.flatten_nil,
    List.append_nil]
end Bitmap

end Roaring
