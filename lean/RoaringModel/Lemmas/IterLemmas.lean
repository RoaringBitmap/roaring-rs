import RoaringModel.Lemmas.CursorLists
import RoaringModel.Lemmas.CIterLemmas
import RoaringModel.Lemmas.Dir
/-!
# C03: the moving methods of `bitmap::Iter` / `IntoIter` on top of the container-level kernel `cKernel : CKernel`

`next`, `next_back`, `nth`, `nth_back`, `advance_to`, `advance_back_to` act on the list `Iter.rem` of values still to come
as `head?`/`tail`, `getLast?`/`dropLast`, `[n]?`/`drop (n + 1)`, their mirror images from the back, and the two filters
`n ≤ ·` / `· ≤ n`; each preserves `Iter.Inv`.
-/
namespace Roaring

/-! ### `container::Iter`: consequences of the kernel for the std-default methods -/
namespace CIter

/-- skipping `n` from the back after `next_back` is skipping `n + 1` -/
theorem take_dropLast {α} (l : List α) (n : Nat) :
    l.dropLast.take (l.dropLast.length - n) = l.take (l.length - (n + 1)) := by
  rw [List.length_dropLast, List.dropLast_eq_take, List.take_take, Nat.min_eq_left (Nat.sub_le _ _), Nat.sub_sub,
    Nat.add_comm 1 n]

theorem nthBack_spec (n : Nat) (c : CIter) (hc : c.Inv) :
    (c.nthBack n).2 = (c.rem.take (c.rem.length - n)).getLast? ∧
    (c.nthBack n).1.rem = (c.rem.take (c.rem.length - n)).dropLast ∧
    (c.nthBack n).1.Inv ∧ (c.nthBack n).1.key = c.key := by
  induction n generalizing c with
  | zero =>
    rw [nthBack, Nat.sub_zero, List.take_length]
    exact cKernel.nextBack c hc
  | succ n ih =>
    obtain ⟨h1, h2, h3, h4⟩ := cKernel.nextBack c hc
    rw [nthBack]
    cases hr : c.nextBack with
    | mk c' r =>
      rw [hr] at h1 h2 h3 h4
      cases r with
      | none =>
        have hnil : c.rem = [] := List.getLast?_eq_none_iff.mp h1.symm
        rw [hnil, List.take_nil]
        rw [hnil] at h2
        exact ⟨rfl, h2, h3, h4⟩
      | some x =>
        obtain ⟨i1, i2, i3, i4⟩ := ih c' h3
        have h2' : c'.rem = c.rem.dropLast := h2
        rw [h2', take_dropLast] at i1 i2
        exact ⟨i1, i2, i3, i4.trans h4⟩

theorem foldFuel_spec {β : Type} (f : β → Nat → β) (fuel : Nat) (c : CIter) (acc : β) (hc : c.Inv)
    (hlen : c.rem.length < fuel) : foldFuel f fuel c acc = c.rem.foldl f acc := by
  induction fuel generalizing c acc with
  | zero => exact absurd hlen (Nat.not_lt_zero _)
  | succ fuel ih =>
    obtain ⟨h1, h2, h3, _⟩ := cKernel.next c hc
    rw [foldFuel]
    cases hr : c.next with
    | mk c' r =>
      rw [hr] at h1 h2 h3
      cases hrem : c.rem with
      | nil => rw [hrem] at h1; cases h1; rfl
      | cons a l =>
        rw [hrem] at h1 h2 hlen
        cases h1
        exact (ih c' _ h3 (h2 ▸ Nat.lt_of_succ_lt_succ hlen)).trans (congrArg (List.foldl f _) h2)

theorem fold_spec {β : Type} (c : CIter) (hc : c.Inv) (init : β) (f : β → Nat → β) :
    c.fold init f = c.rem.foldl f init := by
  unfold fold len
  rw [cKernel.sizeHint c hc]
  exact foldFuel_spec f _ c init hc (Nat.lt_succ_self _)

theorem rfoldFuel_spec {β : Type} (f : β → Nat → β) (fuel : Nat) (c : CIter) (acc : β) (hc : c.Inv)
    (hlen : c.rem.length < fuel) : rfoldFuel f fuel c acc = c.rem.reverse.foldl f acc := by
  induction fuel generalizing c acc with
  | zero => exact absurd hlen (Nat.not_lt_zero _)
  | succ fuel ih =>
    obtain ⟨h1, h2, h3, _⟩ := cKernel.nextBack c hc
    rw [rfoldFuel]
    cases hr : c.nextBack with
    | mk c' r =>
      rw [hr] at h1 h2 h3
      rcases eq_nil_or_snoc c.rem with hrem | ⟨l, a, hrem⟩
      · rw [hrem] at h1 ⊢; cases h1; rfl
      · rw [hrem, List.length_append] at hlen
        rw [hrem, List.getLast?_concat] at h1
        rw [hrem, List.dropLast_concat] at h2
        cases h1
        rw [hrem, List.reverse_append]
        exact (ih c' _ h3 (h2 ▸ Nat.lt_of_succ_lt_succ hlen)).trans (by rw [h2]; rfl)

theorem rfold_spec {β : Type} (c : CIter) (hc : c.Inv) (init : β) (f : β → Nat → β) :
    c.rfold init f = c.rem.reverse.foldl f init := by
  unfold rfold len
  rw [cKernel.sizeHint c hc]
  exact rfoldFuel_spec f _ c init hc (Nat.lt_succ_self _)

theorem len_spec (c : CIter) (hc : c.Inv) : c.len = c.rem.length := by
  unfold len; rw [cKernel.sizeHint c hc]

end CIter

theorem atoc_some {α : Type} (c : CIter) (g : CIter → CIter × Option α) :
    andThenOrClear (some c) g =
      match (g c).2 with
      | none => (none, none)
      | some x => (some (g c).1, some x) := rfl

theorem orem_some (c : CIter) : orem (some c) = c.rem := rfl
theorem orem_none : orem none = [] := rfl
theorem mid_nil : mid [] = [] := rfl
theorem mid_cons (c : Container) (cs : List Container) : mid (c :: cs) = c.elems ++ mid cs := by
  simp [mid]
theorem mid_append (as bs : List Container) : mid (as ++ bs) = mid as ++ mid bs := by
  simp [mid]

/-- `and_then_or_clear(opt, g)` for a method `g` that reads `get` off the remaining values and leaves `upd` of
    them: the same on the optional iterator; clearing it when `g` yields nothing agrees with `upd` by `hupd` -/
theorem atoc_spec (o : Option CIter) (g : CIter → CIter × Option Nat) (get : List Nat → Option Nat)
    (upd : List Nat → List Nat) (hnil : get [] = none) (hupd : ∀ l, get l = none → upd l = [])
    (hg : ∀ c, o = some c → (g c).2 = get c.rem ∧ (g c).1.rem = upd c.rem ∧ (g c).1.Inv ∧ (g c).1.key = c.key) :
    (andThenOrClear o g).2 = get (orem o) ∧
    orem (andThenOrClear o g).1 = upd (orem o) ∧
    (∀ c', (andThenOrClear o g).1 = some c' → c'.Inv ∧ ∃ c, o = some c ∧ c'.key = c.key) := by
  cases o with
  | none => exact ⟨hnil.symm, (hupd [] hnil).symm, nofun⟩
  | some c =>
    obtain ⟨h1, h2, h3, h4⟩ := hg c rfl
    rw [atoc_some]
    cases hx : (g c).2 with
    | none =>
      rw [hx] at h1
      exact ⟨h1, (hupd _ h1.symm).symm, nofun⟩
    | some x =>
      rw [hx] at h1
      exact ⟨h1, h2, fun c' hc' => by cases hc'; exact ⟨h3, c, rfl, h4⟩⟩

theorem atoc_next (o : Option CIter) (ho : ∀ c, o = some c → c.Inv) :
    (andThenOrClear o CIter.next).2 = (orem o).head? ∧
    orem (andThenOrClear o CIter.next).1 = (orem o).tail ∧
    (∀ c', (andThenOrClear o CIter.next).1 = some c' → c'.Inv ∧ ∃ c, o = some c ∧ c'.key = c.key) :=
  atoc_spec o CIter.next List.head? List.tail rfl
    (fun l h => by rw [List.head?_eq_none_iff.mp h]; rfl) fun c hc => cKernel.next c (ho c hc)

theorem atoc_nextBack (o : Option CIter) (ho : ∀ c, o = some c → c.Inv) :
    (andThenOrClear o CIter.nextBack).2 = (orem o).getLast? ∧
    orem (andThenOrClear o CIter.nextBack).1 = (orem o).dropLast ∧
    (∀ c', (andThenOrClear o CIter.nextBack).1 = some c' → c'.Inv ∧ ∃ c, o = some c ∧ c'.key = c.key) :=
  atoc_spec o CIter.nextBack List.getLast? List.dropLast rfl
    (fun l h => by rw [List.getLast?_eq_none_iff.mp h]; rfl) fun c hc => cKernel.nextBack c (ho c hc)

namespace Iter

theorem rem_mk (f : Option CIter) (cs : List Container) (b : Option CIter) :
    Iter.rem ⟨f, cs, b⟩ = orem f ++ mid cs ++ orem b := rfl

/-- replacing the front iterator by one with the same key (or by nothing) -/
theorem Inv.setFront {it : Iter} (hi : it.Inv) (fr : Option CIter)
    (h : ∀ c', fr = some c' → c'.Inv ∧ ∃ c, it.front = some c ∧ c'.key = c.key) :
    Iter.Inv ⟨fr, it.containers, it.back⟩ := by
  refine ⟨hi.sorted, hi.cok, ?_, hi.bi, ?_, hi.bk, ?_⟩
  · intro f hf; exact (h f hf).1
  · intro f hf c hc
    obtain ⟨_, c0, hc0, hk⟩ := h f hf
    rw [hk]; exact hi.fr c0 hc0 c hc
  · intro f b hf hb
    obtain ⟨_, c0, hc0, hk⟩ := h f hf
    rw [hk]; exact hi.fb c0 b hc0 hb

theorem Inv.setBack {it : Iter} (hi : it.Inv) (bk : Option CIter)
    (h : ∀ c', bk = some c' → c'.Inv ∧ ∃ c, it.back = some c ∧ c'.key = c.key) :
    Iter.Inv ⟨it.front, it.containers, bk⟩ := by
  refine ⟨hi.sorted, hi.cok, hi.fi, ?_, hi.fr, ?_, ?_⟩
  · intro b hb; exact (h b hb).1
  · intro b hb c hc
    obtain ⟨_, c0, hc0, hk⟩ := h b hb
    rw [hk]; exact hi.bk c0 hc0 c hc
  · intro f b hf hb
    obtain ⟨_, c0, hc0, hk⟩ := h b hb
    rw [hk]; exact hi.fb f c0 hf hc0

theorem Inv.clearFront {it : Iter} (hi : it.Inv) : Iter.Inv ⟨none, it.containers, it.back⟩ :=
  hi.setFront none nofun
theorem Inv.clearBack {it : Iter} (hi : it.Inv) : Iter.Inv ⟨it.front, it.containers, none⟩ :=
  hi.setBack none nofun

theorem Inv.sublistMid {f : Option CIter} {cs cs' : List Container} {b : Option CIter}
    (hi : Iter.Inv ⟨f, cs, b⟩) (h : cs'.Sublist cs) : Iter.Inv ⟨f, cs', b⟩ :=
  ⟨hi.sorted.sublist (h.map _), fun d hd => hi.cok d (h.subset hd), hi.fi, hi.bi,
    fun g hg d hd => hi.fr g hg d (h.subset hd), fun g hg d hd => hi.bk g hg d (h.subset hd), hi.fb⟩

theorem Inv.tailMid {f : Option CIter} {c : Container} {cs : List Container} {b : Option CIter}
    (hi : Iter.Inv ⟨f, c :: cs, b⟩) : Iter.Inv ⟨f, cs, b⟩ :=
  hi.sublistMid (List.sublist_cons_self c cs)

/-- the first middle chunk becomes the front iterator (any iterator over it with the same key) -/
theorem Inv.promoteFront {c : Container} {cs : List Container} {b : Option CIter}
    (hi : Iter.Inv ⟨none, c :: cs, b⟩) (c' : CIter) (hc' : c'.Inv) (hk : c'.key = c.key) :
    Iter.Inv ⟨some c', cs, b⟩ := by
  have ht := hi.tailMid
  refine ⟨ht.sorted, ht.cok, ?_, ht.bi, ?_, ht.bk, ?_⟩
  · exact fun _ hf => Option.some.inj hf ▸ hc'
  · intro _ hf d hd
    cases hf
    exact hk ▸ (List.pairwise_cons.mp hi.sorted).1 d.key (List.mem_map_of_mem hd)
  · intro _ g hf hg
    cases hf
    exact hk ▸ hi.bk g hg c List.mem_cons_self

theorem nextLoop_spec (back : Option CIter) (cs : List Container) (hi : Iter.Inv ⟨none, cs, back⟩) :
    (nextLoop back cs).2 = (mid cs ++ orem back).head? ∧
    (nextLoop back cs).1.rem = (mid cs ++ orem back).tail ∧ (nextLoop back cs).1.Inv := by
  induction cs with
  | nil =>
    obtain ⟨h1, h2, h4⟩ := atoc_next back hi.bi
    simp only [nextLoop, mid_nil, List.nil_append, rem_mk, orem_none]
    exact ⟨h1, h2, hi.setBack _ h4⟩
  | cons c cs ih =>
    obtain ⟨k1, k2, k3⟩ := cKernel.ofContainer c (hi.cok c List.mem_cons_self)
    obtain ⟨h1, h2, h4⟩ := atoc_next (some (CIter.ofContainer c)) fun _ hd => Option.some.inj hd ▸ k1
    rw [orem_some, k2] at h1 h2
    unfold nextLoop
    cases hr : andThenOrClear (some (CIter.ofContainer c)) CIter.next with
    | mk fr r =>
      rw [hr] at h1 h2 h4
      cases r with
      | some x =>
        rw [mid_cons, eq_cons_of_head? h1.symm, ← h2]
        refine ⟨rfl, rfl, ?_⟩
        cases fr with
        | none => exact hi.tailMid
        | some c' =>
          obtain ⟨i1, _, i2, i3⟩ := h4 c' rfl
          cases i2
          exact hi.promoteFront c' i1 i3
      | none =>
        have hnil : c.elems = [] := List.head?_eq_none_iff.mp h1.symm
        rw [mid_cons, hnil, List.nil_append]
        exact ih hi.tailMid

theorem next_spec (it : Iter) (hi : it.Inv) :
    it.next.2 = it.rem.head? ∧ it.next.1.rem = it.rem.tail ∧ it.next.1.Inv := by
  obtain ⟨h1, h2, h4⟩ := atoc_next it.front hi.fi
  unfold next
  cases hr : andThenOrClear it.front CIter.next with
  | mk fr r =>
    rw [hr] at h1 h2 h4
    cases r with
    | some x =>
      unfold Iter.rem
      rw [eq_cons_of_head? h1.symm, ← h2]
      exact ⟨rfl, rfl, hi.setFront fr h4⟩
    | none =>
      have hnil : orem it.front = [] := List.head?_eq_none_iff.mp h1.symm
      unfold Iter.rem
      rw [hnil, List.nil_append]
      exact nextLoop_spec it.back it.containers hi.clearFront

theorem Inv.initMid {f : Option CIter} {c : Container} {cs : List Container} {b : Option CIter}
    (hi : Iter.Inv ⟨f, cs ++ [c], b⟩) : Iter.Inv ⟨f, cs, b⟩ :=
  hi.sublistMid (List.sublist_append_left cs [c])

/-- the last middle chunk becomes the back iterator -/
theorem Inv.promoteBack {f : Option CIter} {c : Container} {cs : List Container}
    (hi : Iter.Inv ⟨f, cs ++ [c], none⟩) (c' : CIter) (hc' : c'.Inv) (hk : c'.key = c.key) :
    Iter.Inv ⟨f, cs, some c'⟩ := by
  have ht := hi.initMid
  have hs := hi.sorted
  simp only [List.map_append, List.pairwise_append] at hs
  refine ⟨ht.sorted, ht.cok, ht.fi, ?_, ht.fr, ?_, ?_⟩
  · exact fun _ hb => Option.some.inj hb ▸ hc'
  · intro _ hb d hd
    cases hb
    exact hk ▸ hs.2.2 d.key (List.mem_map_of_mem hd) c.key (List.mem_singleton_self _)
  · intro g _ hg hb
    cases hb
    exact hk ▸ hi.fr g hg c List.mem_concat_self

theorem nextBackLoop_spec (front : Option CIter) (rcs : List Container) (hi : Iter.Inv ⟨front, rcs.reverse, none⟩) :
    (nextBackLoop front rcs).2 = (orem front ++ mid rcs.reverse).getLast? ∧
    (nextBackLoop front rcs).1.rem = (orem front ++ mid rcs.reverse).dropLast ∧ (nextBackLoop front rcs).1.Inv := by
  induction rcs with
  | nil =>
    obtain ⟨h1, h2, h4⟩ := atoc_nextBack front hi.fi
    simp only [nextBackLoop, List.reverse_nil, mid_nil, List.append_nil, rem_mk, orem_none]
    exact ⟨h1, h2, hi.setFront _ h4⟩
  | cons c rcs ih =>
    rw [List.reverse_cons] at hi ⊢
    obtain ⟨k1, k2, k3⟩ := cKernel.ofContainer c (hi.cok c List.mem_concat_self)
    obtain ⟨h1, h2, h4⟩ := atoc_nextBack (some (CIter.ofContainer c)) fun _ hd => Option.some.inj hd ▸ k1
    rw [orem_some, k2] at h1 h2
    unfold nextBackLoop
    cases hr : andThenOrClear (some (CIter.ofContainer c)) CIter.nextBack with
    | mk bk r =>
      rw [hr] at h1 h2 h4
      rw [mid_append, mid_cons, mid_nil, List.append_nil, ← List.append_assoc]
      cases r with
      | some x =>
        rw [eq_concat_of_getLast? h1.symm, ← h2, ← List.append_assoc, List.getLast?_concat, List.dropLast_concat]
        refine ⟨rfl, rfl, ?_⟩
        cases bk with
        | none => exact hi.initMid
        | some c' =>
          obtain ⟨i1, _, i2, i3⟩ := h4 c' rfl
          cases i2
          exact hi.promoteBack c' i1 i3
      | none =>
        have hnil : c.elems = [] := List.getLast?_eq_none_iff.mp h1.symm
        rw [hnil, List.append_nil]
        exact ih hi.initMid

theorem nextBack_spec (it : Iter) (hi : it.Inv) :
    it.nextBack.2 = it.rem.getLast? ∧ it.nextBack.1.rem = it.rem.dropLast ∧ it.nextBack.1.Inv := by
  obtain ⟨h1, h2, h4⟩ := atoc_nextBack it.back hi.bi
  unfold nextBack
  cases hr : andThenOrClear it.back CIter.nextBack with
  | mk bk r =>
    rw [hr] at h1 h2 h4
    cases r with
    | some x =>
      unfold Iter.rem
      rw [eq_concat_of_getLast? h1.symm, ← h2, ← List.append_assoc, List.getLast?_concat, List.dropLast_concat]
      exact ⟨rfl, rfl, hi.setBack bk h4⟩
    | none =>
      have hnil : orem it.back = [] := List.getLast?_eq_none_iff.mp h1.symm
      unfold Iter.rem
      rw [hnil, List.append_nil]
      have := nextBackLoop_spec it.front it.containers.reverse (by
        rw [List.reverse_reverse]; exact hi.clearBack)
      rw [List.reverse_reverse] at this
      exact this

theorem getElem?_append_skip (l r : List Nat) (n : Nat) (h : l.length ≤ n) :
    (l ++ r)[n]? = r[n - l.length]? ∧ (l ++ r).drop (n + 1) = r.drop (n - l.length + 1) := by
  refine ⟨List.getElem?_append_right h, ?_⟩
  rw [List.drop_append, List.drop_eq_nil_of_le (Nat.le_succ_of_le h), List.nil_append, Nat.succ_sub h]

theorem getElem?_append_stay (l r : List Nat) (n : Nat) (h : n < l.length) :
    (l ++ r)[n]? = l[n]? ∧ (l ++ r).drop (n + 1) = l.drop (n + 1) ++ r :=
  ⟨List.getElem?_append_left h, List.drop_append_of_le_length h⟩

theorem nthLoop_spec (back : Option CIter) (cs : List Container) (n : Nat) (hi : Iter.Inv ⟨none, cs, back⟩) :
    (nthLoop back cs n).2 = (mid cs ++ orem back)[n]? ∧
    (nthLoop back cs n).1.rem = (mid cs ++ orem back).drop (n + 1) ∧ (nthLoop back cs n).1.Inv := by
  induction cs generalizing n with
  | nil =>
    obtain ⟨h1, h2, h4⟩ := atoc_spec back (fun c => c.nth n) (·[n]?) (·.drop (n + 1)) rfl
      (fun l h => List.drop_eq_nil_of_le (Nat.le_succ_of_le (List.getElem?_eq_none_iff.mp h)))
      fun c hc => cKernel.nth c n (hi.bi c hc)
    simp only [nthLoop, mid_nil, List.nil_append, rem_mk, orem_none]
    exact ⟨h1, h2, hi.setBack _ h4⟩
  | cons c cs ih =>
    obtain ⟨k1, k2, k3⟩ := cKernel.ofContainer c (hi.cok c List.mem_cons_self)
    unfold nthLoop
    simp only [k3]
    rw [mid_cons, List.append_assoc]
    by_cases hn : n < c.elems.length
    · rw [if_pos hn]
      obtain ⟨h1, h2, h3, h4⟩ := cKernel.nth (CIter.ofContainer c) n k1
      rw [k2] at h1 h2
      obtain ⟨e1, e2⟩ := getElem?_append_stay c.elems (mid cs ++ orem back) n hn
      rw [e1, e2, rem_mk, orem_some, h2, List.append_assoc]
      exact ⟨h1, rfl, hi.promoteFront _ h3 h4⟩
    · rw [if_neg hn]
      obtain ⟨e1, e2⟩ := getElem?_append_skip c.elems (mid cs ++ orem back) n (Nat.not_lt.mp hn)
      rw [e1, e2]
      exact ih _ hi.tailMid

theorem nth_spec (it : Iter) (hi : it.Inv) (n : Nat) :
    (it.nth n).2 = it.rem[n]? ∧ (it.nth n).1.rem = it.rem.drop (n + 1) ∧ (it.nth n).1.Inv := by
  unfold nth
  cases hf : it.front with
  | none =>
    have := nthLoop_spec it.back it.containers n hi.clearFront
    unfold Iter.rem
    rw [hf, orem_none, List.nil_append]
    exact this
  | some f =>
    have hfi := hi.fi f hf
    dsimp only
    rw [CIter.len_spec f hfi]
    unfold Iter.rem
    rw [hf, orem_some, List.append_assoc]
    obtain ⟨h1, h2, h3, h4⟩ := cKernel.nth f n hfi
    by_cases hn : n < f.rem.length
    · rw [if_pos hn]
      obtain ⟨e1, e2⟩ := getElem?_append_stay f.rem (mid it.containers ++ orem it.back) n hn
      rw [e1, e2]
      -- `n` is in range, so the front iterator yields a value and stays
      have hx := List.getElem?_eq_getElem hn
      rw [show f.nth n = ((f.nth n).1, some f.rem[n]) from Prod.ext rfl (h1.trans hx)]
      refine ⟨hx.symm, ?_, hi.setFront (some (f.nth n).1) fun _ hc' => Option.some.inj hc' ▸ ⟨h3, f, hf, h4⟩⟩
      show orem (some (f.nth n).1) ++ mid it.containers ++ orem it.back = _
      rw [orem_some, h2, List.append_assoc]
    · rw [if_neg hn]
      obtain ⟨e1, e2⟩ := getElem?_append_skip f.rem (mid it.containers ++ orem it.back) n (Nat.not_lt.mp hn)
      rw [e1, e2]
      exact nthLoop_spec it.back it.containers _ hi.clearFront

/-- the `n`-th element from the back / what is left in front of it -/
def backGet (l : List Nat) (n : Nat) : Option Nat := (l.take (l.length - n)).getLast?
def backDrop (l : List Nat) (n : Nat) : List Nat := (l.take (l.length - n)).dropLast

theorem take_sub_ne_nil {r : List Nat} {n : Nat} (h : n < r.length) : r.take (r.length - n) ≠ [] := by
  intro hc
  rcases List.take_eq_nil_iff.mp hc with h0 | h0
  · exact absurd (Nat.sub_eq_zero_iff_le.mp h0) (Nat.not_le.mpr h)
  · rw [h0] at h; exact Nat.not_lt_zero _ h

theorem back_stay (l r : List Nat) (n : Nat) (h : n < r.length) :
    backGet (l ++ r) n = backGet r n ∧ backDrop (l ++ r) n = l ++ backDrop r n := by
  unfold backGet backDrop
  have hne := take_sub_ne_nil h
  rw [List.length_append, List.take_append, Nat.add_sub_assoc (Nat.le_of_lt h), Nat.add_sub_cancel_left,
    List.take_of_length_le (Nat.le_add_right _ _)]
  exact ⟨by rw [List.getLast?_append, List.getLast?_eq_some_getLast hne]; rfl, List.dropLast_append_of_ne_nil hne⟩

theorem back_skip (l r : List Nat) (n : Nat) (h : r.length ≤ n) :
    backGet (l ++ r) n = backGet l (n - r.length) ∧ backDrop (l ++ r) n = backDrop l (n - r.length) := by
  obtain ⟨m, rfl⟩ := Nat.exists_eq_add_of_le h
  unfold backGet backDrop
  rw [List.length_append, Nat.add_comm r.length m, Nat.add_sub_add_right, Nat.add_sub_cancel,
    List.take_append_of_le_length (Nat.sub_le _ _)]
  exact ⟨rfl, rfl⟩

theorem nthBackLoop_spec (front : Option CIter) (rcs : List Container) (n : Nat)
    (hi : Iter.Inv ⟨front, rcs.reverse, none⟩) :
    (nthBackLoop front rcs n).2 = backGet (orem front ++ mid rcs.reverse) n ∧
    (nthBackLoop front rcs n).1.rem = backDrop (orem front ++ mid rcs.reverse) n ∧
    (nthBackLoop front rcs n).1.Inv := by
  induction rcs generalizing n with
  | nil =>
    obtain ⟨h1, h2, h4⟩ := atoc_spec front (fun c => c.nthBack n) (backGet · n) (backDrop · n)
      (by rw [backGet, List.take_nil]; rfl)
      (fun l h => by unfold backDrop; rw [List.getLast?_eq_none_iff.mp h]; rfl)
      fun c hc => CIter.nthBack_spec n c (hi.fi c hc)
    simp only [nthBackLoop, List.reverse_nil, mid_nil, List.append_nil, rem_mk, orem_none]
    exact ⟨h1, h2, hi.setFront _ h4⟩
  | cons c rcs ih =>
    rw [List.reverse_cons] at hi ⊢
    obtain ⟨k1, k2, k3⟩ := cKernel.ofContainer c (hi.cok c List.mem_concat_self)
    unfold nthBackLoop
    simp only [k3]
    rw [mid_append, mid_cons, mid_nil, List.append_nil, ← List.append_assoc]
    by_cases hn : n < c.elems.length
    · rw [if_pos hn]
      obtain ⟨h1, h2, h3, h4⟩ := CIter.nthBack_spec n (CIter.ofContainer c) k1
      rw [k2] at h1 h2
      obtain ⟨e1, e2⟩ := back_stay (orem front ++ mid rcs.reverse) c.elems n hn
      rw [e1, e2, rem_mk, orem_some, h2]
      exact ⟨h1, rfl, hi.promoteBack _ h3 h4⟩
    · rw [if_neg hn]
      obtain ⟨e1, e2⟩ := back_skip (orem front ++ mid rcs.reverse) c.elems n (Nat.not_lt.mp hn)
      rw [e1, e2]
      exact ih _ hi.initMid

theorem nthBack_spec (it : Iter) (hi : it.Inv) (n : Nat) :
    (it.nthBack n).2 = backGet it.rem n ∧ (it.nthBack n).1.rem = backDrop it.rem n ∧ (it.nthBack n).1.Inv := by
  have hloop : ∀ m, (nthBackLoop it.front it.containers.reverse m).2 = backGet (orem it.front ++ mid it.containers) m ∧
      (nthBackLoop it.front it.containers.reverse m).1.rem = backDrop (orem it.front ++ mid it.containers) m ∧
      (nthBackLoop it.front it.containers.reverse m).1.Inv := by
    intro m
    have := nthBackLoop_spec it.front it.containers.reverse m (by
      rw [List.reverse_reverse]; exact hi.clearBack)
    rw [List.reverse_reverse] at this
    exact this
  unfold nthBack
  cases hb : it.back with
  | none =>
    unfold Iter.rem
    rw [hb, orem_none, List.append_nil]
    exact hloop n
  | some b =>
    have hbi := hi.bi b hb
    dsimp only
    rw [CIter.len_spec b hbi]
    unfold Iter.rem
    rw [hb, orem_some]
    obtain ⟨h1, h2, h3, h4⟩ := CIter.nthBack_spec n b hbi
    by_cases hn : n < b.rem.length
    · rw [if_pos hn]
      obtain ⟨e1, e2⟩ := back_stay (orem it.front ++ mid it.containers) b.rem n hn
      rw [e1, e2]
      have hx := List.getLast?_eq_some_getLast (take_sub_ne_nil hn)
      rw [show b.nthBack n = ((b.nthBack n).1, some _) from Prod.ext rfl (h1.trans hx)]
      refine ⟨hx.symm, ?_, hi.setBack (some (b.nthBack n).1) fun _ hc' => Option.some.inj hc' ▸ ⟨h3, b, hb, h4⟩⟩
      show orem it.front ++ mid it.containers ++ orem (some (b.nthBack n).1) = _
      rw [orem_some, h2]; rfl
    · rw [if_neg hn]
      obtain ⟨e1, e2⟩ := back_skip (orem it.front ++ mid it.containers) b.rem n (Nat.not_lt.mp hn)
      rw [e1, e2]
      exact hloop _

/-- the values of chunks inherit what holds of the chunks' keys -/
theorem mid_hi {cs : List Container} (hc : ∀ c ∈ cs, c.IterOK) (p : Nat → Prop)
    (h : ∀ c ∈ cs, p c.key) : ∀ x ∈ mid cs, p (x / 65536) :=
  Radix.forall_flatMap_div (fun c hc' x hx => by
    obtain ⟨k1, k2, _⟩ := cKernel.ofContainer c (hc c hc')
    exact cKernel.rem_hi _ k1 x (k2 ▸ hx)) h

theorem orem_hi {o : Option CIter} (ho : ∀ c, o = some c → c.Inv) (p : Nat → Prop)
    (h : ∀ c, o = some c → p c.key) : ∀ x ∈ orem o, p (x / 65536) := by
  intro x hx
  cases o with
  | none => cases hx
  | some c => rw [cKernel.rem_hi c (ho c rfl) x hx]; exact h c rfl

theorem rem_hi {it : Iter} (hi : it.Inv) (p : Nat → Prop)
    (hf : ∀ f, it.front = some f → p f.key) (hc : ∀ c ∈ it.containers, p c.key)
    (hb : ∀ b, it.back = some b → p b.key) : ∀ x ∈ it.rem, p (x / 65536) := by
  intro x hx
  simp only [Iter.rem, List.mem_append] at hx
  rcases hx with (hx | hx) | hx
  · exact orem_hi hi.fi p hf x hx
  · exact mid_hi hi.cok p hc x hx
  · exact orem_hi hi.bi p hb x hx

theorem getElem?_append_cons {α} (pre : List α) (c : α) (rest : List α) : (pre ++ c :: rest)[pre.length]? = some c :=
  (List.getElem?_append_right (Nat.le_refl _)).trans (by rw [Nat.sub_self]; rfl)

theorem rem_append_mid (pre post : List Container) (b : Option CIter) :
    Iter.rem ⟨none, pre ++ post, b⟩ = mid pre ++ Iter.rem ⟨none, post, b⟩ := by
  simp only [rem_mk, orem_none, List.nil_append, mid_append, List.append_assoc]

theorem rem_cons_mid (c : Container) (cs : List Container) (b : Option CIter) :
    Iter.rem ⟨none, c :: cs, b⟩ = c.elems ++ Iter.rem ⟨none, cs, b⟩ := by
  simp only [rem_mk, orem_none, List.nil_append, mid_cons, List.append_assoc]

theorem rem_some_front (f : CIter) (cs : List Container) (b : Option CIter) :
    Iter.rem ⟨some f, cs, b⟩ = f.rem ++ Iter.rem ⟨none, cs, b⟩ := by
  simp only [rem_mk, orem_some, orem_none, List.nil_append, List.append_assoc]

theorem rem_append_mid_back (f : Option CIter) (pre post : List Container) :
    Iter.rem ⟨f, pre ++ post, none⟩ = Iter.rem ⟨f, pre, none⟩ ++ mid post := by
  simp only [rem_mk, orem_none, List.append_nil, mid_append, List.append_assoc]

theorem rem_some_back (f : Option CIter) (cs : List Container) (b : CIter) :
    Iter.rem ⟨f, cs, some b⟩ = Iter.rem ⟨f, cs, none⟩ ++ b.rem := by
  simp only [rem_mk, orem_some, orem_none, List.append_nil]

end Iter

/-- `advance_to(n)` on the iterator of the chunk of `n` compares the low halves -/
theorem CIter.advanceTo_rem (c : CIter) (hc : c.Inv) {n : Nat} (hk : n / 65536 = c.key) :
    (c.advanceTo (n % 65536)).rem = c.rem.filter (fun x => decide (n ≤ x)) := by
  rw [(cKernel.advanceTo c _ hc (Nat.mod_lt _ (by decide))).1, ← hk, Nat.div_add_mod']

/-- `advance_back_to(n)` on the iterator of the chunk of `n` compares the low halves -/
theorem CIter.advanceBackTo_rem (c : CIter) (hc : c.Inv) {n : Nat} (hk : n / 65536 = c.key) :
    (c.advanceBackTo (n % 65536)).rem = c.rem.filter (fun x => decide (x ≤ n)) := by
  rw [(cKernel.advanceBackTo c _ hc (Nat.mod_lt _ (by decide))).1, ← hk, Nat.div_add_mod']

namespace Iter

/-! ### `advance_to` (iter.rs:38-93) -/

theorem advanceToRest_spec (cs : List Container) (back : Option CIter)
    (hi : Iter.Inv ⟨none, cs, back⟩) (n : Nat) :
    (advanceToRest ⟨none, cs, back⟩ (n / 65536) (n % 65536)).rem =
      (Iter.rem ⟨none, cs, back⟩).filter (fun x => decide (n ≤ x)) ∧
    (advanceToRest ⟨none, cs, back⟩ (n / 65536) (n % 65536)).Inv := by
  have hidx : n % 65536 < 65536 := Nat.mod_lt _ (by decide)
  obtain ⟨pre, post, rfl, hpre, hsearch⟩ := Bitmap.search_spec cs (n / 65536) hi.sorted
  have hi' : Iter.Inv ⟨none, post, back⟩ := hi.sublistMid (List.sublist_append_right pre post)
  -- the chunks below the target key are skipped
  rw [rem_append_mid, List.filter_append, Radix.filterGE_drop_of_div_lt 65536
    (mid_hi (fun c hc => hi.cok c (List.mem_append_left post hc)) (· < n / 65536) hpre), List.nil_append]
  unfold advanceToRest
  rcases hsearch with ⟨c, rest, rfl, hk, hrest, hs⟩ | ⟨hpost, hs⟩
  · -- `Ok`: the chunk found becomes the front iterator
    have hdrop : (pre ++ c :: rest).drop (pre.length + 1) = rest := by rw [← List.drop_drop, List.drop_left]; rfl
    simp only [hs, getElem?_append_cons, hdrop]
    obtain ⟨k1, k2, _⟩ := cKernel.ofContainer c (hi'.cok c List.mem_cons_self)
    obtain ⟨_, a2, a3⟩ := cKernel.advanceTo (CIter.ofContainer c) (n % 65536) k1 hidx
    refine ⟨?_, hi'.promoteFront _ a2 a3⟩
    rw [rem_some_front, rem_cons_mid, List.filter_append, ← k2, CIter.advanceTo_rem _ k1 hk.symm,
      Radix.filterGE_keep_of_div_gt 65536 (rem_hi hi'.tailMid (n / 65536 < ·) nofun hrest
        fun b hb => hk ▸ hi'.bk b hb c List.mem_cons_self)]
  · -- `Err`: every chunk left lies above the target key
    have hkeep : ∀ b', (∀ b, b' = some b → n / 65536 < b.key) → Iter.Inv ⟨none, post, b'⟩ →
        (Iter.rem ⟨none, post, b'⟩).filter (fun x => decide (n ≤ x)) = Iter.rem ⟨none, post, b'⟩ :=
      fun b' hb' hib => Radix.filterGE_keep_of_div_gt 65536 (rem_hi hib (n / 65536 < ·) nofun hpost hb')
    simp only [hs, List.drop_left']
    cases post with
    | cons c rest =>
      rw [if_pos (Nat.ne_of_lt (List.length_append ▸ Nat.lt_add_of_pos_right (Nat.succ_pos _)))]
      exact ⟨(hkeep back (fun b hb => Nat.lt_trans (hpost c List.mem_cons_self) (hi'.bk b hb c List.mem_cons_self))
        hi').symm, hi'⟩
    | nil =>
      rw [List.append_nil, if_neg (not_not_intro rfl)]
      cases back with
      | none => exact ⟨rfl, hi'⟩
      | some b =>
        have hb := hi'.bi b rfl
        dsimp only
        by_cases c1 : n / 65536 < b.key
        · rw [if_pos c1]
          exact ⟨(Radix.filterGE_keep_of_div_gt 65536 fun x hx => cKernel.rem_hi b hb x hx ▸ c1).symm, hi'⟩
        rw [if_neg c1]
        by_cases c2 : n / 65536 = b.key
        · rw [if_pos c2]
          obtain ⟨_, a2, a3⟩ := cKernel.advanceTo b (n % 65536) hb hidx
          exact ⟨CIter.advanceTo_rem b hb c2, hi'.setBack _ fun c' hc' => by cases hc'; exact ⟨a2, b, rfl, a3⟩⟩
        · rw [if_neg c2]
          exact ⟨(Radix.filterGE_drop_of_div_lt 65536 fun x hx =>
            cKernel.rem_hi b hb x hx ▸ Nat.lt_of_le_of_ne (Nat.le_of_not_lt c1) (Ne.symm c2)).symm, hi'.clearBack⟩

theorem advanceTo_spec (it : Iter) (hi : it.Inv) (n : Nat) :
    (it.advanceTo n).rem = it.rem.filter (fun x => decide (n ≤ x)) ∧ (it.advanceTo n).Inv := by
  obtain ⟨fr, cs, back⟩ := it
  unfold advanceTo Bitmap.hi16 Bitmap.lo16
  cases fr with
  | none => exact advanceToRest_spec cs back hi n
  | some f =>
    have hf := hi.fi f rfl
    -- everything behind the front iterator has a larger key
    have hrest := rem_hi hi.clearFront (f.key < ·) nofun (hi.fr f rfl) fun b hb => hi.fb f b rfl hb
    dsimp only
    rw [rem_some_front, Radix.filterGE_block_append 65536 n (cKernel.rem_hi f hf) hrest]
    by_cases c1 : n / 65536 < f.key
    · rw [if_pos c1, if_pos c1]
      exact ⟨rem_some_front .., hi⟩
    rw [if_neg c1, if_neg c1]
    by_cases c2 : n / 65536 = f.key
    · rw [if_pos c2, if_pos c2]
      obtain ⟨_, a2, a3⟩ := cKernel.advanceTo f (n % 65536) hf (Nat.mod_lt _ (by decide))
      exact ⟨(rem_some_front ..).trans (congrArg (· ++ _) (CIter.advanceTo_rem f hf c2)),
        hi.setFront _ fun c' hc' => by cases hc'; exact ⟨a2, f, rfl, a3⟩⟩
    · rw [if_neg c2, if_neg c2]
      exact advanceToRest_spec cs back hi.clearFront n

/-! ### `advance_back_to` (iter.rs:95-151), the mirror image -/

theorem advanceBackToRest_spec (front : Option CIter) (cs : List Container)
    (hi : Iter.Inv ⟨front, cs, none⟩) (n : Nat) :
    (advanceBackToRest ⟨front, cs, none⟩ (n / 65536) (n % 65536)).rem =
      (Iter.rem ⟨front, cs, none⟩).filter (fun x => decide (x ≤ n)) ∧
    (advanceBackToRest ⟨front, cs, none⟩ (n / 65536) (n % 65536)).Inv := by
  have hidx : n % 65536 < 65536 := Nat.mod_lt _ (by decide)
  obtain ⟨pre, post, rfl, hpre, hsearch⟩ := Bitmap.search_spec cs (n / 65536) hi.sorted
  have hi' : Iter.Inv ⟨front, pre, none⟩ := hi.sublistMid (List.sublist_append_left pre post)
  have hcok : ∀ c ∈ post, c.IterOK := fun c hc => hi.cok c (List.mem_append_right pre hc)
  -- the front part survives whenever the front iterator's key is below the target key
  have hkeep : (∀ f, front = some f → f.key < n / 65536) →
      (Iter.rem ⟨front, pre, none⟩).filter (fun x => decide (x ≤ n)) = Iter.rem ⟨front, pre, none⟩ :=
    fun h => Radix.filterLE_keep_of_div_lt 65536 (rem_hi hi' (· < n / 65536) h hpre (by simp))
  rw [rem_append_mid_back, List.filter_append]
  unfold advanceBackToRest
  rcases hsearch with ⟨c, rest, rfl, hk, hrest, hs⟩ | ⟨hpost, hs⟩
  · -- `Ok`: the chunk found becomes the back iterator
    have hcmem : c ∈ pre ++ c :: rest := List.mem_append_right pre List.mem_cons_self
    simp only [hs, getElem?_append_cons, List.take_left']
    obtain ⟨k1, k2, _⟩ := cKernel.ofContainer c (hcok c List.mem_cons_self)
    obtain ⟨_, a2, a3⟩ := cKernel.advanceBackTo (CIter.ofContainer c) (n % 65536) k1 hidx
    refine ⟨?_, Inv.promoteBack (hi.sublistMid
      (List.Sublist.append_left (List.singleton_sublist.mpr List.mem_cons_self) pre)) _ a2 a3⟩
    rw [rem_some_back, mid_cons, List.filter_append, ← k2, CIter.advanceBackTo_rem _ k1 hk.symm,
      hkeep (fun f hf => hk ▸ hi.fr f hf c hcmem),
      Radix.filterLE_drop_of_div_gt 65536 (mid_hi (fun d hd => hcok d (List.mem_cons_of_mem c hd)) (n / 65536 < ·) hrest),
      List.append_nil]
  · -- `Err`: every chunk from the insertion point on lies above the target key
    have htk : (pre ++ post).length - ((pre ++ post).length - pre.length) = pre.length :=
      Nat.sub_sub_self (List.length_append ▸ Nat.le_add_right ..)
    rw [Radix.filterLE_drop_of_div_gt 65536 (mid_hi hcok (n / 65536 < ·) hpost), List.append_nil]
    simp only [hs, htk, List.take_left']
    cases pre with
    | cons d pre' =>
      have hlen : (d :: pre' ++ post).length - (d :: pre').length ≠ (d :: pre' ++ post).length :=
        Nat.ne_of_lt (Nat.sub_lt (Nat.succ_pos _) (Nat.succ_pos _))
      rw [if_pos hlen]
      exact ⟨(hkeep fun f hf => Nat.lt_trans (hi'.fr f hf d List.mem_cons_self) (hpre d List.mem_cons_self)).symm, hi'⟩
    | nil =>
      simp only [List.nil_append, List.length_nil, Nat.sub_zero, ne_eq, not_true_eq_false, ↓reduceIte]
      cases front with
      | none => exact ⟨rfl, hi'⟩
      | some f =>
        have hf := hi'.fi f rfl
        have hrem (c : CIter) : Iter.rem ⟨some c, [], none⟩ = c.rem := (List.append_nil _).trans (List.append_nil _)
        dsimp only
        rw [hrem]
        by_cases c1 : n / 65536 > f.key
        · rw [if_pos c1, hrem]
          exact ⟨(Radix.filterLE_keep_of_div_lt 65536 fun x hx => cKernel.rem_hi f hf x hx ▸ c1).symm, hi'⟩
        rw [if_neg c1]
        by_cases c2 : n / 65536 = f.key
        · rw [if_pos c2, hrem]
          obtain ⟨_, a2, a3⟩ := cKernel.advanceBackTo f (n % 65536) hf hidx
          exact ⟨CIter.advanceBackTo_rem f hf c2, hi'.setFront _ fun c' hc' => by cases hc'; exact ⟨a2, f, rfl, a3⟩⟩
        · rw [if_neg c2]
          exact ⟨(Radix.filterLE_drop_of_div_gt 65536 fun x hx =>
            cKernel.rem_hi f hf x hx ▸ Nat.lt_of_le_of_ne (Nat.le_of_not_lt c1) c2).symm, hi'.clearFront⟩

theorem advanceBackTo_spec (it : Iter) (hi : it.Inv) (n : Nat) :
    (it.advanceBackTo n).rem = it.rem.filter (fun x => decide (x ≤ n)) ∧ (it.advanceBackTo n).Inv := by
  obtain ⟨front, cs, bk⟩ := it
  unfold advanceBackTo Bitmap.hi16 Bitmap.lo16
  cases bk with
  | none => exact advanceBackToRest_spec front cs hi n
  | some b =>
    have hb := hi.bi b rfl
    -- everything in front of the back iterator has a smaller key
    have hrest := rem_hi hi.clearBack (· < b.key) (fun f hf => hi.fb f b hf rfl) (hi.bk b rfl) nofun
    dsimp only
    rw [rem_some_back, Radix.filterLE_append_block 65536 n hrest (cKernel.rem_hi b hb)]
    by_cases c1 : b.key < n / 65536
    · rw [if_pos c1, if_pos c1]
      exact ⟨rem_some_back .., hi⟩
    rw [if_neg c1, if_neg c1]
    by_cases c2 : n / 65536 = b.key
    · rw [if_pos c2, if_pos c2]
      obtain ⟨_, a2, a3⟩ := cKernel.advanceBackTo b (n % 65536) hb (Nat.mod_lt _ (by decide))
      exact ⟨(rem_some_back ..).trans (congrArg (_ ++ ·) (CIter.advanceBackTo_rem b hb c2)),
        hi.setBack _ fun c' hc' => by cases hc'; exact ⟨a2, b, rfl, a3⟩⟩
    · rw [if_neg c2, if_neg c2]
      exact advanceBackToRest_spec front cs hi.clearBack n

end Iter
end Roaring

#print axioms Roaring.Iter.advanceBackTo_spec
