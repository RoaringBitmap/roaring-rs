import RoaringModel.Lemmas.StoreOps
import RoaringModel.Lemmas.AlgebraSpec
/-!
# Container level: the eleven operator impls (container.rs:193-284) and the relations

First `filter_mem_length_comm` (the common elements of two sorted lists, counted from either side).  Store level:
`is_disjoint`, `intersection_len`.  Then the containers: `op_spec` (an operator impl is
`ensure_correct_store`, specified in `Lemmas/StoreFacts.lean`, after the store-level operator), `is_disjoint`,
`is_subset` (with the `len` short-cut and the `(Bitmap, Array) => false` early-out) and `intersection_len`.
-/
namespace Roaring

theorem filter_mem_length_comm (l r : List Nat) (hl : Sorted l) (hr : Sorted r) :
    (l.filter (fun x => decide (x ∈ r))).length = (r.filter (fun x => decide (x ∈ l))).length := by
  rw [← Arr.and_eq_filter l r hl hr, ← Arr.and_eq_filter r l hr hl, Arr.and_comm l r hl hr]

namespace Store

/-- store/mod.rs:176 `is_disjoint` -/
theorem isDisjoint_spec (s t : Store) (hs : s.Inv) (ht : t.Inv) :
    s.isDisjoint t = true ↔ ∀ x ∈ s.elems, x ∉ t.elems := by
  -- an array against a bitset: every array value fails the bit test
  have mixed : ∀ (v : List Nat) (b : BStore), b.Inv →
      (v.all (fun i => !b.contains i) = true ↔ ∀ x ∈ v, x ∉ b.toArray) := by
    intro v b hb
    rw [List.all_eq_true]
    exact forall_congr' fun x => imp_congr_right fun _ => by
      rw [show b.contains x = _ from contains_spec (.bitmap b) hb x, Bool.not_eq_true', decide_eq_false_iff_not]; rfl
  cases s with
  | array a => cases t with
    | array b => exact Arr.isDisjoint_spec a b hs.1 ht.1
    | bitmap b => exact mixed a b ht
  | bitmap a => cases t with
    | array v => exact (mixed v a hs).trans ⟨fun h x hx hv => h x hv hx, fun h x hx hv => h x hv hx⟩
    | bitmap b =>
      simp only [isDisjoint, elems, BStore.isDisjoint_spec a b hs ht, BStore.mem_toArray a hs, BStore.mem_toArray b ht]
      constructor
      · intro h x hx hc; exact h x hx.1 ⟨hx.2, hc.2⟩
      · intro h x hlt hc; exact h x ⟨hlt, hc.1⟩ ⟨hlt, hc.2⟩

/-- store/mod.rs:196 `intersection_len` counts the common elements -/
theorem interLen_spec (s t : Store) (hs : s.Inv) (ht : t.Inv) :
    s.interLen t = (s.elems.filter (fun x => decide (x ∈ t.elems))).length := by
  -- on values that fit, filtering by the bit test is filtering by membership
  have byTest : ∀ (l : List Nat) (b : BStore), b.Inv →
      l.filter (fun x => b.test x) = l.filter (fun x => decide (x ∈ b.toArray)) :=
    fun l b hb => List.filter_congr fun x _ => BStore.test_eq_decide b hb x
  cases s with
  | array a => cases t with
    | array b =>
      show Arr.interLen a b = _
      rw [Arr.interLen_eq, Arr.and_eq_filter a b hs.1 ht.1]; rfl
    | bitmap b =>
      show b.interLenArray a = _
      rw [BStore.interLenArray_spec b ht a hs.2, byTest a b ht]; rfl
  | bitmap a => cases t with
    | array v =>
      show a.interLenArray v = _
      rw [BStore.interLenArray_spec a hs v ht.2, byTest v a hs]
      exact filter_mem_length_comm v a.toArray ht.1 (BStore.sorted_toArray a hs)
    | bitmap b =>
      show a.interLenBitmap b = _
      rw [BStore.interLenBitmap_spec a b hs ht, byTest a.toArray b ht]; rfl

end Store

namespace Container

/-- every container-level operator impl is `ensure_correct_store` after the store-level one -/
theorem op_spec {P : Prop → Prop → Prop} {op : Store → Store → Store}
    (h : Store.OpSpec P op) (a b : Container) (ha : a.store.Inv) (hb : b.store.Inv) :
    let c := ensureCorrectStore { key := a.key, store := op a.store b.store }
    c.key = a.key ∧ c.store.Canon ∧ ∀ x, x ∈ c.store.elems ↔ P (x ∈ a.store.elems) (x ∈ b.store.elems) := by
  intro c
  have hop := h a.store b.store ha hb
  have he := ensureCorrectStore_spec { key := a.key, store := op a.store b.store } hop.1
  exact ⟨he.2.2, he.1, fun x => by rw [he.2.1]; exact hop.2 x⟩

theorem isEmpty_iff (c : Container) (hc : c.store.Canon) :
    c.isEmpty = true ↔ c.store.elems = [] := by
  rw [isEmpty, Store.isEmpty_spec _ (Store.canon_inv _ hc), List.isEmpty_iff]

/-- container.rs:152 -/
theorem isDisjoint_spec (a b : Container) (ha : a.store.Inv) (hb : b.store.Inv) :
    a.isDisjoint b = true ↔ ∀ x ∈ a.store.elems, x ∉ b.store.elems :=
  Store.isDisjoint_spec a.store b.store ha hb

/-- container.rs:156 `is_subset` with the `len` short-cut; store/mod.rs:187 with `(Bitmap, Array) => false`:
    both early-outs are sound for stores in canonical kind -/
theorem isSubset_spec (a b : Container) (ha : a.store.Canon) (hb : b.store.Canon) :
    a.isSubset b = true ↔ ∀ x ∈ a.store.elems, x ∈ b.store.elems := by
  have hai := Store.canon_inv _ ha
  have hbi := Store.canon_inv _ hb
  have hlen : (∀ x ∈ a.store.elems, x ∈ b.store.elems) → a.len ≤ b.len := by
    intro h
    have := Arr.length_le_of_subset _ _ (Store.sorted_elems _ hai) (Store.sorted_elems _ hbi) h
    rwa [← Store.len_eq _ hai, ← Store.len_eq _ hbi] at this
  have core : a.store.isSubset b.store = true ↔ ∀ x ∈ a.store.elems, x ∈ b.store.elems := by
    obtain ⟨ka, sa⟩ := a
    obtain ⟨kb, sb⟩ := b
    cases sa with
    | array v => cases sb with
      | array w => exact Arr.isSubset_spec v w ha.1.1 hb.1.1
      | bitmap w =>
        simp only [Store.isSubset, Store.elems, List.all_eq_true, BStore.contains_eq_test, BStore.mem_toArray w hb.1]
        constructor
        · intro h x hx; exact ⟨ha.1.2 x hx, h x hx⟩
        · intro h x hx; exact (h x hx).2
    | bitmap v => cases sb with
      | array w =>
        simp only [Store.isSubset]
        constructor
        · intro h; cases h
        · intro h
          have h1 := hlen h
          have h2 : 4096 < v.len := ha.2
          have h3 : w.length ≤ 4096 := hb.2
          simp only [len, Store.len] at h1
          omega
      | bitmap w =>
        simp only [Store.isSubset, Store.elems, BStore.isSubset_spec v w ha.1 hb.1, BStore.mem_toArray v ha.1,
          BStore.mem_toArray w hb.1]
        constructor
        · intro h x hx; exact ⟨hx.1, h x hx.1 hx.2⟩
        · intro h x hlt hx; exact (h x ⟨hlt, hx⟩).2
  simp only [isSubset, Bool.and_eq_true, decide_eq_true_eq]
  constructor
  · intro h; exact core.mp h.2
  · intro h; exact ⟨hlen h, core.mpr h⟩

theorem interLen_spec (a b : Container) (ha : a.store.Inv) (hb : b.store.Inv) :
    a.interLen b = (a.store.elems.filter (fun x => decide (x ∈ b.store.elems))).length :=
  Store.interLen_spec a.store b.store ha hb

end Container
end Roaring
