import RoaringModel.Lemmas.BitmapQuery
import RoaringModel.Lemmas.CursorLists
/-!
# The remaining `RoaringBitmap` mutators refine the set operations (inherent.rs, iter.rs `Extend`/`append`)
-/
namespace Roaring
namespace Bitmap

/-! ### directories written as `init ++ [last]` -/
theorem dir_snoc_iff (init : Bitmap) (c : Container) :
    Dir (init ++ [c]) ↔ Dir init ∧ (∀ d ∈ init, d.key < c.key) ∧ c.key < 65536 ∧ c.store.Canon := by
  constructor
  · intro h
    have h1 := h.1
    rw [List.map_append, List.pairwise_append] at h1
    exact ⟨h.sublist (List.sublist_append_left ..),
      fun d hd => h1.2.2 _ (List.mem_map_of_mem hd) _ (List.mem_singleton_self _), h.2 c (by simp)⟩
  · rintro ⟨h1, h2, h3, h4⟩
    exact Dir.insert (by rwa [List.append_nil]) h2 nofun h3 h4

theorem wf_snoc_iff (init : Bitmap) (c : Container) :
    WF (init ++ [c]) ↔ WF init ∧ (∀ d ∈ init, d.key < c.key) ∧ c.key < 65536 ∧ c.store.Canon ∧
      c.store.elems ≠ [] := by
  rw [wf_iff, wf_iff, dir_snoc_iff, List.forall_mem_append, List.forall_mem_singleton]
  constructor
  · rintro ⟨⟨h1, h2, h3, h4⟩, h5, h6⟩
    exact ⟨⟨h1, h5⟩, h2, h3, h4, h6⟩
  · rintro ⟨⟨h1, h5⟩, h2, h3, h4, h6⟩
    exact ⟨⟨h1, h2, h3, h4⟩, h5, h6⟩

/-- everything is below the value `(k, x)`: a condition on the last container alone -/
theorem forall_lt_snoc (init : Bitmap) (c : Container) (h : WF (init ++ [c])) (k x : Nat) (hx : x < 65536) :
    (∀ y ∈ elems (init ++ [c]), y < k * 65536 + x) ↔
      c.key < k ∨ c.key = k ∧ ∀ i ∈ c.store.elems, i < x := by
  obtain ⟨hinit, hlt, _, hcan, hne⟩ := (wf_snoc_iff init c).mp h
  have hlex : ∀ i ∈ c.store.elems, (c.key * 65536 + i < k * 65536 + x ↔ c.key < k ∨ c.key = k ∧ i < x) :=
    fun i hi => Radix.lt_iff_lex (Store.elems_lt _ (Store.canon_inv _ hcan) i hi) hx
  rw [elems_append, elems_single, List.forall_mem_append, Container.elems, List.forall_mem_map]
  constructor
  · intro ⟨_, H⟩
    obtain ⟨i0, hi0⟩ := List.exists_mem_of_ne_nil _ hne
    rcases (hlex i0 hi0).mp (H i0 hi0) with h' | ⟨e, _⟩
    · exact Or.inl h'
    · exact Or.inr ⟨e, fun i hi => ((hlex i hi).mp (H i hi)).elim (fun h' => absurd e (Nat.ne_of_lt h')) And.right⟩
  · intro H
    have hle : c.key ≤ k := H.elim Nat.le_of_lt fun e => Nat.le_of_eq e.1
    exact ⟨fun y hy => Nat.lt_of_lt_of_le (elems_lt_of_keys init hinit.dir c.key hlt y hy)
        (Nat.le_trans (Nat.mul_le_mul_right _ hle) (Nat.le_add_right _ _)),
      fun i hi => (hlex i hi).mpr (H.imp_right fun e => ⟨e.1, e.2 i hi⟩)⟩

/-- appending a container whose last value is `(k, x)` -/
theorem snoc_pushed (init : Bitmap) (hinit : init.WF) (c' : Container) (k x : Nat) (l : List Nat)
    (hk : k < 65536) (hkey : c'.key = k) (hcan : c'.store.Canon) (hel : c'.store.elems = l ++ [x])
    (hlt : ∀ d ∈ init, d.key < k) :
    (init ++ [c']).WF ∧
      elems (init ++ [c']) = elems init ++ (l.map (fun i => k * 65536 + i)) ++ [k * 65536 + x] := by
  refine ⟨?_, ?_⟩
  · rw [wf_snoc_iff]
    refine ⟨hinit, hkey ▸ hlt, hkey ▸ hk, hcan, ?_⟩
    rw [hel]; simp
  · rw [elems_append, elems_single, Container.elems, hel, hkey, List.map_append, List.append_assoc]
    rfl

/-- inherent.rs:294 `push` -/
theorem push_spec (b : Bitmap) (h : b.WF) (v : Nat) (hv : v < 4294967296) :
    (push b v).1.WF ∧ elems (push b v).1 = (Spec.push (elems b) v).1 ∧
    (push b v).2 = (Spec.push (elems b) v).2 := by
  rw [Spec.push_eq _ _ (sorted_elems b h.dir)]
  obtain ⟨k, x, hx, rfl⟩ := exists_join v
  have hk : k < 65536 := Nat.lt_of_mul_lt_mul_right (a := 65536) (Nat.lt_of_le_of_lt (Nat.le_add_right _ x) hv)
  unfold push
  rw [hi16_join k x hx, lo16_join k x hx]
  -- a fresh container holding just `x`
  obtain ⟨f1, f2, _, f4⟩ := Container.push_spec (Container.new k) (Container.new_canon _) x hx
  rw [Container.new_elems, if_pos (by simp)] at f4
  have hfresh : ∀ init : Bitmap, init.WF → (∀ d ∈ init, d.key < k) →
      (init ++ [(Container.push (Container.new k) x).1]).WF ∧
      elems (init ++ [(Container.push (Container.new k) x).1]) = elems init ++ [k * 65536 + x] := by
    intro init hi hlt
    simpa using snoc_pushed init hi _ k x [] hk f1 f2 f4 hlt
  rcases eq_nil_or_snoc b with rfl | ⟨init, c, rfl⟩
  · obtain ⟨w1, w2⟩ := hfresh [] h (by simp)
    rw [if_pos (by simp [elems])]
    exact ⟨w1, w2, rfl⟩
  · obtain ⟨hinit, hlt, hck, hcan, hne⟩ := (wf_snoc_iff init c).mp h
    have E := forall_lt_snoc init c h k x hx
    rw [List.getLast?_concat]
    simp only []
    by_cases h1 : c.key = k
    · rw [if_pos h1, List.dropLast_concat]
      obtain ⟨p1, p2, p3, p4⟩ := Container.push_spec c hcan x hx
      by_cases hc : ∀ i ∈ c.store.elems, i < x
      · rw [if_pos (E.mpr (Or.inr ⟨h1, hc⟩))]
        rw [if_pos hc] at p4
        obtain ⟨w1, w2⟩ := snoc_pushed init hinit _ k x c.store.elems hk (p1.trans h1) p2 p4
          (fun d hd => h1 ▸ hlt d hd)
        refine ⟨w1, ?_, by rw [p3]; exact decide_eq_true hc⟩
        rw [w2, elems_append, elems_single, Container.elems, h1]
      · rw [if_neg (fun H => (E.mp H).elim (fun h' => absurd h1 (Nat.ne_of_lt h')) (fun e => hc e.2))]
        rw [if_neg hc] at p4
        refine ⟨(wf_snoc_iff _ _).mpr ⟨hinit, p1 ▸ hlt, p1 ▸ hck, p2, p4 ▸ hne⟩, ?_,
          by rw [p3]; exact decide_eq_false hc⟩
        simp only [elems_append, elems_single, Container.elems, p1, p4]
    · rw [if_neg h1]
      by_cases h2 : c.key > k
      · rw [if_pos h2, if_neg (fun H => (E.mp H).elim (fun h' => Nat.lt_asymm h2 h') (fun e => h1 e.1))]
        exact ⟨h, rfl, rfl⟩
      · rw [if_neg h2]
        have h3 : c.key < k := by omega
        obtain ⟨w1, w2⟩ := hfresh (init ++ [c]) h (fun d hd => (List.mem_append.mp hd).elim
          (fun hd => Nat.lt_trans (hlt d hd) h3) (fun hd => List.mem_singleton.mp hd ▸ h3))
        rw [if_pos (E.mpr (Or.inl h3))]
        exact ⟨w1, w2, rfl⟩

theorem count_window (k lo hi : Nat) (hhi : hi < 65536) : ∀ (b : Bitmap), b.Dir →
    ((elems b).filter (fun y => decide (k * 65536 + lo ≤ y) && decide (y ≤ k * 65536 + hi))).length =
      Store.countIn (chunk b k) lo hi := by
  intro b
  induction b with
  | nil =>
    intro _
    -- not `rfl`: the unifier first tries to match the two filter predicates, and compares `k * 65536 + lo`
    -- with `lo` by unfolding the literal
    simp [elems, chunk, Store.countIn]
  | cons c cs ih =>
    intro hdir
    have hinv := hdir.inv (List.mem_cons_self ..)
    rw [elems_cons, List.filter_append, List.length_append]
    by_cases hk : c.key = k
    · subst hk
      rw [chunk_cons_eq c cs _ rfl, filter_window_nil_of_gt _ _ _ (join_lt_elems_tail hdir hhi (Nat.le_refl _))]
      unfold Container.elems
      rw [List.filter_map, List.length_map]
      apply congrArg List.length
      apply List.filter_congr
      intro x _
      rw [Function.comp_apply, Bool.eq_iff_iff, Bool.and_eq_true, Bool.and_eq_true, decide_eq_true_eq,
        decide_eq_true_eq, decide_eq_true_eq, decide_eq_true_eq, Nat.add_le_add_iff_left, Nat.add_le_add_iff_left]
    · rw [chunk_cons_ne c cs k hk, ← ih hdir.tail, (Nat.lt_or_gt_of_ne hk).elim
        (fun h => filter_window_nil_of_lt _ _ _ (cElems_lt_join c hinv h lo))
        (fun h => filter_window_nil_of_gt _ _ _ (join_lt_cElems c hinv hhi h))]
      exact Nat.zero_add _

theorem findModify_insertRange_spec (b : Bitmap) (h : b.WF) (k lo hi : Nat) (hk : k < 65536) (hlh : lo ≤ hi)
    (hhi : hi < 65536) :
    (findModify k (fun c => c.insertRange lo hi) 0 b).1.WF ∧
    elems (findModify k (fun c => c.insertRange lo hi) 0 b).1 =
      (Spec.insertIv (elems b) (k * 65536 + lo) (k * 65536 + hi)).1 ∧
    (findModify k (fun c => c.insertRange lo hi) 0 b).2 =
      (Spec.insertIv (elems b) (k * 65536 + lo) (k * 65536 + hi)).2 := by
  have hdir := h.dir
  obtain ⟨c0, k0, cn0, e0, r0, d0, ch0, m0⟩ :=
    findModify_spec k hk (fun c => c.insertRange lo hi) 0
      (fun c hck hc => ⟨hck ▸ (Container.insertRange_spec c (Store.canon_inv _ hc) lo hi hlh hhi).1,
        (Container.insertRange_spec c (Store.canon_inv _ hc) lo hi hlh hhi).2.1⟩) b hdir
  obtain ⟨_, i2, i3, i4⟩ := Container.insertRange_spec c0 (Store.canon_inv _ cn0) lo hi hlh hhi
  have hle : k * 65536 + lo ≤ k * 65536 + hi := Nat.add_le_add_left hlh _
  refine ⟨?_, ?_, ?_⟩
  · exact m0 h (List.ne_nil_of_mem ((i3 lo).mpr (Or.inl ⟨Nat.le_refl _, hlh⟩)))
  · apply elems_eq_of_mem_chunk _ d0 _ (Spec.sorted_insertIv _ (sorted_elems b hdir) _ _ hle)
    intro k' x hx
    rw [ch0 k', Spec.mem_insertIv _ _ _ _ hle, mem_elems_join b hdir k' x hx]
    by_cases hkk : k' = k
    · rw [if_pos hkk, i3, e0, hkk, Nat.add_le_add_iff_left, Nat.add_le_add_iff_left]
    · rw [if_neg hkk, join_le_join (Nat.lt_of_le_of_lt hlh hhi) hx, join_le_join hx hhi]
      exact ⟨Or.inr, fun h' => h'.elim (fun h'' => absurd (by omega) hkk) id⟩
  · rw [r0, i4, e0]
    simp only [Spec.insertIv]
    rw [count_window k lo hi hhi b hdir, Nat.add_sub_add_left]

theorem next_chunk (k : Nat) : (k + 1) * 65536 + 0 = k * 65536 + 65535 + 1 :=
  Radix.succ_mul_add_zero (by decide) k

/-- one iteration of the `for i in start_container_key..end_container_key` loop -/
def irStep (st : Bitmap × Nat × Nat) (i : Nat) : Bitmap × Nat × Nat :=
  ((findModify i (fun c => c.insertRange st.2.1 65535) 0 st.1).1, 0,
    st.2.2 + (findModify i (fun c => c.insertRange st.2.1 65535) 0 st.1).2)

/-- the body of `insert_range` once the range has been converted to `start ..= en` and both ends split into
    chunk key and low bits -/
def irOk (b : Bitmap) (sk sl ek el : Nat) : Bitmap × Nat :=
  if sk = ek then findModify sk (fun c => c.insertRange sl el) 0 b
  else
    let st := (List.range' sk (ek - sk)).foldl irStep ((findContainerByKey b sk).1, sl, 0)
    let m := findModify ek (fun c => c.insertRange 0 el) 0 st.1
    (m.1, st.2.2 + m.2)

theorem insertRange_eq (b : Bitmap) (lo hi : Bound) :
    insertRange b lo hi =
      match convertRange u32Max lo hi with
      | .error _ => (b, 0)
      | .ok (s, e) => irOk b (hi16 s) (lo16 s) (hi16 e) (lo16 e) := by
  rfl

theorem irFold_spec : ∀ (n k : Nat) (b0 : Bitmap) (low cnt0 : Nat), b0.WF → low < 65536 → k + n < 65536 →
    ((List.range' k (n + 1)).foldl irStep (b0, low, cnt0)).1.WF ∧
    elems ((List.range' k (n + 1)).foldl irStep (b0, low, cnt0)).1 =
      (Spec.insertIv (elems b0) (k * 65536 + low) ((k + n) * 65536 + 65535)).1 ∧
    ((List.range' k (n + 1)).foldl irStep (b0, low, cnt0)).2.2 =
      cnt0 + (Spec.insertIv (elems b0) (k * 65536 + low) ((k + n) * 65536 + 65535)).2 := by
  intro n
  induction n with
  | zero =>
    intro k b0 low cnt0 h hlow hk
    obtain ⟨u1, u2, u3⟩ := findModify_insertRange_spec b0 h k low 65535 hk (Nat.le_of_lt_succ hlow) (by decide)
    simp only [List.range'_succ, List.range'_zero, List.foldl_cons, List.foldl_nil, irStep, Nat.add_zero]
    exact ⟨u1, u2, by rw [u3]⟩
  | succ n ih =>
    intro k b0 low cnt0 h hlow hk
    obtain ⟨u1, u2, u3⟩ := findModify_insertRange_spec b0 h k low 65535
      (Nat.lt_of_le_of_lt (Nat.le_add_right k _) hk) (Nat.le_of_lt_succ hlow) (by decide)
    rw [List.range'_succ, List.foldl_cons]
    -- the first step inserts `[(k, low), (k, 65535)]`, the rest `[(k + 1, 0), (k + n + 1, 65535)]`
    obtain ⟨j1, j2, j3⟩ := ih (k + 1) (findModify k (fun c => c.insertRange low 65535) 0 b0).1 0
      (cnt0 + (findModify k (fun c => c.insertRange low 65535) 0 b0).2) u1 (by decide) (by omega)
    obtain ⟨c1, c2⟩ := Spec.insertIv_comp (elems b0) (sorted_elems b0 h.dir) (k * 65536 + low) (k * 65536 + 65535)
      ((k + (n + 1)) * 65536 + 65535) (Nat.add_le_add_left (Nat.le_of_lt_succ hlow) _) (by omega)
    have e2 := next_chunk k
    have e3 : (k + 1 + n) * 65536 + 65535 = (k + (n + 1)) * 65536 + 65535 := by rw [Nat.add_assoc, Nat.add_comm 1 n]
    rw [u2, e2, e3] at j2 j3
    refine ⟨j1, j2.trans c1, j3.trans ?_⟩
    rw [u3, ← c2]
    exact Nat.add_assoc _ _ _

/-- `insert_range` on `[(sk, sl), (ek, el)]`, any number of chunks spanned -/
theorem irOk_spec (b : Bitmap) (h : b.WF) (sk sl ek el : Nat) (hsl : sl < 65536) (hek : ek < 65536)
    (hel : el < 65536) (hse : sk < ek ∨ sk = ek ∧ sl ≤ el) :
    (irOk b sk sl ek el).1.WF ∧
    elems (irOk b sk sl ek el).1 = (Spec.insertIv (elems b) (sk * 65536 + sl) (ek * 65536 + el)).1 ∧
    (irOk b sk sl ek el).2 = (Spec.insertIv (elems b) (sk * 65536 + sl) (ek * 65536 + el)).2 := by
  unfold irOk
  by_cases hkk : sk = ek
  · subst hkk
    rw [if_pos rfl]
    exact findModify_insertRange_spec b h sk sl el hek (by omega) hel
  · rw [if_neg hkk]
    obtain ⟨n, hn⟩ := Nat.exists_eq_add_of_lt (hse.elim id fun e => absurd e.1 hkk)
    have hspan : ek - sk = n + 1 := by rw [hn, Nat.add_assoc, Nat.add_sub_cancel_left]
    simp only []
    rw [hspan]
    -- the first iteration finds the container `find_container_by_key` may have created
    have hfirst : (List.range' sk (n + 1)).foldl irStep ((findContainerByKey b sk).1, sl, 0) =
        (List.range' sk (n + 1)).foldl irStep (b, sl, 0) := by
      rw [List.range'_succ, List.foldl_cons, List.foldl_cons]
      congr 1
      simp only [irStep, findModify_find _ _ _ b h.dir]
    rw [hfirst]
    obtain ⟨f1, f2, f3⟩ := irFold_spec n sk b sl 0 h hsl (by omega)
    obtain ⟨u1, u2, u3⟩ := findModify_insertRange_spec _ f1 ek 0 el hek (Nat.zero_le _) hel
    have e2 : ek * 65536 + 0 = (sk + n) * 65536 + 65535 + 1 := hn ▸ next_chunk (sk + n)
    obtain ⟨c1, c2⟩ := Spec.insertIv_comp (elems b) (sorted_elems b h.dir) (sk * 65536 + sl)
      ((sk + n) * 65536 + 65535) (ek * 65536 + el)
      (Nat.add_le_add (Nat.mul_le_mul_right _ (Nat.le_add_right sk n)) (Nat.le_of_lt_succ hsl))
      (Nat.le_trans (Nat.le_of_eq e2.symm) (Nat.add_le_add_left (Nat.zero_le el) _))
    rw [e2, f2] at u2 u3
    refine ⟨u1, u2.trans c1, ?_⟩
    rw [u3, f3, Nat.zero_add, ← c2]

/-- inherent.rs:229 `insert_range`, any `RangeBounds` shape, any number of chunks spanned -/
theorem insertRange_spec (b : Bitmap) (h : b.WF) (lo hi : Bound)
    (hlo : Bound.le u32Max lo) (hhi : Bound.le u32Max hi) :
    (insertRange b lo hi).1.WF ∧ elems (insertRange b lo hi).1 = (Spec.insertRange u32Max (elems b) lo hi).1 ∧
    (insertRange b lo hi).2 = (Spec.insertRange u32Max (elems b) lo hi).2 := by
  rw [insertRange_eq]
  unfold Spec.insertRange
  cases hc : convertRange u32Max lo hi with
  | error e =>
    rw [convertRange_error u32Max lo hi hlo hhi e hc]
    exact ⟨h, rfl, rfl⟩
  | ok r =>
    obtain ⟨st, en⟩ := r
    have hiv := convertRange_ok u32Max lo hi hlo hhi st en hc
    rw [hiv]
    obtain ⟨hse, hen, _⟩ := Spec.interval_some u32Max lo hi st en hiv
    have hsl := lo16_lt st
    have hel := lo16_lt en
    have := irOk_spec b h (hi16 st) (lo16 st) (hi16 en) (lo16 en) hsl
      (split_lt en (Nat.lt_succ_of_le hen)).1 hel
      (by rw [← join_le_join hsl hel, join_split, join_split]; exact hse)
    rw [join_split, join_split] at this
    exact this

/-- inherent.rs:317 `push_unchecked`: when the caller's promise holds no debug assertion fires (any `dbg`) -/
theorem pushUnchecked_spec (dbg : Bool) (b : Bitmap) (h : b.WF) (v : Nat) (hv : v < 4294967296)
    (hmax : ∀ x ∈ elems b, x < v) :
    ∃ b', pushUnchecked dbg b v = some b' ∧ b'.WF ∧ elems b' = elems b ++ [v] := by
  obtain ⟨k, x, hx, rfl⟩ := exists_join v
  have hk : k < 65536 := Nat.lt_of_mul_lt_mul_right (a := 65536) (Nat.lt_of_le_of_lt (Nat.le_add_right _ x) hv)
  unfold pushUnchecked
  rw [hi16_join k x hx, lo16_join k x hx]
  obtain ⟨cf, f0, f1, f2, f4⟩ := Container.pushUnchecked_spec dbg (Container.new k)
    (Store.canon_inv _ (Container.new_canon _)) x hx (by simp [Container.new_elems])
  rw [Container.new_elems] at f4
  have hfresh : (∀ d ∈ b, d.key < k) →
      ∃ b', (((Container.new k).pushUnchecked dbg x).map fun c => b ++ [c]) = some b' ∧
        b'.WF ∧ elems b' = elems b ++ [k * 65536 + x] := by
    intro hlt
    have := snoc_pushed b h cf k x [] hk f1 f2 f4 hlt
    exact ⟨b ++ [cf], by rw [f0]; rfl, this.1, by simpa using this.2⟩
  rcases eq_nil_or_snoc b with rfl | ⟨init, c, rfl⟩
  · exact hfresh (by simp)
  · obtain ⟨hinit, hlt, hck, hcan, hne⟩ := (wf_snoc_iff init c).mp h
    have E := (forall_lt_snoc init c h k x hx).mp hmax
    rw [List.getLast?_concat]
    simp only []
    by_cases h1 : c.key = k
    · rw [if_pos h1, List.dropLast_concat]
      obtain ⟨c', q0, q1, q2, q4⟩ := Container.pushUnchecked_spec dbg c (Store.canon_inv _ hcan) x hx
        (E.elim (fun h' => absurd h1 (Nat.ne_of_lt h')) And.right)
      obtain ⟨w1, w2⟩ := snoc_pushed init hinit c' k x c.store.elems hk (q1.trans h1) q2 q4
        (fun d hd => h1 ▸ hlt d hd)
      refine ⟨init ++ [c'], by rw [q0]; rfl, w1, ?_⟩
      rw [w2, elems_append, elems_single, Container.elems, h1]
    · have h3 : c.key < k := E.elim id (fun e => absurd e.1 h1)
      rw [if_neg h1, if_neg (by simp [Nat.lt_asymm h3])]
      exact hfresh (fun d hd => (List.mem_append.mp hd).elim
        (fun hd => Nat.lt_trans (hlt d hd) h3) (fun hd => List.mem_singleton.mp hd ▸ h3))

theorem appendLoop_eq (dbg : Bool) : ∀ (vs : List Nat) (b : Bitmap) (prev count : Nat),
    appendLoop dbg b prev count vs = Spec.appendFrom (pushUnchecked dbg) b (some prev) count vs
  | [], _, _, _ => rfl
  | v :: vs, b, prev, count => by
    rw [appendLoop, Spec.appendFrom]
    refine ite_congr decide_eq_true_eq.symm (fun _ => rfl) fun _ => ?_
    cases pushUnchecked dbg b v with
    | none => rfl
    | some b' => exact appendLoop_eq dbg vs b' v (count + 1)

/-- `append` is the loop started at the maximum: the round it spells out before the loop is a round like the others -/
theorem append_eq (dbg : Bool) (b : Bitmap) (vs : List Nat) :
    append dbg b vs = Spec.appendFrom (pushUnchecked dbg) b (max? b) 0 vs := by
  cases vs with
  | nil => rfl
  | cons first rest =>
    rw [append]
    cases max? b with
    | none =>
      rw [Spec.appendFrom]
      cases pushUnchecked dbg b first with
      | none => rfl
      | some b' => exact appendLoop_eq dbg rest b' first 1
    | some m => exact appendLoop_eq dbg (first :: rest) b m 0

/-- iter.rs `append`: never panics (for either build configuration), accepts exactly the ascending prefix -/
theorem append_spec (dbg : Bool) (b : Bitmap) (h : b.WF) (vs : List Nat) (hvs : ∀ v ∈ vs, v < 4294967296) :
    ∃ b', append dbg b vs = some (b', (Spec.append (elems b) vs).2) ∧ b'.WF ∧
      elems b' = (Spec.append (elems b) vs).1 := by
  rw [append_eq, max?_spec b h]
  exact Spec.appendFrom_spec (pushUnchecked_spec dbg) (fun b h => sorted_elems b h.dir) vs b 0 h hvs

/-- iter.rs `Extend<u32>` / `FromIterator` -/
theorem extend_spec (b : Bitmap) (h : b.WF) (vs : List Nat) (hvs : ∀ v ∈ vs, v < 4294967296) :
    (extend b vs).WF ∧ elems (extend b vs) = Spec.extend (elems b) vs := by
  unfold extend Spec.extend
  induction vs generalizing b with
  | nil => exact ⟨h, rfl⟩
  | cons v vs ih =>
    obtain ⟨i1, i2, _⟩ := insert_spec b h v (hvs v (List.mem_cons_self ..))
    simp only [List.foldl_cons]
    rw [← i2]
    exact ih _ i1 (fun x hx => hvs x (List.mem_cons_of_mem _ hx))

/-- inherent.rs:753 `remove_smallest` for every `n` (also `n ≥ len`) -/
theorem removeSmallest_spec (b : Bitmap) (h : b.WF) (n : Nat) :
    (removeSmallest b n).WF ∧ elems (removeSmallest b n) = Spec.removeSmallest (elems b) n := by
  unfold Spec.removeSmallest
  induction b generalizing n with
  | nil => exact ⟨h, by simp [removeSmallest, elems]⟩
  | cons c cs ih =>
    have hdir := h.dir
    have hc := hdir.2 c (List.mem_cons_self ..)
    have hinv := Store.canon_inv _ hc.2
    have hlen := cLen_eq' c hinv
    unfold removeSmallest
    rw [elems_cons]
    by_cases h1 : c.len ≤ n
    · rw [if_pos h1]
      obtain ⟨i1, i2⟩ := ih h.tail (n - c.len)
      refine ⟨i1, ?_⟩
      have : List.drop n (c.elems ++ elems cs) = List.drop (n - c.len) (elems cs) := by
        rw [List.drop_append, List.drop_eq_nil_of_le (hlen ▸ h1), List.nil_append, hlen]
      rw [i2, this]
    · rw [if_neg h1]
      by_cases h2 : n > 0
      · rw [if_pos h2]
        obtain ⟨r1, r2, r3⟩ := Container.removeSmallest_spec c hc.2 n (Nat.lt_of_not_le h1)
        refine ⟨?_, ?_⟩
        · apply wf_of_dir
          · exact Dir.cons hdir.tail (by rw [r1]; exact hc.1) r2 (by rw [r1]; exact hdir.head_lt)
          · intro d hd
            rcases List.mem_cons.mp hd with hd | hd
            · rw [hd, r3]
              exact fun hnil => h1 (cLen_eq c hinv ▸ List.drop_eq_nil_iff.mp hnil)
            · exact h.ne d (List.mem_cons_of_mem _ hd)
        · rw [elems_cons, List.drop_append_of_le_length (hlen ▸ Nat.le_of_not_le h1)]
          congr 1
          unfold Container.elems; rw [r1, r3, List.map_drop]
      · rw [if_neg h2]
        have : n = 0 := Nat.eq_zero_of_not_pos h2
        subst this
        exact ⟨h, by rw [elems_cons]; rfl⟩

/-- `remove_biggest` walks the containers from the back: stated on the reversed directory -/
theorem removeBiggestRev_spec : ∀ (r : List Container) (n : Nat), WF r.reverse →
    WF (removeBiggestRev r n).reverse ∧
    elems (removeBiggestRev r n).reverse = (elems r.reverse).take ((elems r.reverse).length - n) := by
  intro r
  induction r with
  | nil => intro n h; exact ⟨h, by simp [removeBiggestRev, elems]⟩
  | cons c cs ih =>
    intro n h
    rw [List.reverse_cons] at h
    obtain ⟨hinit, hlt, hck, hcan, hne⟩ := (wf_snoc_iff _ c).mp h
    have hinv := Store.canon_inv _ hcan
    have hlen := cLen_eq' c hinv
    unfold removeBiggestRev
    rw [List.reverse_cons, elems_append, elems_single, List.length_append]
    by_cases h1 : c.len ≤ n
    · rw [if_pos h1]
      obtain ⟨i1, i2⟩ := ih (n - c.len) hinit
      refine ⟨i1, ?_⟩
      rw [i2, List.take_append_of_le_length (Nat.sub_le_of_le_add (Nat.add_le_add_left (hlen ▸ h1) _))]
      congr 1; omega
    · rw [if_neg h1]
      by_cases h2 : n > 0
      · rw [if_pos h2]
        obtain ⟨r1, r2, r3⟩ := Container.removeBiggest_spec c hcan n (Nat.lt_of_not_le h1)
        rw [List.reverse_cons]
        refine ⟨?_, ?_⟩
        · rw [wf_snoc_iff]
          refine ⟨hinit, by rw [r1]; exact hlt, by rw [r1]; exact hck, r2, ?_⟩
          rw [r3]
          intro hnil
          rcases List.take_eq_nil_iff.mp hnil with h0 | h0
          · exact h1 (cLen_eq c hinv ▸ Nat.le_of_sub_eq_zero h0)
          · exact hne h0
        · rw [elems_append, elems_single]
          rw [Nat.add_sub_assoc (hlen ▸ Nat.le_of_lt (Nat.lt_of_not_le h1)), List.take_length_add_append]
          congr 1
          unfold Container.elems; rw [r1, r3, List.map_take, List.length_map]
      · rw [if_neg h2]
        have : n = 0 := Nat.eq_zero_of_not_pos h2
        subst this
        rw [List.reverse_cons]
        refine ⟨h, ?_⟩
        rw [elems_append, elems_single, List.take_of_length_le (by simp)]

/-- inherent.rs:788 `remove_biggest` for every `n` -/
theorem removeBiggest_spec (b : Bitmap) (h : b.WF) (n : Nat) :
    (removeBiggest b n).WF ∧ elems (removeBiggest b n) = Spec.removeBiggest (elems b) n := by
  unfold removeBiggest Spec.removeBiggest
  have := removeBiggestRev_spec b.reverse n (by rw [List.reverse_reverse]; exact h)
  rw [List.reverse_reverse] at this
  exact this

end Bitmap
end Roaring
