import RoaringModel.Lemmas.TreemapIterCursor
/-!
# `treemap::IntoIter` (`FlatMap` + decremented size counter) is a cursor over `IntoIter.rem`
-/
namespace Roaring
namespace TIter
open TL Treemap

variable {K : Inner} (S : InnerSpec K)

def IntoIter.rem (it : IntoIter K) : List Nat := orem S it.front ++ elems it.iter ++ orem S it.back

/-- `fr` / `bk`: the front / back partition cursor of the `FlatMap` is sound -/
structure IntoIter.Inv (it : IntoIter K) : Prop where
  range : RInv S it.iter
  fr : ∀ f, it.front = some f → CInv S f
  bk : ∀ b, it.back = some b → CInv S b
  size : it.sizeHint = (it.rem S).length

theorem len_eq_elems {t : Treemap} (h : RInv S t) : Treemap.len t = (elems t).length :=
  (remaining_eq S h 0).trans (Nat.zero_add _)

theorem IntoIter.new_spec {t : Treemap} (h : WFd S.WF t) :
    (IntoIter.new (K := K) t).Inv S ∧ (IntoIter.new (K := K) t).rem S = elems t :=
  have hrem : (IntoIter.new (K := K) t).rem S = elems t := List.append_nil _
  ⟨⟨.of_WFd S h, nofun, nofun, (len_eq_elems S (.of_WFd S h)).trans (congrArg _ hrem.symm)⟩, hrem⟩

/-- `sh` is the size counter after the decrement `next` performs first -/
theorem flatNext_spec (back : Option (To64 K)) (hb : ∀ b, back = some b → CInv S b) (iter : Treemap) (sh : Nat) :
    RInv S iter → sh = (elems iter ++ orem S back).tail.length →
      (IntoIter.flatNext back sh iter).1.Inv S ∧
      (IntoIter.flatNext back sh iter).1.rem S = (elems iter ++ orem S back).tail ∧
      (IntoIter.flatNext back sh iter).2 = (elems iter ++ orem S back).head? := by
  induction iter with
  | nil =>
    intro _
    unfold IntoIter.flatNext
    cases back with
    | none => exact fun hsh => ⟨⟨RInv.nil S, nofun, nofun, hsh⟩, rfl, rfl⟩
    | some b =>
      have hc := hb b rfl
      cases hv : b.next.2 with
      | none =>
        simp only [hv, Option.isSome_none, Bool.false_eq_true, ↓reduceIte]
        rw [show orem S (some b) = [] from (To64.next_none S hc hv).1]
        exact fun hsh => ⟨⟨RInv.nil S, nofun, nofun, hsh⟩, rfl, rfl⟩
      | some v =>
        simp only [hv, Option.isSome_some, ↓reduceIte]
        rw [show orem S (some b) = v :: crem S b.next.1 from To64.next_some S hc hv]
        exact fun hsh => ⟨⟨RInv.nil S, nofun, fun _ e => Option.some.inj e ▸ (To64.next_spec S hc).1, hsh⟩, rfl, rfl⟩
  | cons p rest ih =>
    intro hr
    unfold IntoIter.flatNext
    have hc := (to64_inv S (hr.parts p (List.mem_cons_self ..))).1
    rw [elems_cons_crem S hr]
    cases hv : (to64 K p).next.2 with
    | some v =>
      simp only [hv]
      rw [To64.next_some S hc hv]
      exact fun hsh => ⟨⟨hr.tail, fun _ e => Option.some.inj e ▸ (To64.next_spec S hc).1, hb, hsh⟩, rfl, rfl⟩
    | none =>
      simp only [hv]
      rw [(To64.next_none S hc hv).1]
      exact ih hr.tail

/-- `into_iter().next()` pops the smallest remaining value and keeps the size counter exact -/
theorem IntoIter.next_spec (it : IntoIter K) (h : it.Inv S) :
    it.next.1.Inv S ∧ it.next.1.rem S = (it.rem S).tail ∧ it.next.2 = (it.rem S).head? := by
  obtain ⟨iter, front, back, sz⟩ := it
  have hsz : sz - 1 = (IntoIter.rem S ⟨iter, front, back, sz⟩).tail.length := by rw [List.length_tail, ← h.size]
  revert hsz
  unfold IntoIter.next
  cases front with
  | none => exact flatNext_spec S back h.bk iter _ h.range
  | some f =>
    have hc := h.fr f rfl
    rw [show IntoIter.rem S ⟨iter, some f, back, sz⟩ = crem S f ++ elems iter ++ orem S back from rfl]
    cases hv : f.next.2 with
    | some v =>
      simp only [hv]
      rw [To64.next_some S hc hv]
      exact fun hsz => ⟨⟨h.range, fun _ e => Option.some.inj e ▸ (To64.next_spec S hc).1, h.bk, hsz⟩, rfl, rfl⟩
    | none =>
      simp only [hv]
      rw [(To64.next_none S hc hv).1]
      exact flatNext_spec S back h.bk iter _ h.range

theorem flatNextBack_spec (front : Option (To64 K)) (hf : ∀ f, front = some f → CInv S f) (riter : Treemap)
    (sh : Nat) : RInv S riter.reverse → sh = (orem S front ++ elems riter.reverse).dropLast.length →
      (IntoIter.flatNextBack front sh riter).1.Inv S ∧
      (IntoIter.flatNextBack front sh riter).1.rem S = (orem S front ++ elems riter.reverse).dropLast ∧
      (IntoIter.flatNextBack front sh riter).2 = (orem S front ++ elems riter.reverse).getLast? := by
  induction riter with
  | nil =>
    intro _
    unfold IntoIter.flatNextBack
    rw [show orem S front ++ elems [].reverse = orem S front from List.append_nil _]
    cases front with
    | none => exact fun hsh => ⟨⟨RInv.nil S, nofun, nofun, hsh⟩, rfl, rfl⟩
    | some f =>
      have hc := hf f rfl
      cases hv : f.nextBack.2 with
      | none =>
        simp only [hv, Option.isSome_none, Bool.false_eq_true, ↓reduceIte]
        rw [show orem S (some f) = [] from (To64.nextBack_none S hc hv).1]
        exact fun hsh => ⟨⟨RInv.nil S, nofun, nofun, hsh⟩, rfl, rfl⟩
      | some v =>
        simp only [hv, Option.isSome_some, ↓reduceIte]
        rw [show orem S (some f) = crem S f.nextBack.1 ++ [v] from To64.nextBack_some S hc hv, List.dropLast_concat,
          List.getLast?_concat]
        have hrem : IntoIter.rem S ⟨[], some f.nextBack.1, none, sh⟩ = crem S f.nextBack.1 := by
          simp [IntoIter.rem, elems]
        exact fun hsh => ⟨⟨RInv.nil S, fun _ e => Option.some.inj e ▸ (To64.nextBack_spec S hc).1, nofun,
          hsh.trans (congrArg _ hrem.symm)⟩, hrem, rfl⟩
  | cons p rrest ih =>
    intro hr
    unfold IntoIter.flatNextBack
    rw [List.reverse_cons] at hr ⊢
    have hc := (to64_inv S (hr.parts p List.mem_concat_self)).1
    rw [elems_concat_crem S hr, ← List.append_assoc]
    cases hv : (to64 K p).nextBack.2 with
    | some v =>
      simp only [hv]
      rw [To64.nextBack_some S hc hv, ← List.append_assoc, List.dropLast_concat, List.getLast?_concat]
      exact fun hsh => ⟨⟨hr.init, hf, fun _ e => Option.some.inj e ▸ (To64.nextBack_spec S hc).1, hsh⟩, rfl, rfl⟩
    | none =>
      simp only [hv]
      rw [(To64.nextBack_none S hc hv).1, List.append_nil]
      exact ih hr.init

/-- `into_iter().next_back()` pops the largest remaining value and keeps the size counter exact -/
theorem IntoIter.nextBack_spec (it : IntoIter K) (h : it.Inv S) :
    it.nextBack.1.Inv S ∧ it.nextBack.1.rem S = (it.rem S).dropLast ∧ it.nextBack.2 = (it.rem S).getLast? := by
  obtain ⟨iter, front, back, sz⟩ := it
  have hsz : sz - 1 = (IntoIter.rem S ⟨iter, front, back, sz⟩).dropLast.length := by
    rw [List.length_dropLast, ← h.size]
  have flat := flatNextBack_spec S front h.fr iter.reverse (sz - 1)
  rw [List.reverse_reverse] at flat
  revert hsz
  unfold IntoIter.nextBack
  cases back with
  | none =>
    rw [show IntoIter.rem S ⟨iter, front, none, sz⟩ = orem S front ++ elems iter from List.append_nil _]
    exact flat h.range
  | some b =>
    have hc := h.bk b rfl
    rw [show IntoIter.rem S ⟨iter, front, some b, sz⟩ = orem S front ++ elems iter ++ crem S b from rfl]
    cases hv : b.nextBack.2 with
    | some v =>
      simp only [hv]
      rw [To64.nextBack_some S hc hv, ← List.append_assoc, List.dropLast_concat, List.getLast?_concat]
      exact fun hsz => ⟨⟨h.range, h.fr, fun _ e => Option.some.inj e ▸ (To64.nextBack_spec S hc).1, hsz⟩, rfl, rfl⟩
    | none =>
      simp only [hv]
      rw [(To64.nextBack_none S hc hv).1, List.append_nil]
      exact flat h.range

/-- `into_iter().size_hint()` is exact (both components) while the count is below `usize::MAX` -/
theorem IntoIter.sizeHint_spec (it : IntoIter K) (h : it.Inv S) (hfit : (it.rem S).length < usizeMax) :
    it.sizeHintPair = ((it.rem S).length, some (it.rem S).length) := by
  unfold IntoIter.sizeHintPair; rw [h.size, if_pos hfit]

end TIter
end Roaring
