import RoaringModel.TreemapSer
import RoaringModel.Lemmas.SpecRoundTrip
import RoaringModel.Lemmas.IOLemmas
import RoaringModel.Lemmas.TreemapDir
/-!
# `RoaringTreemap` serialization: the 32-bit codec lemmas lifted through the bucket loop

Everything here is *generic in the 32-bit facts*: the loop `decodeParts` is prefix-monotone / panic-free /
reader-independent because the 32-bit decoder is (`Lemmas/Parser.lean`); it preserves a partition-level
invariant because the 32-bit decoder establishes `wf32` (`Post`).  `Lemmas/TreemapCodecWF.lean` and the property
files instantiate `wf32 := Bitmap.WF` with the 32-bit theorems (`C05_size`, `post_deserialize`) and
replace `SerWF Bitmap.WF` by the equivalent directory invariant `WFd Bitmap.WF` (`serWF_iff`).
-/
namespace Roaring
namespace Treemap
open Parser TL

/-- the bucket payload of `serialize` -/
def bucketBytes (t : Treemap) : List Nat := t.flatMap fun p => u32le p.1 ++ Bitmap.serialize p.2

theorem serialize_eq (t : Treemap) : serialize t = u64le t.length ++ bucketBytes t := rfl

/-- well-formedness of a treemap as the codec sees it, relative to a 32-bit invariant `wf32`: keys strictly
    ascending `u32`s, every partition `wf32` and not the empty bitmap (the `Prop` form of `treemapWF` in
    Driver/Treemap.lean).  Implied by the directory invariant `WFd` of `Lemmas/TreemapDir.lean`. -/
structure SerWF (wf32 : Bitmap → Prop) (t : Treemap) : Prop where
  sorted : KeysSorted t
  parts : ∀ p ∈ t, p.1 < 4294967296 ∧ wf32 p.2 ∧ p.2 ≠ []

theorem SerWF.nil {wf32 : Bitmap → Prop} : SerWF wf32 [] :=
  ⟨List.Pairwise.nil, fun _ h => nomatch h⟩

theorem SerWF.of_WFd {wf32 : Bitmap → Prop} {t : Treemap} (h : WFd wf32 t) : SerWF wf32 t :=
  ⟨h.sorted, fun p hp => ⟨(h.parts p hp).1, (h.parts p hp).2.1, fun he => (h.parts p hp).2.2 (by rw [he]; rfl)⟩⟩

/-- the converse, given that a non-empty `wf32` bitmap has an element -/
theorem SerWF.to_WFd {wf32 : Bitmap → Prop} {t : Treemap} (h : SerWF wf32 t)
    (hne : ∀ b, wf32 b → b ≠ [] → Bitmap.elems b ≠ []) : WFd wf32 t :=
  ⟨h.sorted, fun p hp => ⟨(h.parts p hp).1, (h.parts p hp).2.1, hne _ (h.parts p hp).2.1 (h.parts p hp).2.2⟩⟩

theorem SerWF.length_lt {wf32 : Bitmap → Prop} {t : Treemap} (h : SerWF wf32 t) : t.length ≤ 4294967296 := by
  have := (Arr.sorted_bounded_length (keys t) h.sorted 0 4294967296 fun x hx => by
    obtain ⟨p, hp, rfl⟩ := List.mem_map.mp hx
    exact ⟨Nat.zero_le _, (Nat.zero_add _).symm ▸ (h.parts p hp).1⟩).1
  rwa [keys, List.length_map] at this

theorem SerWF.insertKV {wf32 : Bitmap → Prop} {t : Treemap} (h : SerWF wf32 t) {k : Nat} {b : Bitmap}
    (hk : k < 4294967296) (hb : wf32 b) (hne : b ≠ []) : SerWF wf32 (insertKV t k b) := by
  refine ⟨keysSorted_insertKV k b h.sorted, ?_⟩
  intro p hp
  rcases mem_insertKV hp with rfl | hp
  · exact ⟨hk, hb, hne⟩
  · exact h.parts p hp

theorem foldl_size (t : Treemap) (a : Nat) :
    t.foldl (fun acc p => acc + 4 + Bitmap.serializedSize p.2) a
      = a + (t.map fun p => 4 + Bitmap.serializedSize p.2).sum := by
  induction t generalizing a with
  | nil => simp
  | cons p t ih => simp only [List.foldl_cons, ih, List.map_cons, List.sum_cons]; omega

theorem bucketBytes_length (t : Treemap) :
    (bucketBytes t).length = (t.map fun p => 4 + (Bitmap.serialize p.2).length).sum := by
  induction t with
  | nil => rfl
  | cons p t ih =>
    simp only [bucketBytes, List.flatMap_cons, List.length_append, u32le_length, List.map_cons, List.sum_cons] at ih ⊢
    rw [ih]

theorem serialize_length (t : Treemap)
    (h : ∀ p ∈ t, (Bitmap.serialize p.2).length = Bitmap.serializedSize p.2) :
    (serialize t).length = serializedSize t := by
  rw [serialize_eq, List.length_append, u64le_length, bucketBytes_length, serializedSize, foldl_size]
  congr 2
  apply List.map_congr_left
  intro p hp
  rw [h p hp]

section
variable {σ' σ : Type} {R' : Nat → Parser σ' (List Nat)} {R : Nat → Parser σ (List Nat)} {ok : DecErr → Prop}
  (hok : ∀ e, e ≠ .panic → ok e)
include hok

theorem same_decodeParts (chk dbg : Bool) (hp : chk = false → dbg = true → ok .panic) (n : Nat) :
    ∀ acc : Treemap, Same R' R ok (decodeParts R' chk dbg n acc) (decodeParts R chk dbg n acc) := by
  induction n with
  | zero => exact fun acc => .pure acc
  | succ n ih =>
    exact fun acc => .bind (.read 4) fun _ => .bind (Parser.same_deserializeG hok chk dbg hp) fun _ => ih _

theorem same_deserializeG (chk dbg : Bool) (hp : chk = false → dbg = true → ok .panic) :
    Same R' R ok (Treemap.deserializeG R' chk dbg) (Treemap.deserializeG R chk dbg) :=
  .bind (.read 8) fun _ => same_decodeParts hok chk dbg hp _ _

end

theorem mono_deserializeG (chk dbg : Bool) : Mono (Treemap.deserializeG readN chk dbg) :=
  mono_closed.of_same mono_readN (same_deserializeG (ok := fun _ => True) (fun _ _ => trivial) chk dbg fun _ _ => trivial)

section
variable {σ : Type} {R : Nat → Parser σ (List Nat)}

theorem np_deserializeG (hR : ∀ n, NoPanic (R n)) (dbg : Bool) : NoPanic (Treemap.deserializeG R true dbg) :=
  np_closed.of_same hR (same_deserializeG (fun _ he => he) true dbg nofun)

variable {σ' : Type} {π : σ' → σ} {R' : Nat → Parser σ' (List Nat)}

theorem sim_deserializeG (hR : ∀ n, Sim π (R' n) (R n)) (chk dbg : Bool) :
    Sim π (Treemap.deserializeG R' chk dbg) (Treemap.deserializeG R chk dbg) :=
  (same_deserializeG (ok := fun _ => True) (fun _ _ => trivial) chk dbg fun _ _ => trivial).sim hR
end

theorem post_decodeParts {wf32 : Bitmap → Prop} (chk dbg : Bool)
    (hP : Post wf32 (Roaring.deserializeG readN chk dbg)) (n : Nat) (acc : Treemap) (hacc : SerWF wf32 acc) :
    Post (SerWF wf32) (decodeParts readN chk dbg n acc) := by
  induction n generalizing acc with
  | zero => exact postG_pure _ hacc
  | succ n ih =>
    unfold decodeParts
    apply postG_bind _ _ (post_readN 4); intro kb ⟨hlen, hkb⟩
    apply postG_bind _ _ hP; intro b hb
    apply ih
    split
    · exact hacc
    · rename_i hne
      have hk : leVal kb < 256 ^ 4 := hlen ▸ leVal_lt kb hkb
      exact hacc.insertKV hk hb (by intro he; apply hne; rw [he]; rfl)

theorem post_deserializeG {wf32 : Bitmap → Prop} (chk dbg : Bool)
    (hP : Post wf32 (Roaring.deserializeG readN chk dbg)) :
    Post (SerWF wf32) (Treemap.deserializeG readN chk dbg) := by
  unfold Treemap.deserializeG
  apply postG_bind _ _ (post_readN 8); intro sb _
  exact post_decodeParts chk dbg hP _ _ SerWF.nil

theorem serializeFields_flatten (t : Treemap) : (serializeFields t).flatten = serialize t := by
  unfold serializeFields
  rw [List.flatten_cons, serialize_eq]
  congr 1
  induction t with
  | nil => rfl
  | cons p t ih =>
    simp only [List.flatMap_cons, List.flatten_append, List.flatten_cons, bucketBytes,
      Bitmap.serializeFields_flatten] at ih ⊢
    rw [ih]

end Treemap
end Roaring
