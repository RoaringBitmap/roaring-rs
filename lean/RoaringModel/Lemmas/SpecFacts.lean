import RoaringModel.Spec
import RoaringModel.Lemmas.ArrFacts
import RoaringModel.Inv
import RoaringModel.Lemmas.RangeLemmas
/-!
# Facts about the SPEC operations (sets as strictly ascending lists)

Membership laws and sortedness of `Spec.insert / remove / insertIv / removeIv`, and `Spec.push` as `Arr.push`; together
with `Arr.sorted_ext` they are what turns
"the model's result has these members" into "the model's result *is* the spec's result".
-/
namespace Roaring
namespace Spec

theorem contains_eq (s : List Nat) (v : Nat) : s.contains v = decide (v ∈ s) := by
  simp

theorem mem_insert (s : List Nat) (v x : Nat) : x ∈ (insert s v).1 ↔ x = v ∨ x ∈ s := by
  unfold insert
  by_cases h : v ∈ s
  · simp only [contains_eq, h, decide_true, if_true]
    exact ⟨Or.inr, fun hx => hx.elim (· ▸ h) id⟩
  · simp only [contains_eq, h, decide_false, Bool.false_eq_true, if_false]
    rw [List.append_cons, Arr.mem_splice, List.mem_singleton]
    exact or_congr_right ⟨And.left, fun hx => ⟨hx, Nat.lt_or_gt_of_ne fun e => h (e ▸ hx)⟩⟩

theorem mem_extend (vs : List Nat) : ∀ (s : List Nat) (x : Nat), x ∈ extend s vs ↔ x ∈ s ∨ x ∈ vs := by
  unfold extend
  induction vs with
  | nil => exact fun s x => (or_iff_left (List.not_mem_nil (a := x))).symm
  | cons v vs ih =>
    intro s x
    rw [List.foldl_cons, ih, mem_insert, List.mem_cons]
    exact or_assoc.trans or_left_comm

theorem sorted_insert (s : List Nat) (h : Roaring.Sorted s) (v : Nat) : Roaring.Sorted (insert s v).1 := by
  unfold insert
  by_cases hv : v ∈ s
  · simp only [contains_eq, hv, decide_true, if_true]; exact h
  · simp only [contains_eq, hv, decide_false, Bool.false_eq_true, if_false]
    rw [List.append_cons]
    refine Arr.sorted_splice s h v v [v] (List.pairwise_singleton _ _) (fun x hx => ?_) (Nat.le_refl v)
    rw [List.mem_singleton.mp hx]
    exact ⟨Nat.le_refl v, Nat.le_refl v⟩

theorem insert_ret (s : List Nat) (v : Nat) : (insert s v).2 = !decide (v ∈ s) := by
  simp [insert]

theorem mem_remove (s : List Nat) (v x : Nat) : x ∈ (remove s v).1 ↔ x ∈ s ∧ x ≠ v := by
  simp [remove, List.mem_filter]

theorem sorted_remove (s : List Nat) (h : Roaring.Sorted s) (v : Nat) : Roaring.Sorted (remove s v).1 :=
  Arr.sorted_filter h _

theorem remove_ret (s : List Nat) (v : Nat) : (remove s v).2 = decide (v ∈ s) := by
  simp [remove]

theorem mem_insertIv (s : List Nat) (a b x : Nat) (hab : a ≤ b) :
    x ∈ (insertIv s a b).1 ↔ (a ≤ x ∧ x ≤ b) ∨ x ∈ s :=
  Arr.mem_splice_range s a b x hab

theorem sorted_insertIv (s : List Nat) (h : Roaring.Sorted s) (a b : Nat) (hab : a ≤ b) :
    Roaring.Sorted (insertIv s a b).1 :=
  Arr.sorted_splice_range s h a b hab

theorem mem_removeIv (s : List Nat) (a b x : Nat) :
    x ∈ (removeIv s a b).1 ↔ x ∈ s ∧ ¬ (a ≤ x ∧ x ≤ b) := by
  simp only [removeIv, List.mem_filter, Bool.or_eq_true, decide_eq_true_eq]
  constructor
  · rintro ⟨hx, h⟩; exact ⟨hx, by omega⟩
  · rintro ⟨hx, h⟩; exact ⟨hx, by omega⟩

theorem sorted_removeIv (s : List Nat) (h : Roaring.Sorted s) (a b : Nat) : Roaring.Sorted (removeIv s a b).1 :=
  Arr.sorted_filter h _

/-- `removeIv` keeps what is not in `[a, b]` and counts what is -/
theorem removeIv_eq (s : List Nat) (a b : Nat) :
    removeIv s a b = (s.filter (fun x => !(decide (a ≤ x) && decide (x ≤ b))),
      (s.filter (fun x => decide (a ≤ x) && decide (x ≤ b))).length) := by
  unfold removeIv
  refine Prod.ext (List.filter_congr fun x _ => ?_) rfl
  rw [Bool.not_and, ← decide_not, ← decide_not]
  exact congr (congrArg _ (decide_eq_decide.mpr Nat.not_le.symm)) (decide_eq_decide.mpr Nat.not_le.symm)

theorem push_eq (s : List Nat) (v : Nat) (h : Roaring.Sorted s) :
    push s v = if (∀ x ∈ s, x < v) then (s ++ [v], true) else (s, false) := by
  rw [← Arr.push_eq s h v]
  unfold push Arr.push Arr.max?
  cases hl : s.getLast? with
  | none => rw [List.getLast?_eq_none_iff.mp hl]; rfl
  | some m => rfl


/-! ### counting in an interval; `insertIv` on `[a, m]` then `[m + 1, b]` -/

theorem filter_split (l : List Nat) (p : Nat → Bool) :
    (l.filter p).length + (l.filter (fun x => !p x)).length = l.length := by
  have := Arr.length_filter_add l p (fun x => !p x) (fun _ => true) (fun x => by cases p x <;> simp)
  rwa [List.filter_eq_self.mpr (fun _ _ => rfl)] at this

theorem count_split (l : List Nat) (a z : Nat) (h : a ≤ z) :
    (l.filter (fun x => decide (a ≤ x) && decide (x ≤ z))).length + (l.filter (· < a)).length
      = (l.filter (· ≤ z)).length :=
  Arr.length_filter_add l _ _ _ (fun x => by
    by_cases h1 : a ≤ x <;> by_cases h2 : x ≤ z <;> simp [h1, h2] <;> omega)

theorem count_eq_iff (s : List Nat) (hs : Roaring.Sorted s) (a b : Nat) (hab : a ≤ b) :
    (s.filter (fun x => decide (a ≤ x) && decide (x ≤ b))).length = b - a + 1 ↔
      ∀ x, a ≤ x → x ≤ b → x ∈ s := by
  have := Arr.interval_count_eq_iff s hs a (b - a + 1)
  rw [show a + (b - a + 1) = b + 1 by omega] at this
  simpa only [Nat.lt_succ_iff] using this

theorem filter_three (s : List Nat) (a b : Nat) (hab : a ≤ b) :
    (s.filter (· < a)).length + (s.filter (fun x => decide (a ≤ x) && decide (x ≤ b))).length +
      (s.filter (b < ·)).length = s.length := by
  have h1 := count_split s a b hab
  have h2 := filter_split s (· ≤ b)
  have e : (fun x => !decide (x ≤ b)) = (fun x => decide (b < x)) := by
    funext x; by_cases h : x ≤ b <;> simp [h]; omega
  rw [e] at h2
  omega

theorem insertIv_length (s : List Nat) (hs : Roaring.Sorted s) (a b : Nat) (hab : a ≤ b) :
    (Spec.insertIv s a b).1.length = s.length + (Spec.insertIv s a b).2 := by
  simp only [Spec.insertIv, List.length_append, List.length_range']
  have h3 := filter_three s a b hab
  have hb := Arr.rangeCount_le s hs a b hab
  omega

theorem insertIv_comp (s : List Nat) (hs : Roaring.Sorted s) (a m b : Nat) (h1 : a ≤ m) (h2 : m + 1 ≤ b) :
    (Spec.insertIv (Spec.insertIv s a m).1 (m + 1) b).1 = (Spec.insertIv s a b).1 ∧
    (Spec.insertIv s a m).2 + (Spec.insertIv (Spec.insertIv s a m).1 (m + 1) b).2 = (Spec.insertIv s a b).2 := by
  have hab : a ≤ b := Nat.le_trans h1 (Nat.le_of_succ_le h2)
  have hs1 := Spec.sorted_insertIv s hs a m h1
  have e : (Spec.insertIv (Spec.insertIv s a m).1 (m + 1) b).1 = (Spec.insertIv s a b).1 := by
    apply Arr.sorted_ext _ _ (Spec.sorted_insertIv _ hs1 _ _ h2) (Spec.sorted_insertIv s hs a b hab)
    intro x
    rw [Spec.mem_insertIv _ _ _ _ h2, Spec.mem_insertIv _ _ _ _ h1, Spec.mem_insertIv _ _ _ _ hab, ← or_assoc]
    -- `[a, m]` and `[m + 1, b]` make up `[a, b]`
    exact or_congr_left (by omega)
  refine ⟨e, ?_⟩
  have l1 := insertIv_length s hs a m h1
  have l2 := insertIv_length _ hs1 (m + 1) b h2
  have l3 := insertIv_length s hs a b hab
  rw [e] at l2
  omega

/-! ### `append` over any container with a `push_unchecked` -/

/-- the `for value in iterator` loop of `append` (iter.rs, treemap/iter.rs:541), the function that appends a value left
    open: `prev` is the last value accepted, at the start the maximum; `none`, an empty container, lets the first
    value pass, as `ascPrefix` does -/
def appendFrom {α : Type} (push : α → Nat → Option α) : α → Option Nat → Nat → List Nat → Option (α × Except Nat Nat)
  | a, _, count, [] => some (a, .ok count)
  | a, prev, count, v :: vs =>
    if prev.any (v ≤ ·) then some (a, .error count)
    else (push a v).bind fun a' => appendFrom push a' (some v) (count + 1) vs

/-- the result value of `append` when `acc` of `vs` were accepted after `count` earlier ones; the count comes second so
    that at `count = 0` this unfolds to the second component of `Spec.append` -/
def appendRes (count : Nat) (acc vs : List Nat) : Except Nat Nat :=
  if acc.length = vs.length then .ok (acc.length + count) else .error (acc.length + count)

theorem appendRes_cons (count v w : Nat) (acc vs : List Nat) :
    appendRes count (v :: acc) (w :: vs) = appendRes (count + 1) acc vs := by
  have e : acc.length + 1 + count = acc.length + (count + 1) := by rw [Nat.add_assoc, Nat.add_comm 1]
  unfold appendRes
  simp only [List.length_cons, Nat.add_right_cancel_iff, e]

/-- the test of `ascPrefix`, for both shapes of `prev?` -/
theorem ascPrefix_cons (p : Option Nat) (v : Nat) (vs : List Nat) :
    ascPrefix p (v :: vs) = if p.any (v ≤ ·) then [] else v :: ascPrefix (some v) vs := by
  cases p with
  | none => rfl
  | some m => simp only [ascPrefix, Option.any_some, decide_eq_true_eq, ← Nat.not_lt, ite_not]

/-- a value that passes the test against the last entry of an ascending list is above all of it -/
theorem forall_lt_of_last {s : List Nat} (hs : Roaring.Sorted s) {v : Nat} (h : ¬ s.getLast?.any (v ≤ ·) = true) :
    ∀ x ∈ s, x < v := by
  cases hl : s.getLast? with
  | none =>
    rw [List.getLast?_eq_none_iff.mp hl]
    nofun
  | some m =>
    rw [hl] at h
    exact fun x hx => Nat.lt_of_le_of_lt ((Arr.getLast?_sorted s hs m hl).2 x hx)
      (Nat.not_le.mp fun h' => h (decide_eq_true h'))

/-- **`append`**, for any container whose `push` appends a value above the maximum: started at the maximum it accepts
    the ascending prefix.  The invariant is `prev = (el a).getLast?`; at `count = 0` the result is `Spec.append (el a) vs`,
    by unfolding. -/
theorem appendFrom_spec {α : Type} {WF : α → Prop} {el : α → List Nat} {N : Nat} {push : α → Nat → Option α}
    (hpush : ∀ a, WF a → ∀ v, v < N → (∀ x ∈ el a, x < v) → ∃ a', push a v = some a' ∧ WF a' ∧ el a' = el a ++ [v])
    (hsorted : ∀ a, WF a → Roaring.Sorted (el a)) (vs : List Nat) (a : α) (count : Nat) (h : WF a)
    (hvs : ∀ v ∈ vs, v < N) :
    ∃ a', appendFrom push a (el a).getLast? count vs =
        some (a', appendRes count (ascPrefix (el a).getLast? vs) vs) ∧ WF a' ∧
      el a' = el a ++ ascPrefix (el a).getLast? vs := by
  induction vs generalizing a count with
  | nil => exact ⟨a, by simp [appendFrom, appendRes, ascPrefix], h, (List.append_nil _).symm⟩
  | cons v vs ih =>
    obtain ⟨hv, hvs⟩ := List.forall_mem_cons.1 hvs
    rw [appendFrom, ascPrefix_cons]
    by_cases ht : (el a).getLast?.any (v ≤ ·) = true
    · rw [if_pos ht, if_pos ht]
      exact ⟨a, by simp [appendRes], h, (List.append_nil _).symm⟩
    · obtain ⟨a1, e1, w1, l1⟩ := hpush a h v hv (forall_lt_of_last (hsorted a h) ht)
      obtain ⟨a', e2, w2, l2⟩ := ih a1 (count + 1) w1 hvs
      rw [l1, List.getLast?_concat] at e2 l2
      rw [if_neg ht, if_neg ht, e1, appendRes_cons]
      exact ⟨a', e2, w2, by rw [l2, List.append_assoc]; rfl⟩

end Spec
end Roaring
