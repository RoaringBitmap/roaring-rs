import RoaringModel.SpecMulti
import RoaringModel.Lemmas.AlgebraSpec
/-!
# Spec-side lemmas for C09: folds of the two-pointer set operations

The membership and sortedness laws of the binary operations are those of `Lemmas/AlgebraSpec.lean`
(`Spec.mem_sOr` …), sorted-list extensionality is `Arr.sorted_ext`.
-/
namespace Roaring.Multi.SpecL
open Roaring Roaring.Spec

/-- `⊕` in the form the membership connective `PXor` of the merge algorithms has -/
theorem mem_sXor_iff (a b : List Nat) (ha : Sorted a) (hb : Sorted b) (x : Nat) :
    x ∈ sXor a b ↔ ¬ (x ∈ a ↔ x ∈ b) := by
  rw [mem_sXor a b ha hb]
  by_cases h1 : x ∈ a <;> by_cases h2 : x ∈ b <;> simp [h1, h2]

theorem mem_foldl_sOr (l : List (List Nat)) : ∀ (a : List Nat) (x : Nat),
    x ∈ l.foldl sOr a ↔ x ∈ a ∨ ∃ b ∈ l, x ∈ b := by
  induction l with
  | nil => intro a x; simp
  | cons b l ih =>
    intro a x
    simp only [List.foldl_cons, ih, mem_sOr, List.mem_cons, exists_eq_or_imp]
    exact or_assoc

theorem sorted_foldl {sop : List Nat → List Nat → List Nat}
    (hsop : ∀ a b, Sorted a → Sorted b → Sorted (sop a b)) (l : List (List Nat)) :
    ∀ (a : List Nat), Sorted a → (∀ b ∈ l, Sorted b) → Sorted (l.foldl sop a) := by
  induction l with
  | nil => intro a ha _; exact ha
  | cons b l ih =>
    intro a ha hl
    exact ih _ (hsop a b ha (hl b (List.mem_cons_self ..))) (fun b' hb' => hl b' (List.mem_cons_of_mem _ hb'))

theorem mem_foldl_sAnd (l : List (List Nat)) : ∀ (a : List Nat), Sorted a → (∀ b ∈ l, Sorted b) → ∀ x,
    (x ∈ l.foldl sAnd a ↔ x ∈ a ∧ ∀ b ∈ l, x ∈ b) := by
  induction l with
  | nil => intro a _ _ x; simp
  | cons b l ih =>
    intro a ha hl x
    have hb := hl b (List.mem_cons_self ..)
    simp only [List.foldl_cons]
    rw [ih _ (sorted_sAnd a b ha hb) (fun b' hb' => hl b' (List.mem_cons_of_mem _ hb')), mem_sAnd a b ha hb]
    simp only [List.mem_cons, forall_eq_or_imp]
    exact and_assoc

theorem foldl_sOr_ext {a a' : List Nat} {l l' : List (List Nat)} (ha : Sorted a) (ha' : Sorted a')
    (hl : ∀ b ∈ l, Sorted b) (hl' : ∀ b ∈ l', Sorted b)
    (h : ∀ x, (x ∈ a ∨ ∃ b ∈ l, x ∈ b) ↔ (x ∈ a' ∨ ∃ b ∈ l', x ∈ b)) : l.foldl sOr a = l'.foldl sOr a' :=
  Arr.sorted_ext _ _ (sorted_foldl sorted_sOr l a ha hl) (sorted_foldl sorted_sOr l' a' ha' hl') fun x => by
    rw [mem_foldl_sOr, mem_foldl_sOr]; exact h x

/-- the multi-operand `∩` does not depend on the order of the operands (this is what makes the
    sort-by-container-count of `try_multi_and_*` harmless, whatever the unstable sort does with ties) -/
theorem multi_and_perm : ∀ {l l' : List (List Nat)}, l.Perm l' → (∀ b ∈ l, Sorted b) →
    Spec.multi .and l = Spec.multi .and l'
  | [], _, hp, _ => by rw [hp.nil_eq]
  | _ :: _, [], hp, _ => nomatch hp.eq_nil
  | a :: l, a' :: l', hp, hs => by
    have hs' : ∀ b ∈ a' :: l', Sorted b := fun b hb => hs b (hp.mem_iff.2 hb)
    obtain ⟨ha, hl⟩ := List.forall_mem_cons.1 hs
    obtain ⟨ha', hl'⟩ := List.forall_mem_cons.1 hs'
    refine Arr.sorted_ext _ _ (sorted_foldl sorted_sAnd l a ha hl) (sorted_foldl sorted_sAnd l' a' ha' hl') fun x => ?_
    show x ∈ l.foldl sAnd a ↔ x ∈ l'.foldl sAnd a'
    rw [mem_foldl_sAnd l a ha hl, mem_foldl_sAnd l' a' ha' hl', ← List.forall_mem_cons (p := (x ∈ ·)),
      ← List.forall_mem_cons (p := (x ∈ ·))]
    exact ⟨fun h b hb => h b (hp.mem_iff.2 hb), fun h b hb => h b (hp.mem_iff.1 hb)⟩

end Roaring.Multi.SpecL
