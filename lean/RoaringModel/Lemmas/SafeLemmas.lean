import RoaringModel.Safe
import RoaringModel.Lemmas.BStoreRange
import RoaringModel.Lemmas.ArrFacts
import RoaringModel.Lemmas.StoreFacts
import RoaringModel.Lemmas.BitmapQuery
import RoaringModel.Lemmas.BitmapMut2
import RoaringModel.Lemmas.SpecFacts
import RoaringModel.Lemmas.BIterLemmas
import RoaringModel.Lemmas.ContainerFacts
import RoaringModel.Lemmas.Radix
import RoaringModel.Lemmas.CodecWF
/-!
# The `Safe_*` side conditions follow from well-formedness (C16)

For every predicate of `RoaringModel/Safe.lean` (except `Arr.Safe_removeN`, which is the hypothesis `n ≤ c.len` of its
two callers `Container.safe_removeSmallest` / `safe_removeBiggest`): a theorem `safe_…` deriving it from the structural
invariant of the receiver (`BStore.Inv`, `Arr.Inv`, `Store.WF`, `Bitmap.WF`) and the range of the arguments (`u16` index, `s ≤ e`, …).
The index arithmetic (`wbit_lt`, `BStore.Inv.wkey_lt`, `Bitmap.lo16_lt`, the (high, low) order facts of `Radix`) keeps
`wkey` / `lo16` opaque in the proofs below; a loop counter is carried by `counter_step`; of a chunk list the arithmetic
needs only `Bitmap.StoresInv` (every store structurally valid), which also holds of the intermediate states of the loops.
-/
namespace Roaring

/-! ## word level -/

/-- a range of `u16` values has at most `2^16` of them -/
theorem range_len_le {s e : Nat} (he : e < 65536) : e - s + 1 ≤ 65536 :=
  Nat.succ_le_of_lt (Nat.lt_of_le_of_lt (Nat.sub_le _ _) he)

theorem ite_le {p : Prop} [Decidable p] {a b n : Nat} (ha : a ≤ n) (hb : b ≤ n) : (if p then a else b) ≤ n := by
  split <;> assumption

theorem ite_intro {p : Prop} [Decidable p] {A B : Prop} (ha : p → A) (hb : ¬ p → B) : if p then A else B := by
  split
  · exact ha ‹_›
  · exact hb ‹_›

theorem sub_lt_of_wkey_eq {s e : Nat} (h : wkey s = wkey e) : e - s < 64 := by
  unfold wkey at h
  rw [← Nat.div_add_mod s 64, ← Nat.div_add_mod e 64, h, Nat.add_sub_add_left]
  exact Nat.lt_of_le_of_lt (Nat.sub_le _ _) (Nat.mod_lt _ (by decide))

/-- one step of a loop whose counter grows by at most `B` per item, `n + 1` items to go -/
theorem counter_step {acc x B n M : Nat} (hx : x ≤ B) (h : acc + B * (n + 1) < M) : acc + x + B * n < M := by
  rw [Nat.mul_add_one, ← Nat.add_assoc] at h
  exact Nat.lt_of_le_of_lt (Nat.add_le_add_right (Nat.add_le_add_left hx _) _) (Nat.add_right_comm acc _ _ ▸ h)

theorem foldl_add_le {α : Type} (f : α → Nat) (B : Nat) (l : List α) (acc : Nat) (h : ∀ x ∈ l, f x ≤ B) :
    l.foldl (fun acc x => acc + f x) acc ≤ acc + B * l.length := by
  induction l generalizing acc with
  | nil => exact Nat.le_refl _
  | cons x l ih =>
    obtain ⟨hx, hl⟩ := List.forall_mem_cons.1 h
    rw [List.foldl_cons, List.length_cons, Nat.mul_add_one, Nat.add_comm _ B, ← Nat.add_assoc]
    exact Nat.le_trans (ih _ hl) (Nat.add_le_add_right (Nat.add_le_add_left hx _) _)

theorem ne_zero_of_lt_popcount {w n : Nat} (h : n < popcount w) : w ≠ 0 := by
  rintro rfl
  rw [popcount_zero] at h
  exact Nat.not_lt_zero _ h

theorem popcount_popLow (w : Nat) (hw : w < 2^64) : popcount (popLow w) = popcount w - 1 := by
  rw [popcount_eq_length_bitPos _ (popLow_lt _ hw), popcount_eq_length_bitPos w hw, BStore.bitPos_popLow w hw, List.length_tail]

theorem popcount_popHigh (w : Nat) (hw : w < 2^64) : popcount (popHigh w) = popcount w - 1 := by
  rw [popcount_eq_length_bitPos _ (popHigh_lt _ hw), popcount_eq_length_bitPos w hw, BStore.bitPos_popHigh w hw,
    List.length_dropLast]

/-- `value &= value - 1` may run `popcount value` times -/
theorem safe_popLowN (n w : Nat) (hw : w < 2^64) (hn : n ≤ popcount w) : Safe_popLowN w n := by
  induction n generalizing w with
  | zero => trivial
  | succ n ih =>
    refine ⟨ne_zero_of_lt_popcount hn, ih (popLow w) (popLow_lt _ hw) ?_⟩
    rw [popcount_popLow w hw]
    exact Nat.le_sub_one_of_lt hn

/-- clearing the highest set bit may run `popcount word` times -/
theorem safe_popHighN (n w : Nat) (hw : w < 2^64) (hn : n ≤ popcount w) : Safe_popHighN w n := by
  induction n generalizing w with
  | zero => trivial
  | succ n ih =>
    have h0 := ne_zero_of_lt_popcount hn
    refine ⟨h0, hiBit_lt w h0 hw, ih (popHigh w) (popHigh_lt _ hw) ?_⟩
    rw [popcount_popHigh w hw]
    exact Nat.le_sub_one_of_lt hn

/-- a list of at least 16 values has a first and a last one: the two `unwrap()`s in the summary branch of `Debug` -/
theorem exists_head_getLast {s : List Nat} (h : ¬ s.length < 16) :
    ∃ lo hi, s.head? = some lo ∧ s.getLast? = some hi :=
  have hne : s ≠ [] := fun e => h (e ▸ by decide)
  ⟨_, _, List.head?_eq_some_head hne, List.getLast?_eq_some_getLast hne⟩

/-! ## lengths of strictly ascending lists (the values of both kinds of store) -/

theorem Arr.length_le (v : List Nat) (hv : Arr.Inv v) : v.length ≤ 65536 :=
  (sorted_bounded_length v hv.1 0 65536 (fun x hx => ⟨Nat.zero_le _, (Nat.zero_add _).symm ▸ hv.2 x hx⟩)).1

namespace BStore
open Mask

theorem len_le (b : BStore) (hb : b.Inv) : b.len ≤ 65536 :=
  length_toArray b hb ▸ Arr.length_le _ ⟨sorted_toArray b hb, toArray_lt b hb⟩

theorem popSum_le (bits : List Nat) (hl : bits.length = 1024) (hw : ∀ w ∈ bits, w < 2^64) : popSum bits ≤ 65536 :=
  len_le { len := popSum bits, bits := bits } ⟨hl, hw, rfl⟩

theorem u64_len_add (b : BStore) (hb : b.Inv) {n : Nat} (hn : n ≤ 65536) : U64 (b.len + n) :=
  Nat.lt_of_le_of_lt (Nat.add_le_add (len_le b hb) hn) (by decide)

theorem safe_insert (b : BStore) (hb : b.Inv) (i : Nat) (hi : i < 65536) : b.Safe_insert i := by
  refine ⟨hb.wkey_lt hi, wbit_lt i, u64_len_add b hb ?_⟩
  rw [Word.xor_setBit_shiftRight]
  exact ite_le (by decide) (by decide)

theorem safe_remove (b : BStore) (hb : b.Inv) (i : Nat) (hi : i < 65536) : b.Safe_remove i := by
  have hold : word b.bits (wkey i) < 2^64 := word_lt hb.words _
  refine ⟨hb.wkey_lt hi, wbit_lt i, ?_⟩
  rw [Word.xor_clearBit_shiftRight _ _ hold]
  split
  · rename_i ht
    rw [hb.len]
    exact Nat.le_trans (one_le_popcount_of_testBit hold (wbit_lt i) ht) (Word.popcount_word_le_popSum _ _)
  · exact Nat.zero_le _

theorem safe_contains (b : BStore) (hb : b.Inv) (i : Nat) (hi : i < 65536) : b.Safe_contains i :=
  ⟨hb.wkey_lt hi, wbit_lt i⟩

/-! ### ranges -/

theorem countIn_le_len (b : BStore) (hb : b.Inv) (s e : Nat) : b.countIn s e ≤ b.len :=
  length_toArray b hb ▸ List.length_filter_le _ _

theorem countIn_le_range (b : BStore) (hb : b.Inv) (s e : Nat) (hse : s ≤ e) : b.countIn s e ≤ e - s + 1 :=
  Arr.rangeCount_le _ (sorted_toArray b hb) s e hse

/-- `insertRangeExisted b s e` is `rangeCnt (· ||| ·) wMax b.bits s e`, the counter of `insertRange_eq` -/
theorem insertRangeExisted_eq (b : BStore) (hb : b.Inv) (s e : Nat) (hse : s ≤ e) (he : e < 65536) :
    insertRangeExisted b s e = b.countIn s e :=
  rangeCnt_eq_countIn (· ||| ·) wMax b hb s e hse he

theorem safe_insertRange (b : BStore) (hb : b.Inv) (s e : Nat) (hse : s ≤ e) (he : e < 65536) :
    b.Safe_insertRange s e := by
  have h1 := countIn_le_range b hb s e hse
  have h2 : e - s + 1 ≤ 65536 := range_len_le he
  have hex := insertRangeExisted_eq b hb s e hse he
  exact ⟨hb.wkey_lt (Nat.lt_of_le_of_lt hse he), hb.wkey_lt he, wbit_lt s,
    fun h => Nat.lt_of_le_of_ne (wbit_lt e) fun h' => h (Nat.succ.inj h'), hse,
    fun h => Nat.lt_of_lt_of_le (Nat.succ_lt_succ (sub_lt_of_wkey_eq h)) (by decide),
    hex ▸ Nat.lt_of_le_of_lt (Nat.le_trans h1 h2) (by decide), hex ▸ h1,
    u64_len_add b hb (Nat.le_trans (Nat.sub_le _ _) h2)⟩

theorem safe_removeRange (b : BStore) (hb : b.Inv) (s e : Nat) (hse : s ≤ e) (he : e < 65536) :
    b.Safe_removeRange s e := by
  have h2 := countIn_le_len b hb s e
  have hr := (removeRange_spec b hb s e hse he).2.2
  exact ⟨hb.wkey_lt (Nat.lt_of_le_of_lt hse he), hb.wkey_lt he, Nat.lt_of_le_of_ne (Nat.div_le_div_right hse),
    wbit_lt s, Nat.le_of_lt_succ (wbit_lt e), hr ▸ Nat.lt_of_le_of_lt (Nat.le_trans h2 (len_le b hb)) (by decide),
    hr ▸ h2⟩

theorem safe_containsRange (b : BStore) (hb : b.Inv) (s e : Nat) (hse : s ≤ e) (he : e < 65536) :
    b.Safe_containsRange s e := by
  have := wbit_lt e
  exact ⟨hse, fun _ => ⟨wbit_lt s, this, Nat.sub_lt (by decide) (Nat.succ_pos _), Nat.div_le_div_right hse, hb.wkey_lt he⟩⟩

/-! ### min / max / to_array_store / rank / select -/

theorem safe_toArray (b : BStore) (hb : b.Inv) : b.Safe_toArray := fun x hx => toArray_lt b hb x hx

/-- what `min` / `max` return is a member of the value list, hence a `u16` -/
theorem safe_min (b : BStore) (hb : b.Inv) : b.Safe_min := by
  have h := min?_spec b hb
  unfold Safe_min
  unfold min? at h
  split
  · next w i hf => rw [hf] at h; exact toArray_lt b hb _ (List.mem_of_mem_head? h.symm)
  · trivial

theorem safe_max (b : BStore) (hb : b.Inv) : b.Safe_max := by
  have h := max?_spec b hb
  unfold Safe_max
  unfold max? at h
  split
  · next w i hf =>
    rw [hf] at h
    exact ⟨by simpa using List.find?_some hf, toArray_lt b hb _ (List.mem_of_getLast? h.symm)⟩
  · trivial

theorem popSum_take_le (bits : List Nat) (k : Nat) : popSum (bits.take k) ≤ popSum bits := by
  have := congrArg popSum (List.take_append_drop k bits)
  rw [popSum_append] at this
  exact this ▸ Nat.le_add_right _ _

theorem safe_rank (b : BStore) (hb : b.Inv) (i : Nat) (hi : i < 65536) : b.Safe_rank i := by
  refine ⟨hb.wkey_lt hi, Nat.le_of_lt_succ (wbit_lt i), ?_⟩
  have h1 := popSum_take_le b.bits (wkey i)
  have h2 : popcount ((word b.bits (wkey i) <<< (63 - wbit i)) % W) ≤ 64 :=
    Word.popcount_le_64 _ (W_eq ▸ Nat.mod_lt _ (by decide))
  exact Nat.lt_of_le_of_lt (Nat.add_le_add (Nat.le_trans h1 (popSum_le b.bits hb.length hb.words)) h2) (by decide)

theorem safe_selectFrom (ws : List Nat) (k n : Nat) (hws : ∀ w ∈ ws, w < 2^64) (hk : k + ws.length ≤ 1024) :
    Safe_selectFrom k ws n := by
  induction ws generalizing k n with
  | nil => trivial
  | cons w ws ih =>
    obtain ⟨hw, hws⟩ := List.forall_mem_cons.1 hws
    rw [List.length_cons] at hk
    unfold Safe_selectFrom
    refine ite_intro (fun hn => ⟨safe_popLowN n w hw (Nat.le_of_lt hn), ?_⟩) fun hn =>
      ⟨Nat.le_of_not_lt hn, ih (k + 1) _ hws (by rw [Nat.add_right_comm]; exact hk)⟩
    -- the selected bit is a bit position of `w`
    have hsel : (bitPos w)[n]? = some (selectBit w n) :=
      bitPos_getElem?_selectBit n w hw (by rw [← popcount_eq_length_bitPos w hw]; exact hn)
    have := Radix.mul_add_lt (Nat.lt_of_lt_of_le (Nat.lt_add_of_pos_right (Nat.succ_pos _)) hk)
      ((mem_bitPos w _).1 (List.mem_of_getElem? hsel)).1
    rw [Nat.mul_comm] at this
    exact Nat.lt_of_lt_of_le this (by decide)

theorem safe_select (b : BStore) (hb : b.Inv) (n : Nat) : b.Safe_select n :=
  safe_selectFrom b.bits 0 n hb.words (by rw [hb.length, Nat.zero_add]; exact Nat.le_refl _)

/-! ### remove_smallest / remove_biggest -/

theorem safe_rsLoop (ws : List Nat) (n : Nat) (hws : ∀ w ∈ ws, w < 2^64) : Safe_rsLoop ws n := by
  induction ws generalizing n with
  | nil => trivial
  | cons w ws ih =>
    obtain ⟨hw, hws⟩ := List.forall_mem_cons.1 hws
    unfold Safe_rsLoop
    exact ite_intro (fun hn => safe_popLowN n w hw (Nat.le_of_lt hn)) fun hn =>
      ⟨Nat.le_of_not_lt hn, Or.inr (ih _ hws)⟩

theorem safe_removeSmallest (b : BStore) (hb : b.Inv) (n : Nat) : b.Safe_removeSmallest n :=
  fun hn => ⟨Nat.le_of_not_lt hn, safe_rsLoop b.bits n hb.words⟩

theorem safe_rbLoop (ws : List Nat) (n : Nat) (hws : ∀ w ∈ ws, w < 2^64) : Safe_rbLoop ws n := by
  induction ws generalizing n with
  | nil => trivial
  | cons w ws ih =>
    obtain ⟨hw, hws⟩ := List.forall_mem_cons.1 hws
    unfold Safe_rbLoop
    exact ite_intro (fun hn => safe_popHighN n w hw (Nat.le_of_lt hn)) fun hn =>
      ⟨Nat.le_of_not_lt hn, Or.inr (ih _ hws)⟩

theorem safe_removeBiggest (b : BStore) (hb : b.Inv) (n : Nat) : b.Safe_removeBiggest n :=
  fun hn => ⟨Nat.le_of_not_lt hn, safe_rbLoop b.bits.reverse n (fun w hw => hb.words w (List.mem_reverse.1 hw))⟩

/-! ### assign operators with an array on the right -/

theorem safe_orArr (v : List Nat) (b : BStore) (hb : b.Inv) (hv : ∀ x ∈ v, x < 65536) : Safe_orArr b v := by
  induction v generalizing b with
  | nil => trivial
  | cons i v ih =>
    obtain ⟨hi, hv⟩ := List.forall_mem_cons.1 hv
    exact ⟨safe_insert b hb i hi, ih _ (insert_spec b hb i hi).1 hv⟩

theorem safe_subArr (v : List Nat) (b : BStore) (hb : b.Inv) (hv : ∀ x ∈ v, x < 65536) : Safe_subArr b v := by
  induction v generalizing b with
  | nil => trivial
  | cons i v ih =>
    obtain ⟨hi, hv⟩ := List.forall_mem_cons.1 hv
    exact ⟨safe_remove b hb i hi, ih _ (remove_spec b hb i hi).1 hv⟩

theorem i64_len (b : BStore) (hb : b.Inv) : I64 (b.len : Int) :=
  ⟨Int.le_trans (by decide) (Int.natCast_nonneg _), Int.lt_of_le_of_lt (Int.ofNat_le.2 (len_le b hb)) (by decide)⟩

theorem safe_xorArrLoop (v : List Nat) (b : BStore) (hb : b.Inv) (hv : ∀ x ∈ v, x < 65536) :
    Safe_xorArrLoop ((b.len : Int), b.bits) v := by
  induction v generalizing b with
  | nil => trivial
  | cons i v ih =>
    obtain ⟨hi, hv⟩ := List.forall_mem_cons.1 hv
    -- the next loop state is the pair of a valid store again
    obtain ⟨b', hb', e, _⟩ := xorArrStep_spec b hb i hi
    obtain ⟨e1, e2⟩ := Prod.mk.inj e
    rw [Int.add_sub_assoc] at e1
    refine ⟨hb.wkey_lt hi, wbit_lt i, ?_, ?_, ?_, ?_⟩
    · rw [bit_and_shr_eq]
      cases (word b.bits (wkey i)).testBit (wbit i) <;> decide
    · rw [e1]
      exact i64_len b' hb'
    · rw [e1]
      exact Int.natCast_nonneg _
    · rw [e1, e2]
      exact ih b' hb' hv

theorem safe_xorArr (b : BStore) (hb : b.Inv) (v : List Nat) (hv : ∀ x ∈ v, x < 65536) : b.Safe_xorArr v :=
  ⟨i64_len b hb, safe_xorArrLoop v b hb hv⟩

theorem safe_opBitmaps (f : Nat → Nat → Nat) (hf : ∀ x y, x < 2^64 → y < 2^64 → f x y < 2^64)
    (a b : BStore) (ha : a.Inv) (hb : b.Inv) : Safe_opBitmaps f a b := by
  refine Nat.lt_of_le_of_lt (popSum_le _ (by simp [ha.length, hb.length]) fun w hw => ?_) (by decide)
  obtain ⟨k, hk, rfl⟩ := List.getElem_of_mem hw
  rw [List.getElem_zipWith]
  exact hf _ _ (ha.words _ (List.getElem_mem _)) (hb.words _ (List.getElem_mem _))

theorem safe_interLenArray (b : BStore) (hb : b.Inv) (v : List Nat) (hv : Arr.Inv v) : b.Safe_interLenArray v := by
  refine ⟨fun i hi => ⟨hb.wkey_lt (hv.2 i hi), wbit_lt i⟩, ?_⟩
  rw [interLenArray_spec b hb v hv.2]
  exact Nat.lt_of_le_of_lt (Nat.le_trans (List.length_filter_le _ _) (Arr.length_le v hv)) (by decide)

theorem safe_interLenBitmap (a b : BStore) (ha : a.Inv) (hb : b.Inv) : a.Safe_interLenBitmap b := by
  unfold Safe_interLenBitmap
  rw [interLenBitmap_spec a b ha hb]
  exact Nat.lt_of_le_of_lt (Nat.le_trans (List.length_filter_le _ _) (length_toArray a ha ▸ len_le a ha)) (by decide)

end BStore

namespace BIter

theorem safe_next (it : BIter) (hi : it.Inv) : it.Safe_next := by
  refine ⟨fun _ hk => Nat.lt_of_le_of_lt (Nat.succ_le_of_lt hk) (Nat.lt_of_le_of_lt hi.kb (by decide)), ?_⟩
  split
  · next x hx => exact next_lt it hi.ok hx
  · trivial

theorem safe_nextBack (it : BIter) (hi : it.Inv) : it.Safe_nextBack := by
  unfold Safe_nextBack
  split
  · next x hx => exact nextBack_lt it hi.ok hx
  · trivial

theorem safe_advance (index : Nat) : Safe_advance index := by
  have := wbit_lt index
  exact ⟨this, this, by rw [Nat.sub_sub]; exact Nat.sub_lt (by decide) (Nat.succ_pos _)⟩

end BIter

namespace Arr

/-- std's `binary_search` contract holds for the model's `bsearch` (any vector) -/
theorem safe_bsearch (v : List Nat) (x : Nat) : Safe_bsearch v x := by
  unfold Safe_bsearch bsearch lowerBound
  refine ⟨(List.takeWhile_sublist _).length_le, ?_⟩
  intro h
  simp only [beq_iff_eq] at h
  exact (List.getElem?_eq_some_iff.1 h).1

/-- the two positions found by `insert_range` / `remove_range`, as counts -/
theorem rangePos_eq (v : List Nat) (hs : Sorted v) (s e : Nat) :
    rangePos v s e = ((v.filter (· < s)).length,
      (v.filter (· < s)).length + (v.filter (fun x => decide (s ≤ x) && decide (x ≤ e))).length) := by
  have hw : Sorted (v.filter (s ≤ ·)) := sorted_filter hs _
  unfold rangePos
  simp only [bsearch_eq v hs s, drop_filter_lt v hs, bsearch_eq _ hw]
  rw [← rangeCount_eq, filter_le_length _ hw]
  by_cases hm : e ∈ v.filter (s ≤ ·) <;>
    simp only [hm, decide_true, decide_false, if_true, if_false, Nat.add_zero]

theorem rangePos_le (v : List Nat) (hs : Sorted v) (s e : Nat) :
    (v.filter (· < s)).length + (v.filter (fun x => decide (s ≤ x) && decide (x ≤ e))).length ≤ v.length := by
  -- the values in `[s, e]` are among those left after dropping the values `< s`
  have h := congrArg List.length (drop_filter_lt v hs s)
  rw [List.length_drop] at h
  have h1 := List.length_filter_le (· ≤ e) (v.filter (s ≤ ·))
  rw [← h] at h1
  rw [← rangeCount_eq]
  exact Nat.le_trans (Nat.add_le_add_left h1 _) (Nat.le_of_eq (Nat.add_sub_cancel' (List.length_filter_le _ v)))

theorem safe_insertRange (v : List Nat) (hv : Arr.Inv v) (s e : Nat) (hse : s ≤ e) : Safe_insertRange v s e := by
  unfold Safe_insertRange
  rw [rangePos_eq v hv.1]
  simp only [Nat.add_sub_cancel_left]
  exact ⟨List.length_filter_le _ _, Nat.le_add_right _ _, rangePos_le v hv.1 s e, hse, rangeCount_le v hv.1 s e hse⟩

theorem safe_removeRange (v : List Nat) (hv : Arr.Inv v) (s e : Nat) : Safe_removeRange v s e := by
  unfold Safe_removeRange
  rw [rangePos_eq v hv.1]
  exact ⟨List.length_filter_le _ _, Nat.le_add_right _ _, rangePos_le v hv.1 s e⟩

theorem safe_containsRange (v : List Nat) (s e : Nat) (hse : s ≤ e) : Safe_containsRange v s e :=
  ⟨hse, Nat.le_trans (Nat.le_add_left 1 _) (Nat.le_add_left _ _)⟩

theorem safe_toBitmap (v : List Nat) (hv : Arr.Inv v) : Safe_toBitmap v := by
  refine ⟨fun i hi => ⟨Nat.div_lt_of_lt_mul (hv.2 i hi), wbit_lt i⟩, ?_⟩
  have h : v.length = BStore.popSum (Store.arrToBitmapBits v) := (BStore.arrToBitmap_spec v hv).1.len
  rw [BStore.tryFrom_spec, if_pos h]
  rfl

/-- without sortedness it fails: a vector with a duplicate sets fewer bits than it has values (here 3 values, 2 bits), so
    the debug `try_from(len, bits).unwrap()` panics -/
theorem not_safe_toBitmap_dup : ¬ Safe_toBitmap [2, 2, 3] := by decide +kernel

end Arr

namespace Store

theorem len_le (st : Store) (h : st.Inv) : st.len ≤ 65536 := by
  cases st with
  | array v => exact Arr.length_le v h
  | bitmap b => exact BStore.len_le b h

theorem safe_insert (st : Store) (h : st.Inv) (i : Nat) (hi : i < 65536) : st.Safe_insert i := by
  cases st with
  | array v => exact Arr.safe_bsearch v i
  | bitmap b => exact BStore.safe_insert b h i hi

theorem safe_remove (st : Store) (h : st.Inv) (i : Nat) (hi : i < 65536) : st.Safe_remove i := by
  cases st with
  | array v => exact Arr.safe_bsearch v i
  | bitmap b => exact BStore.safe_remove b h i hi

theorem safe_insertRange (st : Store) (h : st.Inv) (s e : Nat) (hse : s ≤ e) (he : e < 65536) :
    st.Safe_insertRange s e := by
  cases st with
  | array v => exact Arr.safe_insertRange v h s e hse
  | bitmap b => exact BStore.safe_insertRange b h s e hse he

theorem safe_removeRange (st : Store) (h : st.Inv) (s e : Nat) (hse : s ≤ e) (he : e < 65536) :
    st.Safe_removeRange s e := by
  cases st with
  | array v => exact Arr.safe_removeRange v h s e
  | bitmap b => exact BStore.safe_removeRange b h s e hse he

theorem safe_containsRange (st : Store) (h : st.Inv) (s e : Nat) (hse : s ≤ e) (he : e < 65536) :
    st.Safe_containsRange s e := by
  cases st with
  | array v => exact Arr.safe_containsRange v s e hse
  | bitmap b => exact BStore.safe_containsRange b h s e hse he

theorem safe_rank (st : Store) (h : st.Inv) (i : Nat) (hi : i < 65536) : st.Safe_rank i := by
  cases st with
  | array v => trivial
  | bitmap b => exact BStore.safe_rank b h i hi

theorem safe_select (st : Store) (h : st.Inv) (n : Nat) : st.Safe_select n := by
  cases st with
  | array v => trivial
  | bitmap b => exact BStore.safe_select b h n

end Store

namespace Container

theorem len_le (c : Container) (h : c.store.Inv) : c.len ≤ 65536 := Store.len_le _ h

theorem rank_le_len (c : Container) (h : c.store.Inv) (i : Nat) (hi : i < 65536) : c.rank i ≤ c.len := by
  unfold Container.rank Container.len
  rw [Store.rank_spec _ h i hi, Store.len_eq _ h]
  exact List.length_filter_le _ _

theorem rank_mono (c : Container) (h : c.store.Inv) (i j : Nat) (hij : i ≤ j) (hj : j < 65536) :
    c.rank i ≤ c.rank j := by
  unfold Container.rank
  rw [Store.rank_spec _ h i (Nat.lt_of_le_of_lt hij hj), Store.rank_spec _ h j hj, ← List.countP_eq_length_filter,
    ← List.countP_eq_length_filter]
  apply List.countP_mono_left
  intro x _ hx
  simp only [decide_eq_true_eq] at hx ⊢
  exact Nat.le_trans hx hij

theorem safe_insertRange (c : Container) (h : c.store.Inv) (s e : Nat) (hse : s ≤ e) (he : e < 65536) :
    c.Safe_insertRange s e := by
  obtain ⟨key, st⟩ := c
  refine ⟨hse, range_len_le he, ?_⟩
  cases st with
  | array v =>
    exact ite_intro (fun _ => ⟨Arr.safe_toBitmap v h, BStore.safe_insertRange _ (BStore.arrToBitmap_spec v h).1 s e hse he⟩)
      fun _ => Arr.safe_insertRange v h s e hse
  | bitmap b => exact BStore.safe_insertRange b h s e hse he

theorem safe_removeSmallest (c : Container) (h : c.store.Inv) (n : Nat) (hn : n ≤ c.len) :
    c.Safe_removeSmallest n := by
  obtain ⟨key, st⟩ := c
  cases st with
  | array v => exact hn
  | bitmap b =>
    exact ⟨hn, ite_intro (fun _ => BStore.safe_toArray b h) fun _ => BStore.safe_removeSmallest b h n⟩

theorem safe_removeBiggest (c : Container) (h : c.store.Inv) (n : Nat) (hn : n ≤ c.len) :
    c.Safe_removeBiggest n := by
  obtain ⟨key, st⟩ := c
  cases st with
  | array v => exact hn
  | bitmap b =>
    exact ⟨hn, ite_intro (fun _ => BStore.safe_toArray b h) fun _ => BStore.safe_removeBiggest b h n⟩

theorem safe_ensureCorrectStore (c : Container) (h : c.store.Inv) : c.Safe_ensureCorrectStore := by
  obtain ⟨key, st⟩ := c
  cases st with
  | array v => exact fun _ => Arr.safe_toBitmap v h
  | bitmap b => exact fun _ => BStore.safe_toArray b h

end Container

namespace Bitmap

/-- the stores of a bitmap satisfy the structural invariant (all that the arithmetic needs) -/
def StoresInv (b : Bitmap) : Prop := ∀ c ∈ b, c.store.Inv

theorem storesInv_cons {c : Container} {cs : Bitmap} : StoresInv (c :: cs) ↔ c.store.Inv ∧ StoresInv cs :=
  List.forall_mem_cons

theorem storesInv_take {b : Bitmap} (h : StoresInv b) (i : Nat) : StoresInv (b.take i) :=
  fun c hc => h c (List.mem_of_mem_take hc)

theorem storesInv_drop {b : Bitmap} (h : StoresInv b) (i : Nat) : StoresInv (b.drop i) :=
  fun c hc => h c (List.mem_of_mem_drop hc)

theorem storesInv_set {b : Bitmap} (h : StoresInv b) (i : Nat) {c : Container} (hc : c.store.Inv) :
    StoresInv (b.set i c) := by
  intro d hd
  rcases List.mem_or_eq_of_mem_set hd with hd | rfl
  · exact h d hd
  · exact hc

theorem storesInv_insertAt {b : Bitmap} (h : StoresInv b) (i : Nat) {c : Container} (hc : c.store.Inv) :
    StoresInv (b.take i ++ c :: b.drop i) := by
  intro d hd
  rcases List.mem_append.1 hd with hd | hd
  · exact h d (List.mem_of_mem_take hd)
  · rcases List.mem_cons.1 hd with rfl | hd
    · exact hc
    · exact h d (List.mem_of_mem_drop hd)

theorem len_le_mul (B : Nat) (b : Bitmap) (h : ∀ c ∈ b, c.len ≤ B) : len b ≤ B * b.length :=
  Nat.zero_add (B * b.length) ▸ foldl_add_le Container.len B b 0 h

/-- at most `2^16` chunks of at most `2^16` values each -/
theorem len_le_of_length_le (b : Bitmap) (h : StoresInv b) (hl : b.length ≤ 65536) : len b ≤ 4294967296 :=
  Nat.le_trans (len_le_mul 65536 b fun c hc => Container.len_le c (h c hc)) (Nat.mul_le_mul_left 65536 hl)

theorem wf_len_le (b : Bitmap) (h : b.WF) : len b ≤ 4294967296 :=
  len_le_of_length_le b h.storesInv (dir_length_le b h.dir)

theorem safe_split (v : Nat) (hv : v < 4294967296) : Safe_split v := (split_lt v hv).1

theorem safe_join (k i : Nat) (hk : k < 65536) (hi : i < 65536) : Safe_join k i := by
  have h : k * 65536 + i < 2^32 := Nat.lt_of_lt_of_le (Radix.mul_add_lt hk hi) (by decide)
  unfold Safe_join
  rw [Nat.shiftLeft_eq]
  exact ⟨Nat.lt_of_le_of_lt (Nat.le_add_right _ i) h, h⟩

theorem search_lt_length {b : Bitmap} {key i : Nat} (h : search b key = (true, i)) : i < b.length :=
  let ⟨_, e, _⟩ := search_true h
  (List.getElem?_eq_some_iff.1 e).1

/-- std's `binary_search_by_key` contract holds for the model's `search` (any container vector) -/
theorem safe_search (b : Bitmap) (key : Nat) : Safe_search b key :=
  ⟨(List.takeWhile_sublist _).length_le, fun h => search_lt_length (Prod.ext h rfl)⟩

theorem safe_findContainerByKey (b : Bitmap) (key : Nat) : Safe_findContainerByKey b key := by
  have h1 := (safe_search b key).1
  refine ⟨h1, ?_⟩
  unfold findContainerByKey
  rcases hs : search b key with ⟨_ | _, loc⟩
  · rw [hs] at h1
    show loc < (b.take loc ++ _ :: b.drop loc).length
    rw [List.length_append, List.length_take_of_le h1]
    exact Nat.lt_add_of_pos_right (Nat.succ_pos _)
  · exact search_lt_length hs

theorem safe_len (b : Bitmap) (h : b.WF) : Safe_len b :=
  Nat.lt_of_le_of_lt (wf_len_le b h) (by decide)

theorem safe_select (b : Bitmap) (n : Nat) (h : StoresInv b) : Safe_select b n := by
  induction b generalizing n with
  | nil => trivial
  | cons c cs ih =>
    obtain ⟨hc, hcs⟩ := storesInv_cons.1 h
    unfold Safe_select
    exact ite_intro (fun hn => ⟨Nat.lt_of_lt_of_le hn (Container.len_le c hc), Store.safe_select _ hc n⟩)
      fun hn => ⟨Nat.le_of_not_lt hn, ih _ hcs⟩

theorem safe_removeSmallest (b : Bitmap) (n : Nat) (h : StoresInv b) : Safe_removeSmallest b n := by
  induction b generalizing n with
  | nil => trivial
  | cons c cs ih =>
    obtain ⟨hc, hcs⟩ := storesInv_cons.1 h
    unfold Safe_removeSmallest
    exact ite_intro (fun _ => ih _ hcs) fun hn _ => Container.safe_removeSmallest c hc n (Nat.le_of_not_le hn)

theorem safe_removeBiggestRev (b : List Container) (n : Nat) (h : StoresInv b) : Safe_removeBiggestRev b n := by
  induction b generalizing n with
  | nil => trivial
  | cons c cs ih =>
    obtain ⟨hc, hcs⟩ := storesInv_cons.1 h
    unfold Safe_removeBiggestRev
    exact ite_intro (fun _ => ih _ hcs) fun hn _ => Container.safe_removeBiggest c hc n (Nat.le_of_not_le hn)

theorem safe_removeBiggest (b : Bitmap) (n : Nat) (h : StoresInv b) : Safe_removeBiggest b n :=
  safe_removeBiggestRev b.reverse n (fun c hc => h c (List.mem_reverse.1 hc))

theorem safe_rank (b : Bitmap) (h : b.WF) (v : Nat) (hv : v < 4294967296) : Safe_rank b v := by
  have htake : ∀ i, len (b.take i) ≤ 4294967296 := fun i =>
    len_le_of_length_le _ (storesInv_take h.storesInv i) (Nat.le_trans (List.length_take_le' _ _) (dir_length_le b h.dir))
  refine ⟨safe_split v hv, safe_search b _, ?_⟩
  rcases hsr : search b (hi16 v) with ⟨_ | _, i⟩
  · exact Nat.lt_of_le_of_lt (htake i) (by decide)
  · obtain ⟨c, e, _⟩ := search_true hsr
    have hc := h.storesInv c (List.mem_of_getElem? e)
    simp only [e]
    exact ⟨Store.safe_rank _ hc _ (lo16_lt v), Nat.lt_of_le_of_lt (Nat.add_le_add
      (Nat.le_trans (Container.rank_le_len c hc _ (lo16_lt v)) (Container.len_le c hc)) (htake i)) (by decide)⟩

theorem safe_rangeCardLoop (ek el : Nat) (hel : el < 65536) (cs : List Container) (acc : Nat)
    (h : StoresInv cs) (hacc : acc + 65536 * cs.length < 2^64) : Safe_rangeCardLoop ek el cs acc := by
  induction cs generalizing acc with
  | nil => trivial
  | cons c cs ih =>
    obtain ⟨hc, hcs⟩ := storesInv_cons.1 h
    have h2 := Container.len_le _ hc
    have h1 := Container.rank_le_len _ hc _ hel
    rw [List.length_cons] at hacc
    have key := counter_step h2 hacc
    unfold Safe_rangeCardLoop
    exact ite_intro (fun _ => ⟨Nat.lt_of_le_of_lt (Nat.le_add_right _ _) key, ih _ hcs key⟩) fun _ =>
      ite_intro (fun _ => ⟨Store.safe_rank _ hc _ hel,
        Nat.lt_of_le_of_lt (Nat.le_trans (Nat.add_le_add_left h1 _) (Nat.le_add_right _ _)) key⟩) fun _ => trivial

theorem convertRange_bounds (lo hi : Bound) (hlo : Bound.le u32Max lo) (hhi : Bound.le u32Max hi) (st en : Nat)
    (h : convertRange u32Max lo hi = .ok (st, en)) : st ≤ en ∧ en < 4294967296 := by
  have := Spec.interval_some u32Max lo hi st en (convertRange_ok u32Max lo hi hlo hhi st en h)
  exact ⟨this.1, Nat.lt_succ_of_le this.2.1⟩

theorem safe_rangeCardinality (b : Bitmap) (h : b.WF) (lo hi : Bound)
    (hlo : Bound.le u32Max lo) (hhi : Bound.le u32Max hi) : Safe_rangeCardinality b lo hi := by
  unfold Safe_rangeCardinality
  cases hc : convertRange u32Max lo hi with
  | error e => trivial
  | ok r =>
    obtain ⟨st, en⟩ := r
    obtain ⟨hse, hen⟩ := convertRange_bounds lo hi hlo hhi st en hc
    have hlen := dir_length_le b h.dir
    have hel := lo16_lt en
    -- the loop starts from at most one chunk's cardinality, with at most `2^16` chunks to go
    have hloop : ∀ k acc, acc ≤ 65536 → Safe_rangeCardLoop (hi16 en) (lo16 en) (b.drop k) acc := fun k acc hacc =>
      safe_rangeCardLoop _ _ hel _ _ (storesInv_drop h.storesInv k) (Nat.lt_of_le_of_lt (Nat.add_le_add hacc
        (Nat.mul_le_mul_left _ (Nat.le_trans (List.length_drop ▸ Nat.sub_le _ _) hlen))) (by decide))
    refine ⟨safe_search b _, ?_⟩
    rcases hsr : search b (hi16 st) with ⟨_ | _, i⟩
    · exact hloop i 0 (Nat.zero_le _)
    · obtain ⟨c, e, _⟩ := search_true hsr
      have hcI := h.storesInv c (List.mem_of_getElem? e)
      have h2 := Container.len_le c hcI
      have hcard : (if hi16 st = hi16 en then c.rank (lo16 en) else c.len) ≤ 65536 :=
        ite_le (Nat.le_trans (Container.rank_le_len c hcI _ hel) h2) h2
      simp only [e]
      refine ⟨fun _ => Store.safe_rank _ hcI _ hel, fun hsl => ?_, search_lt_length hsr,
        hloop _ _ (ite_le (Nat.le_trans (Nat.sub_le _ _) hcard) hcard)⟩
      have hsl1 : lo16 st - 1 < 65536 := Nat.lt_of_le_of_lt (Nat.sub_le _ _) (lo16_lt st)
      refine ⟨Nat.pos_of_ne_zero hsl, Store.safe_rank _ hcI _ hsl1, ?_⟩
      split
      · rename_i hk
        exact Container.rank_mono c hcI _ _ (Nat.le_trans (Nat.sub_le _ _) (Radix.mod_le_mod_of_div_eq hse hk)) hel
      · exact Container.rank_le_len c hcI _ hsl1

theorem safe_containsRange (b : Bitmap) (h : b.WF) (lo hi : Bound)
    (hlo : Bound.le u32Max lo) (hhi : Bound.le u32Max hi) : Safe_containsRange b lo hi := by
  unfold Safe_containsRange
  cases hc : convertRange u32Max lo hi with
  | error e => trivial
  | ok r =>
    obtain ⟨st, en⟩ := r
    obtain ⟨hse, hen⟩ := convertRange_bounds lo hi hlo hhi st en hc
    have hhh : hi16 st ≤ hi16 en := Nat.div_le_div_right hse
    have hsafe : ∀ c ∈ b, ∀ s e, s ≤ e → e < 65536 → c.store.Safe_containsRange s e := fun c hc s e =>
      Store.safe_containsRange _ (h.storesInv c hc) s e
    refine ⟨hhh, safe_search b _, ?_⟩
    rcases hsr : search b (hi16 st) with ⟨_ | _, i⟩
    · trivial
    · have hd := List.drop_eq_getElem_cons (search_lt_length hsr)
      have hmem : ∀ c ∈ b.drop i, c ∈ b := fun c => List.mem_of_mem_drop
      simp only []
      rw [hd] at hmem ⊢
      have hfirst := hsafe _ (hmem _ (List.mem_cons_self ..))
      simp only []
      refine ite_intro (fun hk => hfirst _ _ (Radix.mod_le_mod_of_div_eq hse hk) (lo16_lt en)) fun hk =>
        ⟨hfirst _ _ (Nat.le_of_lt_succ (lo16_lt st)) (by decide), Nat.sub_pos_of_lt (Nat.lt_of_le_of_ne hhh hk), ?_⟩
      split
      · rename_i last hl
        exact hsafe last (hmem _ (List.mem_of_getElem? hl)) 0 _ (Nat.zero_le _) (lo16_lt en)
      · trivial

/-! ### `insert_range`, the whole method -/

theorem storesInv_findContainerByKey {b : Bitmap} (h : StoresInv b) (key : Nat) :
    StoresInv (findContainerByKey b key).1 := by
  unfold findContainerByKey
  rcases search b key with ⟨_ | _, loc⟩
  · exact storesInv_insertAt h loc Store.new_inv
  · exact h

theorem safe_insertRangeAt (b : Bitmap) (h : StoresInv b) (key s e : Nat) (hse : s ≤ e) (he : e < 65536) :
    Safe_insertRangeAt b key s e := by
  have hf := safe_findContainerByKey b key
  refine ⟨hf, ?_⟩
  rw [List.getElem?_eq_getElem hf.2]
  exact Container.safe_insertRange _ (storesInv_findContainerByKey h key _ (List.getElem_mem hf.2)) s e hse he

/-- one chunk step keeps the stores valid and reports at most `2^16` new values -/
theorem modifyAt_insertRange {b : Bitmap} (h : StoresInv b) (loc s e : Nat) (hse : s ≤ e) (he : e < 65536) :
    StoresInv (modifyAt b loc (fun c => c.insertRange s e) 0).1 ∧
    (modifyAt b loc (fun c => c.insertRange s e) 0).2 ≤ 65536 := by
  unfold modifyAt
  cases hc : b[loc]? with
  | none => exact ⟨h, Nat.zero_le _⟩
  | some c =>
    obtain ⟨_, h2, _, h4⟩ := Container.insertRange_spec c (h c (List.mem_of_getElem? hc)) s e hse he
    exact ⟨storesInv_set h loc (Store.canon_inv _ h2), h4 ▸ Nat.le_trans (Nat.sub_le _ _) (range_len_le he)⟩

theorem safe_insertRangeLoop (ek ei : Nat) (hei : ei < 65536) (ks : List Nat) (st : Bitmap × Nat × Nat)
    (h : StoresInv st.1) (hlow : st.2.1 ≤ 65535) (hacc : st.2.2 + 65536 * (ks.length + 1) < 2^64) :
    Safe_insertRangeLoop ek ei ks st := by
  induction ks generalizing st with
  | nil =>
    have hm := modifyAt_insertRange (storesInv_findContainerByKey h ek) (findContainerByKey st.1 ek).2 0 ei
      (Nat.zero_le _) hei
    exact ⟨safe_insertRangeAt st.1 h ek 0 ei (Nat.zero_le _) hei,
      Nat.lt_of_le_of_lt (Nat.add_le_add_left hm.2 _) hacc⟩
  | cons i ks ih =>
    have hm := modifyAt_insertRange (storesInv_findContainerByKey h i) (findContainerByKey st.1 i).2 st.2.1 65535
      hlow (by decide)
    rw [List.length_cons] at hacc
    have hsum := counter_step hm.2 hacc
    exact ⟨safe_insertRangeAt st.1 h i st.2.1 65535 hlow (by decide),
      Nat.lt_of_le_of_lt (Nat.le_add_right _ _) hsum, ih _ hm.1 (Nat.zero_le _) hsum⟩

theorem safe_insertRange (b : Bitmap) (h : b.WF) (lo hi : Bound)
    (hlo : Bound.le u32Max lo) (hhi : Bound.le u32Max hi) : Safe_insertRange b lo hi := by
  unfold Safe_insertRange
  cases hc : convertRange u32Max lo hi with
  | error e => trivial
  | ok r =>
    obtain ⟨st, en⟩ := r
    obtain ⟨hse, hen⟩ := convertRange_bounds lo hi hlo hhi st en hc
    have hek := (split_lt en hen).1
    refine ⟨safe_split st (Nat.lt_of_le_of_lt hse hen), safe_split en hen, ite_intro
      (fun hk => safe_insertRangeAt b h.storesInv _ _ _ (Radix.mod_le_mod_of_div_eq hse hk) (lo16_lt en))
      fun _ => ⟨Nat.div_le_div_right hse, safe_findContainerByKey b _, ?_⟩⟩
    apply safe_insertRangeLoop _ _ (lo16_lt en) _ _ (storesInv_findContainerByKey h.storesInv _)
      (Nat.le_of_lt_succ (lo16_lt st))
    rw [List.length_range', Nat.zero_add]
    exact Nat.lt_of_le_of_lt
      (Nat.mul_le_mul_left _ (Nat.succ_le_of_lt (Nat.lt_of_le_of_lt (Nat.sub_le _ _) hek))) (by decide)

theorem safe_insertRangeCount (b : Bitmap) (h : b.WF) (lo hi : Bound)
    (hlo : Bound.le u32Max lo) (hhi : Bound.le u32Max hi) : Safe_insertRangeCount b lo hi := by
  unfold Safe_insertRangeCount
  rw [(insertRange_spec b h lo hi hlo hhi).2.2]
  unfold Spec.insertRange
  cases hi' : Spec.interval u32Max lo hi with
  | none => exact Nat.two_pow_pos 64
  | some p =>
    obtain ⟨a, c⟩ := p
    have := (Spec.interval_some u32Max lo hi a c hi').2.1
    exact Nat.lt_of_le_of_lt
      (Nat.le_trans (Nat.sub_le _ _) (Nat.succ_le_succ (Nat.le_trans (Nat.sub_le c a) this))) (by decide)

theorem removeRange_snd_le (b : Bitmap) (h : b.WF) (lo hi : Bound)
    (hlo : Bound.le u32Max lo) (hhi : Bound.le u32Max hi) : (removeRange b lo hi).2 ≤ 4294967296 := by
  rw [(removeRange_spec b h lo hi hlo hhi).2.2]
  unfold Spec.removeRange
  cases Spec.interval u32Max lo hi with
  | none => exact Nat.zero_le _
  | some p => exact Nat.le_trans (List.length_filter_le _ _) (len_spec b h ▸ wf_len_le b h)

theorem safe_removeRangeCount (b : Bitmap) (h : b.WF) (lo hi : Bound)
    (hlo : Bound.le u32Max lo) (hhi : Bound.le u32Max hi) : Safe_removeRangeCount b lo hi :=
  Nat.lt_of_le_of_lt (removeRange_snd_le b h lo hi hlo hhi) (by decide)

theorem rank_le_len (b : Bitmap) (h : b.WF) (v : Nat) (hv : v < 4294967296) : rank b v ≤ len b := by
  rw [rank_spec b h v hv, len_spec b h]
  exact List.length_filter_le _ _

/-! ### serialization / statistics -/

/-- payload size of one container in the offset table -/
def cSize (c : Container) : Nat := match c.store with
  | .array v => v.length * 2
  | .bitmap _ => 8 * 1024

theorem cSize_le (c : Container) (h : c.store.WF) : cSize c ≤ 8192 := by
  obtain ⟨key, st⟩ := c
  cases st with
  | array v =>
    exact Nat.mul_le_mul_right 2 h.2.2
  | bitmap b => exact Nat.le_refl _

theorem safe_offsetLoop (b : Bitmap) (off : Nat) (h : ∀ c ∈ b, c.store.WF) (hoff : off + 8192 * b.length < 2^32) :
    Safe_offsetLoop b off := by
  induction b generalizing off with
  | nil => trivial
  | cons c cs ih =>
    obtain ⟨hc, hcs⟩ := List.forall_mem_cons.1 h
    have hsz := cSize_le c hc
    rw [List.length_cons] at hoff
    have key := counter_step hsz hoff
    refine ⟨?_, Nat.lt_of_le_of_lt (Nat.le_add_right _ _) key, ih _ hcs key⟩
    obtain ⟨key, st⟩ := c
    cases st with
    | array v =>
      have : v.length ≤ 4096 := hc.2.2
      exact ⟨Nat.lt_of_le_of_lt this (by decide), Nat.lt_of_le_of_lt (Nat.mul_le_mul_right 2 this) (by decide)⟩
    | bitmap bs => trivial

theorem wf_clen (c : Container) (h : c.store.WF) : 1 ≤ c.len ∧ c.len ≤ 65536 := by
  refine ⟨?_, Container.len_le c (Store.wf_inv _ h)⟩
  obtain ⟨key, st⟩ := c
  cases st with
  | array v => exact h.2.1
  | bitmap b => exact Nat.le_trans (by decide) (Nat.le_of_lt h.2)

theorem safe_serialize (b : Bitmap) (h : b.WF) : Safe_serialize b := by
  have hlen := dir_length_le b h.dir
  have h8 : 8 + 8 * b.length ≤ 8 + 8 * 65536 := Nat.add_le_add_left (Nat.mul_le_mul_left 8 hlen) 8
  refine ⟨Nat.lt_of_le_of_lt hlen (by decide), Nat.lt_of_le_of_lt h8 (by decide), fun c hc => ?_,
    safe_offsetLoop b _ (fun c hc => (h.2 c hc).2)
      (Nat.lt_of_le_of_lt (Nat.add_le_add h8 (Nat.mul_le_mul_left 8192 hlen)) (by decide))⟩
  have := wf_clen c (h.2 c hc).2
  exact ⟨this.1, Nat.lt_of_lt_of_le (Nat.sub_lt this.1 Nat.one_pos) this.2⟩

/-- at most `8 + 65536 · 8200` bytes -/
theorem serializedSize_le (b : Bitmap) (h : b.WF) : serializedSize b ≤ 537395208 := by
  have hlen := dir_length_le b h.dir
  refine Nat.le_trans (Nat.add_le_add_left (foldl_add_le _ 8200 b 0 fun c hc => ?_) 8)
    (Nat.add_le_add_left (Nat.add_le_add_left (Nat.mul_le_mul_left 8200 hlen) 0) 8)
  have hsz : 8 + cSize c ≤ 8200 := Nat.add_le_add_left (cSize_le c (h.2 c hc).2) 8
  obtain ⟨key, st⟩ := c
  cases st <;> exact hsz

theorem safe_serializedSize (b : Bitmap) (h : b.WF) : Safe_serializedSize b :=
  Nat.lt_of_le_of_lt (serializedSize_le b h) (by decide)

theorem safe_statistics (b : Bitmap) (h : b.WF) : Safe_statistics b := by
  have hlen := dir_length_le b h.dir
  have hfl : ∀ p, (b.filter p).length ≤ 65536 := fun p => Nat.le_trans (List.length_filter_le _ _) hlen
  -- an array store holds at most 4096 values
  have harr : ∀ c ∈ b, ∀ v, c.store = .array v → v.length ≤ 4096 := fun c hc v hs => by
    have := (h.2 c hc).2
    rw [hs] at this
    exact this.2.2
  refine ⟨Nat.lt_of_le_of_lt hlen (by decide), Nat.lt_of_le_of_lt (hfl _) (by decide),
    Nat.lt_of_le_of_lt (hfl _) (by decide), fun c hc => ?_, ?_, ?_, safe_len b h⟩
  · split
    · rename_i v hs
      exact Nat.lt_of_le_of_lt (harr c hc v hs) (by decide)
    · trivial
  · refine Nat.lt_of_le_of_lt
      (Nat.le_trans (len_le_mul 4096 _ fun c hc => ?_) (Nat.mul_le_mul_left _ (hfl _))) (by decide)
    obtain ⟨hcb, hp⟩ := List.mem_filter.1 hc
    unfold Container.len
    cases hs : c.store with
    | array v => exact harr c hcb v hs
    | bitmap bs => rw [hs] at hp; cases hp
  · exact Nat.lt_of_le_of_lt
      (Nat.le_trans (len_le_mul 65536 _ fun c hc => Container.len_le c (h.storesInv c (List.mem_filter.1 hc).1))
        (Nat.mul_le_mul_left _ (hfl _))) (by decide)

end Bitmap

namespace Treemap

/-- the partitions of a treemap are well-formed 32-bit bitmaps under `u32` keys (part of `TWF`) -/
def PartsWF (t : Treemap) : Prop := ∀ p ∈ t, p.1 < 4294967296 ∧ p.2.WF

theorem partsWF_pair {b : Bitmap} (h : b.WF) {j k : Nat} (hj : j < 4294967296) (hk : k < 4294967296) :
    PartsWF [(j, b), (k, b)] :=
  List.forall_mem_cons.2 ⟨⟨hj, h⟩, List.forall_mem_singleton.2 ⟨hk, h⟩⟩

theorem len_cons (p : Nat × Bitmap) (t : Treemap) : Treemap.len (p :: t) = Bitmap.len p.2 + Treemap.len t := by
  unfold Treemap.len
  rw [List.foldl_cons, foldl_add_eq, foldl_add_eq _ t, Nat.zero_add, Nat.zero_add]

theorem len_le_mul (t : Treemap) (h : PartsWF t) : Treemap.len t ≤ 4294967296 * t.length :=
  Nat.zero_add (4294967296 * t.length) ▸
    foldl_add_le (fun p : Nat × Bitmap => Bitmap.len p.2) 4294967296 t 0 fun p hp => Bitmap.wf_len_le p.2 (h p hp).2

theorem safe_split (v : Nat) (hv : v < 2^64) : Safe_split v := by
  unfold Safe_split
  rw [Nat.shiftRight_eq_div_pow]
  exact Nat.div_lt_of_lt_mul hv

theorem safe_join (hi lo : Nat) (hhi : hi < 4294967296) (hlo : lo < 4294967296) : Safe_join hi lo := by
  have h1 : hi <<< 32 < 2^64 := by
    rw [Nat.shiftLeft_eq]
    exact Nat.lt_of_le_of_lt (Nat.le_add_right _ lo) (Nat.lt_of_lt_of_le (Radix.mul_add_lt hhi hlo) (by decide))
  exact ⟨h1, Nat.or_lt_two_pow h1 (Nat.lt_trans hlo (by decide))⟩

theorem len_map_full : ∀ (l : List Nat), Bitmap.len (l.map Container.full) = 65536 * l.length := by
  intro l
  induction l with
  | nil => rfl
  | cons k l ih =>
    rw [List.map_cons, Bitmap.len_cons, ih, List.length_cons, Nat.mul_add_one, Nat.add_comm]
    rfl

theorem len_fullBitmap : Bitmap.len fullBitmap = 4294967296 := by
  unfold fullBitmap; rw [len_map_full, List.length_range]

theorem safe_insertRangeFull (old : Bitmap) (h : old.WF) : Safe_insertRangeFull old := by
  unfold Safe_insertRangeFull; rw [len_fullBitmap]; exact Bitmap.wf_len_le old h

/-- `len()` cannot overflow on a treemap with fewer than 2^32 partitions -/
theorem safe_len (t : Treemap) (h : PartsWF t) (hl : t.length < 4294967296) : Safe_len t :=
  Nat.lt_of_le_of_lt (len_le_mul t h) (Nat.mul_lt_mul_of_pos_left hl (by decide))

theorem safe_select (t : Treemap) (n : Nat) (h : PartsWF t) : Safe_select t n := by
  induction t generalizing n with
  | nil => trivial
  | cons p t ih =>
    obtain ⟨key, b⟩ := p
    obtain ⟨⟨hkey, hb⟩, ht⟩ := List.forall_mem_cons.1 h
    unfold Safe_select
    refine ite_intro (fun hn => ?_) fun hn => ⟨Nat.le_of_not_lt hn, ih _ ht⟩
    have hlt : n < (Bitmap.elems b).length := Bitmap.len_spec b hb ▸ hn
    have hsel : Bitmap.select b n = some (Bitmap.elems b)[n] := by
      rw [Bitmap.select_spec b hb n]
      exact List.getElem?_eq_getElem hlt
    rw [hsel]
    exact ⟨Nat.lt_of_lt_of_le hn (Bitmap.wf_len_le b hb), rfl,
      safe_join key _ hkey (Bitmap.elems_lt b hb.dir _ (List.getElem_mem hlt))⟩

/-- every partition up to the one of `v` counts for at most `2^32` -/
theorem rank_le (t : Treemap) (h : PartsWF t) (v : Nat) : Treemap.rank t v ≤ 4294967296 * t.length := by
  have hsub : PartsWF (range t .unb (.incl (split v).1)).reverse := fun q hq =>
    h q (List.mem_filter.1 (List.mem_reverse.1 hq)).1
  have hlen : (range t .unb (.incl (split v).1)).reverse.length ≤ t.length := by
    rw [List.length_reverse]
    exact List.length_filter_le _ _
  refine Nat.le_trans ?_ (Nat.mul_le_mul_left _ hlen)
  unfold Treemap.rank
  simp only []
  generalize (range t .unb (.incl (split v).1)).reverse = r at hsub
  cases r with
  | nil => exact Nat.zero_le _
  | cons p rest =>
    obtain ⟨hp, hrest⟩ := List.forall_mem_cons.1 hsub
    rw [List.length_cons, Nat.mul_add_one, Nat.add_comm (_ * _)]
    exact Nat.add_le_add (ite_le (Nat.le_trans (Bitmap.rank_le_len p.2 hp.2 _ (Nat.mod_lt _ (by decide)))
      (Bitmap.wf_len_le p.2 hp.2)) (Bitmap.wf_len_le p.2 hp.2)) (len_le_mul rest hrest)

theorem safe_rank (t : Treemap) (h : PartsWF t) (hl : t.length < 4294967296) (v : Nat) (hv : v < 2^64) :
    Safe_rank t v :=
  ⟨safe_split v hv, Nat.lt_of_le_of_lt (rank_le t h v) (Nat.mul_lt_mul_of_pos_left hl (by decide))⟩

end Treemap
end Roaring
