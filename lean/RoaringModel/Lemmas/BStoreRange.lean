import RoaringModel.Lemmas.BStoreBasic
import RoaringModel.Lemmas.MaskLemmas
/-!
# BitmapStore: range operations, rank/select, remove_smallest/biggest, the binary operations (bitmap_store.rs)

In the order of the file: counting set bits by masks (`maskedSum`, `countIn`); `insert_range`, `remove_range`,
`contains_range`, `rank`; `select`, `remove_smallest`, `remove_biggest`; the word-wise `op_bitmaps` operators with
`is_disjoint` / `is_subset`; the bitmap ⊕ array operators `subArr`, `xorArr`; `intersection_len` (both forms).
Statements are about `Roaring.BStore.*` under `BStore.Inv b`; `b.test i` is bit `i`, `b.toArray` the ascending list of
set bits (`Lemmas/BStoreBasic.lean`).  A range `[s, e]` acts on word `k` through the mask `Mask.rangeMask s e k`;
how many listed values satisfy a predicate given word by word by masks is a `maskedSum`.
-/
namespace Roaring
namespace BStore

open Mask

theorem bitsOf_eq (k w : Nat) (hw : w < 2^64) : drainWord (64 * k) 64 w = bitsOf k w :=
  drainWord_eq_bitsOf k w hw

theorem toArrayFrom_append (k : Nat) (a b : List Nat) :
    toArrayFrom k (a ++ b) = toArrayFrom k a ++ toArrayFrom (k + a.length) b := by
  induction a generalizing k with
  | nil => simp [toArrayFrom]
  | cons w a ih =>
    simp only [List.cons_append, toArrayFrom, ih, List.append_assoc, List.length_cons]
    congr 3; omega

/-- counting the members of one word that satisfy `p`, when `p` is given on that word by a mask -/
theorem filter_bitsOf_length (k w m : Nat) (p : Nat → Bool) (hw : w < 2^64)
    (hm : ∀ i, i < 64 → m.testBit i = p (64 * k + i)) :
    ((bitsOf k w).filter p).length = popcount (w &&& m) := by
  rw [← bitsOf_and k w m p hm, length_bitsOf _ _ (and_lt _ m hw)]

/-- `Σ_k popcount (w_k &&& M k)` over the words from index `k` on -/
def maskedSum (M : Nat → Nat) : Nat → List Nat → Nat
  | _, [] => 0
  | k, w :: ws => popcount (w &&& M k) + maskedSum M (k + 1) ws

theorem maskedSum_append (M : Nat → Nat) (k : Nat) (a b : List Nat) :
    maskedSum M k (a ++ b) = maskedSum M k a + maskedSum M (k + a.length) b := by
  induction a generalizing k with
  | nil => rw [List.nil_append, maskedSum, Nat.zero_add, List.length_nil, Nat.add_zero]
  | cons w a ih =>
    rw [List.cons_append, maskedSum, maskedSum, ih, List.length_cons, Nat.add_assoc k 1, Nat.add_comm 1,
      Nat.add_assoc (popcount _)]

theorem maskedSum_zero (M : Nat → Nat) (k : Nat) (ws : List Nat)
    (h : ∀ j, k ≤ j → j < k + ws.length → M j = 0) : maskedSum M k ws = 0 := by
  induction ws generalizing k with
  | nil => rfl
  | cons w ws ih =>
    rw [maskedSum, h k (Nat.le_refl k) (Nat.lt_add_of_pos_right (Nat.succ_pos _)), Nat.and_zero, popcount_zero,
      ih (k + 1) fun j h1 h2 => h j (Nat.le_of_succ_le h1) (Nat.add_right_comm k 1 _ ▸ h2)]

theorem maskedSum_full (M : Nat → Nat) (k : Nat) (ws : List Nat) (hw : ∀ w ∈ ws, w < 2^64)
    (h : ∀ j, k ≤ j → j < k + ws.length → M j = wMax) : maskedSum M k ws = popSum ws := by
  induction ws generalizing k with
  | nil => rfl
  | cons w ws ih =>
    rw [maskedSum, popSum_cons, h k (Nat.le_refl k) (Nat.lt_add_of_pos_right (Nat.succ_pos _)),
      and_wMax (hw w List.mem_cons_self),
      ih (k + 1) (fun x hx => hw x (List.mem_cons_of_mem _ hx))
        fun j h1 h2 => h j (Nat.le_of_succ_le h1) (Nat.add_right_comm k 1 _ ▸ h2)]

/-- counting the members satisfying `p`, when `p` is given word by word by the masks `M k` -/
theorem filter_toArrayFrom_length (M : Nat → Nat) (p : Nat → Bool) (k : Nat) (ws : List Nat)
    (hw : ∀ w ∈ ws, w < 2^64)
    (hm : ∀ j i, j < ws.length → i < 64 → (M (k + j)).testBit i = p (64 * (k + j) + i)) :
    ((toArrayFrom k ws).filter p).length = maskedSum M k ws := by
  induction ws generalizing k with
  | nil => rfl
  | cons w ws ih =>
    have h1 : w < 2^64 := hw w (by simp)
    rw [toArrayFrom_cons k w ws h1, List.filter_append, List.length_append, maskedSum,
      filter_bitsOf_length k w (M k) p h1 (fun i hi => by simpa using hm 0 i (by simp) hi),
      ih (k+1) (fun x hx => hw x (by simp [hx]))]
    intro j i hj hi
    rw [Nat.add_right_comm k 1 j]
    exact hm (j+1) i (Nat.succ_lt_succ hj) hi

theorem toArray_eq_filter (b : BStore) (hb : b.Inv) :
    b.toArray = (List.range 65536).filter (fun x => b.test x) := by
  apply Roaring.sorted_ext _ _ (sorted_toArray b hb) (List.Pairwise.filter _ List.pairwise_lt_range)
  intro x
  rw [mem_toArray b hb, List.mem_filter, List.mem_range]

theorem len_eq_countP (b : BStore) (hb : b.Inv) :
    b.len = (List.range 65536).countP (fun x => b.test x) := by
  rw [← length_toArray b hb, toArray_eq_filter b hb, List.countP_eq_length_filter]

theorem popSum_eq_countP (bits : List Nat) (hl : bits.length = 1024) (hw : ∀ w ∈ bits, w < 2^64) :
    popSum bits = (List.range 65536).countP (fun x => (word bits (x / 64)).testBit (x % 64)) :=
  len_eq_countP { len := popSum bits, bits := bits } ⟨hl, hw, rfl⟩

theorem countP_not_and {α} (l : List α) (p q : α → Bool) :
    l.countP (fun x => !p x && q x) + l.countP (fun x => p x && q x) = l.countP q := by
  have hz : l.countP (fun x => (!p x && q x) && (p x && q x)) = 0 :=
    List.countP_eq_zero.2 fun x _ => by cases p x <;> simp
  rw [← countP_or_and, hz, Nat.add_zero]
  exact List.countP_congr fun x _ => by cases p x <;> simp

theorem countP_interval (s e n : Nat) :
    (List.range n).countP (fun x => decide (s ≤ x) && decide (x ≤ e)) = min n (e + 1) - s := by
  induction n with
  | zero => rw [List.range_zero, List.countP_nil, Nat.zero_min, Nat.zero_sub]
  | succ n ih =>
    rw [List.range_succ, List.countP_append, ih, List.countP_singleton]
    simp only [Bool.and_eq_true, decide_eq_true_eq]
    -- `n` itself is counted iff `s ≤ n ≤ e`; the three cases `n < s`, `s ≤ n ≤ e`, `e < n` by hand
    by_cases hn : n ≤ e
    · rw [Nat.min_eq_left (Nat.le_succ_of_le hn), Nat.min_eq_left (Nat.succ_le_succ hn)]
      by_cases hs : s ≤ n
      · rw [if_pos ⟨hs, hn⟩, Nat.succ_sub hs]
      · rw [if_neg (fun h => hs h.1), Nat.sub_eq_zero_of_le (Nat.le_of_lt (Nat.lt_of_not_le hs)),
          Nat.sub_eq_zero_of_le (Nat.lt_of_not_le hs)]
    · rw [Nat.min_eq_right (Nat.lt_of_not_le hn), Nat.min_eq_right (Nat.le_succ_of_le (Nat.lt_of_not_le hn)),
        if_neg (fun h => hn h.2)]
      rfl

theorem countP_interval_lt (s e n : Nat) (hse : s ≤ e) (he : e < n) :
    (List.range n).countP (fun x => decide (s ≤ x) && decide (x ≤ e)) = e - s + 1 := by
  rw [countP_interval, Nat.min_eq_right (Nat.succ_le_of_lt he), Nat.succ_sub hse]

/-- number of set bits inside `[s, e]` -/
def countIn (b : BStore) (s e : Nat) : Nat := (b.toArray.filter (fun x => decide (s ≤ x) && decide (x ≤ e))).length

/-! ## Range operations (`insert_range`, `remove_range`, `contains_range`) and `rank` -/

/-- all masks but the one at `k` vanish -/
theorem maskedSum_one (M : Nat → Nat) (bits : List Nat) (k : Nat) (hk : k < bits.length)
    (h0 : ∀ j, j < k ∨ k < j → M j = 0) : maskedSum M 0 bits = popcount (word bits k &&& M k) := by
  have hlen : (bits.take k).length = k := List.length_take_of_le (Nat.le_of_lt hk)
  conv => lhs; rw [split_at bits k hk]
  rw [maskedSum_append, maskedSum, hlen, Nat.zero_add,
    maskedSum_zero M 0 _ fun j _ hj => h0 j (Or.inl (by rwa [Nat.zero_add, hlen] at hj)),
    maskedSum_zero M (k + 1) _ fun j hj _ => h0 j (Or.inr hj), Nat.zero_add, Nat.add_zero]

/-- the masks vanish outside `[sk, ek]` and are full strictly inside -/
theorem maskedSum_three (M : Nat → Nat) (bits : List Nat) (hw : ∀ w ∈ bits, w < 2^64) (sk ek : Nat) (h : sk < ek)
    (hk : ek < bits.length) (h0 : ∀ j, j < sk ∨ ek < j → M j = 0) (hmid : ∀ j, sk < j → j < ek → M j = wMax) :
    maskedSum M 0 bits =
      popcount (word bits sk &&& M sk) + popSum ((bits.drop (sk + 1)).take (ek - (sk + 1)))
        + popcount (word bits ek &&& M ek) := by
  have hlen : (bits.take sk).length = sk := List.length_take_of_le (Nat.le_of_lt (Nat.lt_trans h hk))
  have hlen2 : sk + 1 + ((bits.drop (sk + 1)).take (ek - (sk + 1))).length = ek := by
    rw [List.length_take_of_le (by rw [List.length_drop]; exact Nat.sub_le_sub_right (Nat.le_of_lt hk) _),
      Nat.add_sub_cancel' h]
  conv => lhs; rw [split_range bits sk ek h hk]
  rw [maskedSum_append, maskedSum, maskedSum_append, maskedSum, hlen, Nat.zero_add, hlen2,
    maskedSum_zero M 0 _ fun j _ hj => h0 j (Or.inl (by rwa [Nat.zero_add, hlen] at hj)),
    maskedSum_zero M (ek + 1) _ fun j hj _ => h0 j (Or.inr hj),
    maskedSum_full M (sk + 1) _ (fun w hm => hw w (List.mem_of_mem_drop (List.mem_of_mem_take hm)))
      fun j h1 h2 => hmid j h1 (hlen2 ▸ h2)]
  simp only [Nat.zero_add, Nat.add_zero, Nat.add_assoc]

theorem maskedSum_range_same (bits : List Nat) (s e : Nat) (h : s / 64 = e / 64) (hk : s / 64 < bits.length) :
    maskedSum (rangeMask s e) 0 bits = popcount (word bits (s / 64) &&& (maskLE (e % 64) &&& maskGE (s % 64))) := by
  rw [maskedSum_one _ bits _ hk fun j hj => rangeMask_out s e j (hj.imp id fun h' => h ▸ h'), rangeMask_same s e h]

theorem maskedSum_range_span (bits : List Nat) (hw : ∀ w ∈ bits, w < 2^64) (s e : Nat) (h : s / 64 < e / 64)
    (hk : e / 64 < bits.length) :
    maskedSum (rangeMask s e) 0 bits =
      popcount (word bits (s / 64) &&& maskGE (s % 64))
      + popSum ((bits.drop (s / 64 + 1)).take (e / 64 - (s / 64 + 1)))
      + popcount (word bits (e / 64) &&& maskLE (e % 64)) := by
  rw [maskedSum_three _ bits hw _ _ h hk (rangeMask_out s e) (rangeMask_mid s e), rangeMask_first s e h,
    rangeMask_last s e h]

theorem countIn_eq_maskedSum (b : BStore) (hb : b.Inv) (s e : Nat) :
    b.countIn s e = maskedSum (rangeMask s e) 0 b.bits := by
  unfold countIn toArray
  apply filter_toArrayFrom_length (rangeMask s e) _ 0 b.bits hb.words
  intro j i _ hi
  rw [rangeMask_testBit s e (0 + j) i hi]

/-! ### the common shape of `insert_range` and `remove_range`

Both combine the first and the last word of the range with a mask by some `f`, overwrite the words in between with a
constant `c` (which is `f · wMax`), and count on the way the bits of the range that are set.  `rangeUpd` and `rangeCnt`
are that shape with `f` and `c` left open; word `k` of the result is `f (word bits k) (rangeMask s e k)`. -/

def rangeUpd (f : Nat → Nat → Nat) (c : Nat) (bits : List Nat) (s e : Nat) : List Nat :=
  if s / 64 = e / 64 then bits.set (s / 64) (f (word bits (s / 64)) (maskLE (e % 64) &&& maskGE (s % 64)))
  else
    (fillWords (bits.set (s / 64) (f (word bits (s / 64)) (maskGE (s % 64)))) (s / 64 + 1) (e / 64) c).set (e / 64)
      (f (word (fillWords (bits.set (s / 64) (f (word bits (s / 64)) (maskGE (s % 64)))) (s / 64 + 1) (e / 64) c)
        (e / 64)) (maskLE (e % 64)))

def rangeCnt (f : Nat → Nat → Nat) (c : Nat) (bits : List Nat) (s e : Nat) : Nat :=
  if s / 64 = e / 64 then popcount (word bits (s / 64) &&& (maskLE (e % 64) &&& maskGE (s % 64)))
  else
    popcount (word bits (s / 64) &&& maskGE (s % 64))
      + popSum (((bits.set (s / 64) (f (word bits (s / 64)) (maskGE (s % 64)))).drop (s / 64 + 1)).take
          (e / 64 - (s / 64 + 1)))
      + popcount (word (fillWords (bits.set (s / 64) (f (word bits (s / 64)) (maskGE (s % 64)))) (s / 64 + 1) (e / 64) c)
          (e / 64) &&& maskLE (e % 64))

theorem insertRange_same (b : BStore) (s e : Nat) (h : s / 64 = e / 64) :
    b.insertRange s e =
      ({ len := b.len + (e - s + 1 - popcount (word b.bits (s / 64) &&& (maskLE (e % 64) &&& maskGE (s % 64)))),
         bits := b.bits.set (s / 64) (word b.bits (s / 64) ||| (maskLE (e % 64) &&& maskGE (s % 64))) },
       e - s + 1 - popcount (word b.bits (s / 64) &&& (maskLE (e % 64) &&& maskGE (s % 64)))) := by
  have h' : wkey s = wkey e := h
  unfold insertRange
  rw [if_pos h']
  rfl

theorem insertRange_span (b : BStore) (s e : Nat) (h : ¬ s / 64 = e / 64) :
    b.insertRange s e =
      (let sk := s / 64; let sb := s % 64; let ek := e / 64; let eb := e % 64
       let bits1 := b.bits.set sk (word b.bits sk ||| maskGE sb)
       let bits2 := fillWords bits1 (sk + 1) ek wMax
       let existed := popcount (word b.bits sk &&& maskGE sb) + popSum ((bits1.drop (sk + 1)).take (ek - (sk + 1)))
         + popcount (word bits2 ek &&& maskLE eb)
       ({ len := b.len + (e - s + 1 - existed), bits := bits2.set ek (word bits2 ek ||| maskLE eb) },
        e - s + 1 - existed)) := by
  have h' : ¬ wkey s = wkey e := h
  unfold insertRange
  rw [if_neg h']
  rfl

theorem removeRange_same (b : BStore) (s e : Nat) (h : s / 64 = e / 64) :
    b.removeRange s e =
      ({ len := b.len - popcount (word b.bits (s / 64) &&& (shlMax (s % 64) &&& shrMax (e % 64))),
         bits := b.bits.set (s / 64) (word b.bits (s / 64) &&& not64 (shlMax (s % 64) &&& shrMax (e % 64))) },
       popcount (word b.bits (s / 64) &&& (shlMax (s % 64) &&& shrMax (e % 64)))) := by
  have h' : wkey s = wkey e := h
  unfold removeRange
  rw [if_pos h']
  rfl

theorem removeRange_span (b : BStore) (s e : Nat) (h : ¬ s / 64 = e / 64) :
    b.removeRange s e =
      (let sk := s / 64; let sb := s % 64; let ek := e / 64; let eb := e % 64
       let bits1 := b.bits.set sk (word b.bits sk &&& not64 (shlMax sb))
       let bits2 := fillWords bits1 (sk + 1) ek 0
       let removed := popcount (word b.bits sk &&& shlMax sb) + popSum ((bits1.drop (sk + 1)).take (ek - (sk + 1)))
         + popcount (word bits2 ek &&& shrMax eb)
       ({ len := b.len - removed, bits := bits2.set ek (word bits2 ek &&& not64 (shrMax eb)) }, removed)) := by
  have h' : ¬ wkey s = wkey e := h
  unfold removeRange
  rw [if_neg h']
  rfl

theorem insertRange_eq (b : BStore) (s e : Nat) :
    b.insertRange s e =
      ({ len := b.len + (e - s + 1 - rangeCnt (· ||| ·) wMax b.bits s e),
         bits := rangeUpd (· ||| ·) wMax b.bits s e },
       e - s + 1 - rangeCnt (· ||| ·) wMax b.bits s e) := by
  by_cases h : s / 64 = e / 64
  · rw [insertRange_same b s e h, rangeUpd, rangeCnt, if_pos h, if_pos h]
  · rw [insertRange_span b s e h, rangeUpd, rangeCnt, if_neg h, if_neg h]

theorem removeRange_eq (b : BStore) (s e : Nat) :
    b.removeRange s e =
      ({ len := b.len - rangeCnt (fun w m => w &&& not64 m) 0 b.bits s e,
         bits := rangeUpd (fun w m => w &&& not64 m) 0 b.bits s e },
       rangeCnt (fun w m => w &&& not64 m) 0 b.bits s e) := by
  have hs := shlMax_eq (Nat.mod_lt s (by decide : 64 > 0))
  have he := shrMax_eq (Nat.mod_lt e (by decide : 64 > 0))
  by_cases h : s / 64 = e / 64
  · rw [removeRange_same b s e h, rangeUpd, rangeCnt, if_pos h, if_pos h, hs, he, Nat.and_comm (maskGE (s % 64))]
  · rw [removeRange_span b s e h, rangeUpd, rangeCnt, if_neg h, if_neg h]
    simp only [hs, he]

theorem word_fill_set (bits : List Nat) (sk ek v c : Nat) (h : sk < ek) (hek : ek ≤ bits.length) (k : Nat) :
    word (fillWords (bits.set sk v) (sk + 1) ek c) k =
      if sk + 1 ≤ k ∧ k < ek then c else if k = sk then v else word bits k := by
  rw [word_fillWords _ _ _ _ _ h (by rw [List.length_set]; exact hek), word_set _ _ _ _ (Nat.lt_of_lt_of_le h hek)]

theorem word_fill_set_last (bits : List Nat) (sk ek v c : Nat) (h : sk < ek) (hek : ek ≤ bits.length) :
    word (fillWords (bits.set sk v) (sk + 1) ek c) ek = word bits ek := by
  rw [word_fill_set _ _ _ _ _ h hek, if_neg fun h' => Nat.lt_irrefl _ h'.2, if_neg (Nat.ne_of_gt h)]

theorem length_rangeUpd (f : Nat → Nat → Nat) (c : Nat) (bits : List Nat) (s e : Nat) (hse : s / 64 ≤ e / 64)
    (hek : e / 64 < bits.length) : (rangeUpd f c bits s e).length = bits.length := by
  unfold rangeUpd
  by_cases h : s / 64 = e / 64
  · rw [if_pos h]; exact List.length_set
  · rw [if_neg h, List.length_set, length_fillWords _ _ _ _ (Nat.lt_of_le_of_ne hse h)
      (by rw [List.length_set]; exact Nat.le_of_lt hek), List.length_set]

theorem word_rangeUpd (f : Nat → Nat → Nat) (c : Nat) (hf0 : ∀ w, w < 2^64 → f w 0 = w)
    (hfc : ∀ w, w < 2^64 → f w wMax = c) (bits : List Nat) (hw : ∀ w ∈ bits, w < 2^64) (s e : Nat)
    (hse : s / 64 ≤ e / 64) (hek : e / 64 < bits.length) (k : Nat) :
    word (rangeUpd f c bits s e) k = f (word bits k) (rangeMask s e k) := by
  have hlen := length_rangeUpd f c bits s e hse hek
  unfold rangeUpd at hlen ⊢
  by_cases h : s / 64 = e / 64
  · rw [if_pos h, word_set _ _ _ _ (Nat.lt_of_le_of_lt hse hek)]
    by_cases c1 : k = s / 64
    · subst c1; rw [if_pos rfl, rangeMask_same s e h]
    · rw [if_neg c1, rangeMask_out s e k ((Nat.lt_or_gt_of_ne c1).imp id fun h' => h ▸ h'), hf0 _ (word_lt hw k)]
  · have hlt : s / 64 < e / 64 := Nat.lt_of_le_of_ne hse h
    rw [if_neg h, List.length_set] at hlen
    rw [if_neg h, word_set _ _ _ _ (hlen ▸ hek), word_fill_set_last _ _ _ _ _ hlt (Nat.le_of_lt hek),
      word_fill_set _ _ _ _ _ hlt (Nat.le_of_lt hek)]
    by_cases c1 : k = e / 64
    · subst c1; rw [if_pos rfl, rangeMask_last s e hlt]
    · rw [if_neg c1]
      by_cases c2 : s / 64 + 1 ≤ k ∧ k < e / 64
      · rw [if_pos c2, rangeMask_mid s e k c2.1 c2.2, hfc _ (word_lt hw k)]
      · rw [if_neg c2]
        by_cases c3 : k = s / 64
        · subst c3; rw [if_pos rfl, rangeMask_first s e hlt]
        · rw [if_neg c3, rangeMask_out s e k ((Nat.lt_or_gt_of_ne c3).imp id fun h =>
            Nat.lt_of_le_of_ne (Nat.le_of_not_lt fun h' => c2 ⟨h, h'⟩) (Ne.symm c1)), hf0 _ (word_lt hw k)]

theorem rangeCnt_eq (f : Nat → Nat → Nat) (c : Nat) (bits : List Nat) (hw : ∀ w ∈ bits, w < 2^64) (s e : Nat)
    (hse : s / 64 ≤ e / 64) (hek : e / 64 < bits.length) :
    rangeCnt f c bits s e = maskedSum (rangeMask s e) 0 bits := by
  unfold rangeCnt
  by_cases h : s / 64 = e / 64
  · rw [if_pos h, maskedSum_range_same bits s e h (Nat.lt_of_le_of_lt hse hek)]
  · have hlt : s / 64 < e / 64 := Nat.lt_of_le_of_ne hse h
    rw [if_neg h, maskedSum_range_span bits hw s e hlt hek, List.drop_set_of_lt (Nat.lt_succ_self _),
      word_fill_set_last _ _ _ _ _ hlt (Nat.le_of_lt hek)]

theorem test_eq (b : BStore) (x : Nat) : b.test x = (word b.bits (x / 64)).testBit (x % 64) := rfl

theorem countIn_eq_countP (b : BStore) (hb : b.Inv) (s e : Nat) :
    b.countIn s e = (List.range 65536).countP (fun x => (decide (s ≤ x) && decide (x ≤ e)) && b.test x) := by
  unfold countIn
  rw [toArray_eq_filter b hb, List.filter_filter, List.countP_eq_length_filter]

/-- what both range operations do to a store satisfying the invariant, bit by bit (`g` is `f` on single bits), and the
    cardinality of the result as a count over all positions -/
theorem rangeUpd_spec (f : Nat → Nat → Nat) (c : Nat) (g : Bool → Bool → Bool)
    (hf0 : ∀ w, w < 2^64 → f w 0 = w) (hfc : ∀ w, w < 2^64 → f w wMax = c)
    (hlt : ∀ w m, w < 2^64 → m < 2^64 → f w m < 2^64)
    (hg : ∀ w m i, m < 2^64 → i < 64 → (f w m).testBit i = g (m.testBit i) (w.testBit i))
    (b : BStore) (hb : b.Inv) (s e : Nat) (hse : s ≤ e) (he : e < 65536) :
    (rangeUpd f c b.bits s e).length = 1024 ∧ (∀ w ∈ rangeUpd f c b.bits s e, w < 2^64) ∧
    (∀ x, (word (rangeUpd f c b.bits s e) (x / 64)).testBit (x % 64)
      = g (decide (s ≤ x) && decide (x ≤ e)) (b.test x)) ∧
    popSum (rangeUpd f c b.bits s e)
      = (List.range 65536).countP (fun x => g (decide (s ≤ x) && decide (x ≤ e)) (b.test x)) := by
  have hle : s / 64 ≤ e / 64 := Nat.div_le_div_right hse
  have hek : e / 64 < b.bits.length := hb.wkey_lt he
  have hword := word_rangeUpd f c hf0 hfc b.bits hb.words s e hle hek
  have hlen : (rangeUpd f c b.bits s e).length = 1024 := by rw [length_rangeUpd f c _ s e hle hek, hb.length]
  have hwords : ∀ w ∈ rangeUpd f c b.bits s e, w < 2^64 := words_of_word _ fun k _ => by
    rw [hword k]; exact hlt _ _ (word_lt hb.words k) (rangeMask_lt s e k)
  have htest : ∀ x, (word (rangeUpd f c b.bits s e) (x / 64)).testBit (x % 64)
      = g (decide (s ≤ x) && decide (x ≤ e)) (b.test x) := fun x => by
    have hx64 : x % 64 < 64 := Nat.mod_lt x (by decide)
    rw [hword, hg _ _ _ (rangeMask_lt s e _) hx64, rangeMask_testBit s e _ _ hx64, Nat.div_add_mod]
    rfl
  refine ⟨hlen, hwords, htest, ?_⟩
  rw [popSum_eq_countP _ hlen hwords]
  exact List.countP_congr fun x _ => by rw [htest x]

theorem rangeCnt_eq_countIn (f : Nat → Nat → Nat) (c : Nat) (b : BStore) (hb : b.Inv) (s e : Nat) (hse : s ≤ e)
    (he : e < 65536) : rangeCnt f c b.bits s e = b.countIn s e := by
  rw [countIn_eq_maskedSum b hb]
  exact rangeCnt_eq f c _ hb.words s e (Nat.div_le_div_right hse) (hb.wkey_lt he)

theorem add_sub_of_add_eq {x c b i : Nat} (h : x + c = i + b) (hc : c ≤ i) : b + (i - c) = x := by omega

theorem insertRange_spec (b : BStore) (hb : b.Inv) (s e : Nat) (hse : s ≤ e) (he : e < 65536) :
    (b.insertRange s e).1.Inv ∧
    (∀ x, (b.insertRange s e).1.test x = ((decide (s ≤ x) && decide (x ≤ e)) || b.test x)) ∧
    (b.insertRange s e).2 = (e - s + 1) - b.countIn s e := by
  obtain ⟨hlen, hwords, htest, hpop⟩ := rangeUpd_spec (· ||| ·) wMax (· || ·) (fun w _ => Nat.or_zero w)
    (fun _ hw => or_wMax hw) (fun _ _ hw hm => Nat.or_lt_two_pow hw hm)
    (fun w m i _ _ => (Nat.testBit_or w m i).trans (Bool.or_comm _ _)) b hb s e hse he
  rw [insertRange_eq, rangeCnt_eq_countIn _ _ b hb s e hse he]
  refine ⟨⟨hlen, hwords, ?_⟩, htest, rfl⟩
  -- the cached cardinality: `|I ∪ A| = |A| + (|I| - |I ∩ A|)`, all four counted over the 65536 positions
  dsimp only
  rw [hpop, len_eq_countP b hb, countIn_eq_countP b hb, ← countP_interval_lt s e 65536 hse he]
  exact add_sub_of_add_eq (countP_or_and _ _ _)
    (List.countP_mono_left fun x _ h => (Bool.and_eq_true _ _ ▸ h).1)

theorem removeRange_spec (b : BStore) (hb : b.Inv) (s e : Nat) (hse : s ≤ e) (he : e < 65536) :
    (b.removeRange s e).1.Inv ∧
    (∀ x, (b.removeRange s e).1.test x = (!(decide (s ≤ x) && decide (x ≤ e)) && b.test x)) ∧
    (b.removeRange s e).2 = b.countIn s e := by
  obtain ⟨hlen, hwords, htest, hpop⟩ := rangeUpd_spec (fun w m => w &&& not64 m) 0 (fun p q => !p && q)
    (fun _ hw => and_not64_zero hw) (fun w _ => by rw [not64_wMax, Nat.and_zero]) (fun _ _ hw _ => and_lt _ _ hw)
    (fun w m i hm hi => by
      rw [Nat.testBit_and, not64_testBit_of_lt hm, Bool.and_comm]; simp only [hi, decide_true, Bool.true_and])
    b hb s e hse he
  rw [removeRange_eq, rangeCnt_eq_countIn _ _ b hb s e hse he]
  refine ⟨⟨hlen, hwords, ?_⟩, htest, rfl⟩
  dsimp only
  rw [hpop, len_eq_countP b hb, countIn_eq_countP b hb]
  exact Nat.sub_eq_of_eq_add (countP_not_and _ _ _).symm

theorem containsRange_small (b : BStore) (s e : Nat) (h : b.len < e - s + 1) : b.containsRange s e = false := by
  unfold containsRange; rw [if_pos h]

theorem containsRange_same (b : BStore) (s e : Nat) (hlen : ¬ b.len < e - s + 1) (h : s / 64 = e / 64) :
    b.containsRange s e = (word b.bits (s / 64) &&& (maskGE (s % 64) &&& shrMax' (e % 64))
      == (maskGE (s % 64) &&& shrMax' (e % 64))) := by
  have h' : wkey s = wkey e := h
  unfold containsRange
  rw [if_neg hlen]; simp only []; rw [if_pos h']; rfl

theorem containsRange_span (b : BStore) (s e : Nat) (hlen : ¬ b.len < e - s + 1) (h : ¬ s / 64 = e / 64) :
    b.containsRange s e = ((word b.bits (s / 64) &&& maskGE (s % 64) == maskGE (s % 64))
        && ((b.bits.drop (s / 64 + 1)).take (e / 64 - (s / 64 + 1))).all (· == wMax)
        && (word b.bits (e / 64) &&& shrMax' (e % 64) == shrMax' (e % 64))) := by
  have h' : ¬ wkey s = wkey e := h
  unfold containsRange
  rw [if_neg hlen]; simp only []; rw [if_neg h']; rfl

/-- a property of all the masks of a range, read off the three kinds of word: the first, the full ones between, the last -/
theorem forall_rangeMask (P : Nat → Nat → Prop) (s e : Nat) (hP0 : ∀ k, P k 0) (hle : s / 64 ≤ e / 64) :
    (∀ k, P k (rangeMask s e k)) ↔
      if s / 64 = e / 64 then P (s / 64) (maskLE (e % 64) &&& maskGE (s % 64))
      else P (s / 64) (maskGE (s % 64)) ∧ (∀ k, s / 64 + 1 ≤ k → k < e / 64 → P k wMax) ∧ P (e / 64) (maskLE (e % 64)) := by
  by_cases h : s / 64 = e / 64
  · rw [if_pos h, ← rangeMask_same s e h]
    refine ⟨fun hc => hc _, fun h1 k => ?_⟩
    by_cases c : k = s / 64
    · exact c ▸ h1
    · rw [rangeMask_out s e k ((Nat.lt_or_gt_of_ne c).imp id fun h' => h ▸ h')]; exact hP0 k
  · have hlt : s / 64 < e / 64 := Nat.lt_of_le_of_ne hle h
    rw [if_neg h, ← rangeMask_first s e hlt, ← rangeMask_last s e hlt]
    refine ⟨fun hc => ⟨hc _, fun k h1 h2 => rangeMask_mid s e k h1 h2 ▸ hc k, hc _⟩, fun ⟨h1, h2, h3⟩ k => ?_⟩
    by_cases c1 : k = s / 64
    · exact c1 ▸ h1
    · by_cases c2 : k = e / 64
      · exact c2 ▸ h3
      · by_cases c3 : s / 64 < k ∧ k < e / 64
        · rw [rangeMask_mid s e k c3.1 c3.2]; exact h2 k c3.1 c3.2
        · rw [rangeMask_out s e k ((Nat.lt_or_gt_of_ne c1).imp id fun h =>
            Nat.lt_of_le_of_ne (Nat.le_of_not_lt fun h' => c3 ⟨h, h'⟩) (Ne.symm c2))]
          exact hP0 k

theorem and_eq_zero_iff_bits {x : Nat} (y : Nat) (hx : x < 2^64) :
    (x &&& y == 0) = true ↔ ∀ i, i < 64 → ¬ (x.testBit i = true ∧ y.testBit i = true) := by
  rw [beq_iff_eq, word_ext_iff (and_lt _ y hx) (Nat.two_pow_pos 64)]
  refine forall_congr' fun i => forall_congr' fun _ => ?_
  rw [Nat.testBit_and, Nat.zero_testBit]
  cases x.testBit i <;> cases y.testBit i <;> simp

theorem and_eq_left_iff_bits {x : Nat} (y : Nat) (hx : x < 2^64) :
    (x &&& y == x) = true ↔ ∀ i, i < 64 → x.testBit i = true → y.testBit i = true := by
  rw [beq_iff_eq, word_ext_iff (and_lt _ y hx) hx]
  refine forall_congr' fun i => forall_congr' fun _ => ?_
  rw [Nat.testBit_and]
  cases x.testBit i <;> cases y.testBit i <;> simp

/-- every word covers its part of the range -/
def Covers (b : BStore) (s e : Nat) : Prop :=
  ∀ k, word b.bits k &&& rangeMask s e k = rangeMask s e k

theorem covers_iff (b : BStore) (s e : Nat) :
    Covers b s e ↔ ∀ x, s ≤ x → x ≤ e → b.test x = true := by
  rw [Radix.forall_mul_add (B := 64) (by decide)]
  refine forall_congr' fun k => ?_
  rw [Nat.and_comm, ← beq_iff_eq, and_eq_left_iff_bits _ (rangeMask_lt s e k)]
  refine forall_congr' fun i => forall_congr' fun hi => ?_
  rw [rangeMask_testBit s e k i hi, Bool.and_eq_true, decide_eq_true_eq, decide_eq_true_eq, test_eq, Nat.mul_comm k 64,
    pos_div k hi, pos_mod k hi, and_imp]

theorem len_ge_of_range (b : BStore) (hb : b.Inv) (s e : Nat) (hse : s ≤ e) (he : e < 65536)
    (h : ∀ x, s ≤ x → x ≤ e → b.test x = true) : e - s + 1 ≤ b.len := by
  rw [len_eq_countP b hb, ← countP_interval_lt s e 65536 hse he]
  apply List.countP_mono_left
  intro x _ hx
  rw [Bool.and_eq_true, decide_eq_true_eq, decide_eq_true_eq] at hx
  exact h x hx.1 hx.2

theorem containsRange_spec (b : BStore) (hb : b.Inv) (s e : Nat) (hse : s ≤ e) (he : e < 65536) :
    b.containsRange s e = true ↔ ∀ x, s ≤ x → x ≤ e → b.test x = true := by
  by_cases hlen : b.len < e - s + 1
  · rw [containsRange_small b s e hlen]
    exact ⟨fun h => absurd h Bool.false_ne_true,
      fun h => absurd (len_ge_of_range b hb s e hse he h) (Nat.not_le_of_lt hlen)⟩
  · have hle : s / 64 ≤ e / 64 := Nat.div_le_div_right hse
    have heb := shrMax'_eq (Nat.mod_lt e (by decide : 64 > 0))
    rw [← covers_iff, Covers, forall_rangeMask (fun k m => word b.bits k &&& m = m) s e (fun _ => Nat.and_zero _) hle]
    by_cases h : s / 64 = e / 64
    · rw [if_pos h, containsRange_same b s e hlen h, beq_iff_eq, heb, Nat.and_comm (maskGE (s % 64))]
    · have hlt : s / 64 < e / 64 := Nat.lt_of_le_of_ne hle h
      rw [if_neg h, containsRange_span b s e hlen h, Bool.and_eq_true, Bool.and_eq_true, beq_iff_eq, beq_iff_eq,
        and_assoc, heb, all_drop_take _ _ _ _ (by rw [Nat.add_sub_cancel' hlt]; exact Nat.le_of_lt (hb.wkey_lt he)),
        Nat.add_sub_cancel' hlt]
      simp only [beq_iff_eq, and_wMax (word_lt hb.words _)]

theorem rank_spec (b : BStore) (hb : b.Inv) (i : Nat) (hi : i < 65536) :
    b.rank i = (b.toArray.filter (· ≤ i)).length := by
  have hk : i / 64 < b.bits.length := hb.wkey_lt hi
  have hlen : (b.bits.take (i / 64)).length = i / 64 := List.length_take_of_le (Nat.le_of_lt hk)
  have h1 : (b.toArray.filter (· ≤ i)).length = maskedSum (rankMask i) 0 b.bits :=
    filter_toArrayFrom_length (rankMask i) _ 0 b.bits hb.words fun j i' _ hi' => rankMask_testBit i (0 + j) i' hi'
  -- full masks below word `i / 64`, `maskLE` at it, nothing above
  have h2 : maskedSum (rankMask i) 0 b.bits
      = popSum (b.bits.take (i / 64)) + popcount (word b.bits (i / 64) &&& maskLE (i % 64)) := by
    have hat : rankMask i (i / 64) = maskLE (i % 64) := (if_neg (Nat.lt_irrefl _)).trans (if_pos rfl)
    conv => lhs; rw [split_at b.bits (i / 64) hk]
    rw [maskedSum_append, maskedSum, hlen, Nat.zero_add, hat,
      maskedSum_full (rankMask i) 0 _ (fun w hm => hb.words w (List.mem_of_mem_take hm))
        fun j _ hj => if_pos (by rwa [Nat.zero_add, hlen] at hj),
      maskedSum_zero (rankMask i) (i / 64 + 1) _
        fun j hj _ => (if_neg (Nat.lt_asymm hj)).trans (if_neg (Nat.ne_of_gt hj)),
      Nat.add_zero]
  rw [h1, h2]
  unfold rank
  simp only [wkey, wbit]
  rw [popcount_shl_rank _ _ (Nat.mod_lt _ (by decide))]

/-! ## `select`, `remove_smallest`, `remove_biggest` -/

theorem popLow_zero : popLow 0 = 0 := by simp [popLow]

theorem bitPos_popLow (w : Nat) (hw : w < 2^64) : bitPos (popLow w) = (bitPos w).tail := by
  by_cases h0 : w = 0
  · subst h0; rw [popLow_zero, Roaring.bitPos_zero]; rfl
  · rw [Roaring.bitPos_step w h0 hw]; rfl

theorem popLowN_lt (n : Nat) : ∀ {w : Nat}, w < 2^64 → popLowN w n < 2^64 := by
  induction n with
  | zero => intro w hw; exact hw
  | succ n ih => intro w hw; exact ih (popLow_lt _ hw)

theorem bitPos_popLowN (n : Nat) : ∀ (w : Nat), w < 2^64 → bitPos (popLowN w n) = (bitPos w).drop n := by
  induction n with
  | zero => intro w _; rfl
  | succ n ih =>
    intro w hw
    show bitPos (popLowN (popLow w) n) = _
    rw [ih _ (popLow_lt _ hw), bitPos_popLow w hw, List.drop_tail]

theorem bitPos_getElem?_selectBit (n : Nat) :
    ∀ (w : Nat), w < 2^64 → n < (bitPos w).length → (bitPos w)[n]? = some (selectBit w n) := by
  induction n with
  | zero =>
    intro w hw hn
    have h0 : w ≠ 0 := by
      intro h; subst h; rw [Roaring.bitPos_zero] at hn; simp at hn
    rw [Roaring.bitPos_step w h0 hw]; rfl
  | succ n ih =>
    intro w hw hn
    show _ = some (selectBit (popLow w) n)
    have hl : n < (bitPos (popLow w)).length := by
      rw [bitPos_popLow w hw, List.length_tail]; omega
    rw [← ih _ (popLow_lt _ hw) hl, bitPos_popLow w hw, List.getElem?_tail]

theorem bitsOf_popLowN (k w n : Nat) (hw : w < 2^64) : bitsOf k (popLowN w n) = (bitsOf k w).drop n := by
  unfold bitsOf
  rw [bitPos_popLowN n w hw, List.map_drop]

theorem selectFrom_eq (ws : List Nat) (k n : Nat) (hws : ∀ w ∈ ws, w < 2^64) :
    selectFrom k ws n = (toArrayFrom k ws)[n]? := by
  fun_induction selectFrom k ws n with
  | case1 => rfl
  | case2 k w ws n len hn =>
    have hw := hws w List.mem_cons_self
    rw [toArrayFrom_cons k w ws hw, List.getElem?_append_left (length_bitsOf k w hw ▸ hn)]
    unfold bitsOf
    rw [List.getElem?_map, bitPos_getElem?_selectBit n w hw (popcount_eq_length_bitPos w hw ▸ hn)]
    rfl
  | case3 k w ws n len hn ih =>
    have hw := hws w List.mem_cons_self
    rw [toArrayFrom_cons k w ws hw, List.getElem?_append_right (length_bitsOf k w hw ▸ Nat.le_of_not_lt hn),
      length_bitsOf k w hw]
    exact ih fun x hx => hws x (List.mem_cons_of_mem w hx)

theorem select_spec (b : BStore) (hb : b.Inv) (n : Nat) : b.select n = b.toArray[n]? :=
  selectFrom_eq b.bits 0 n hb.words

theorem popHigh_zero : popHigh 0 = 0 := by simp [popHigh]

theorem bitPos_popHigh (w : Nat) (hw : w < 2^64) : bitPos (popHigh w) = (bitPos w).dropLast := by
  by_cases h0 : w = 0
  · subst h0; rw [popHigh_zero, Roaring.bitPos_zero]; rfl
  · rw [Roaring.bitPos_step_back w h0 hw, List.dropLast_concat]

theorem popHighN_lt (n : Nat) : ∀ {w : Nat}, w < 2^64 → popHighN w n < 2^64 := by
  induction n with
  | zero => intro w hw; exact hw
  | succ n ih => intro w hw; exact ih (popHigh_lt _ hw)

theorem bitPos_popHighN (n : Nat) : ∀ (w : Nat), w < 2^64 →
    bitPos (popHighN w n) = (bitPos w).take ((bitPos w).length - n) := by
  induction n with
  | zero => intro w _; exact (List.take_length).symm
  | succ n ih =>
    intro w hw
    show bitPos (popHighN (popHigh w) n) = _
    rw [ih _ (popHigh_lt _ hw), bitPos_popHigh w hw, List.length_dropLast, List.dropLast_eq_take,
      List.take_take, Nat.min_eq_left (Nat.sub_le _ _), Nat.sub_sub, Nat.add_comm 1 n]

theorem bitsOf_popHighN (k w n : Nat) (hw : w < 2^64) :
    bitsOf k (popHighN w n) = (bitsOf k w).take ((bitsOf k w).length - n) := by
  unfold bitsOf
  rw [bitPos_popHighN n w hw, List.map_take, List.length_map]

/-! ### the loop of `remove_smallest` and `remove_biggest` -/

/-- `rsLoop` and `rbLoop` are one loop, taking `n` bits off the first word that has more than `n` by `pop`
    (`popLowN` resp. `popHighN`) and zeroing the words before it -/
def popLoop (pop : Nat → Nat → Nat) : List Nat → Nat → List Nat
  | [], _ => []
  | w :: ws, n =>
    if n < popcount w then pop w n :: ws
    else if n - popcount w = 0 then 0 :: ws else 0 :: popLoop pop ws (n - popcount w)

theorem rsLoop_eq (ws : List Nat) : ∀ n, rsLoop ws n = popLoop popLowN ws n := by
  induction ws with
  | nil => intro n; rfl
  | cons w ws ih => intro n; simp only [rsLoop, popLoop, ih]

theorem rbLoop_eq (ws : List Nat) : ∀ n, rbLoop ws n = popLoop popHighN ws n := by
  induction ws with
  | nil => intro n; rfl
  | cons w ws ih => intro n; simp only [rbLoop, popLoop, ih]

theorem length_popLoop (pop : Nat → Nat → Nat) (ws : List Nat) (n : Nat) : (popLoop pop ws n).length = ws.length := by
  fun_induction popLoop pop ws n with
  | case1 | case2 | case3 => rfl
  | case4 w ws n _ _ ih => rw [List.length_cons, ih, List.length_cons]

theorem popLoop_lt (pop : Nat → Nat → Nat) (hpop : ∀ w n, w < 2^64 → pop w n < 2^64) (ws : List Nat) (n : Nat)
    (hws : ∀ w ∈ ws, w < 2^64) : ∀ w ∈ popLoop pop ws n, w < 2^64 := by
  fun_induction popLoop pop ws n with
  | case1 => exact hws
  | case2 w ws n => exact List.forall_mem_cons.2 ⟨hpop w n (hws w List.mem_cons_self), (List.forall_mem_cons.1 hws).2⟩
  | case3 w ws n => exact List.forall_mem_cons.2 ⟨Nat.two_pow_pos 64, (List.forall_mem_cons.1 hws).2⟩
  | case4 w ws n _ _ ih =>
    exact List.forall_mem_cons.2 ⟨Nat.two_pow_pos 64, ih (List.forall_mem_cons.1 hws).2⟩

theorem toArrayFrom_rsLoop (ws : List Nat) : ∀ (k n : Nat), (∀ w ∈ ws, w < 2^64) →
    toArrayFrom k (popLoop popLowN ws n) = (toArrayFrom k ws).drop n := by
  induction ws with
  | nil => intro k n _; exact List.drop_nil.symm
  | cons w ws ih =>
    intro k n hws
    have hw : w < 2^64 := hws w (by simp)
    have hws' : ∀ x ∈ ws, x < 2^64 := fun x hx => hws x (by simp [hx])
    have hlen := length_bitsOf k w hw
    have h0 : (0 : Nat) < 2^64 := by decide
    rw [toArrayFrom_cons k w ws hw, popLoop]
    by_cases hn : n < popcount w
    · rw [if_pos hn, toArrayFrom_cons _ _ _ (popLowN_lt n hw), bitsOf_popLowN k w n hw,
        List.drop_append_of_le_length (hlen ▸ Nat.le_of_lt hn)]
    · rw [if_neg hn, List.drop_append, hlen, List.drop_eq_nil_of_le (hlen ▸ Nat.le_of_not_lt hn), List.nil_append]
      by_cases hn' : n - popcount w = 0
      · rw [if_pos hn', toArrayFrom_cons _ _ _ h0, bitsOf_zero, List.nil_append, hn', List.drop_zero]
      · rw [if_neg hn', toArrayFrom_cons _ _ _ h0, bitsOf_zero, List.nil_append]
        exact ih (k+1) _ hws'

theorem removeSmallest_spec (b : BStore) (hb : b.Inv) (n : Nat) :
    (b.removeSmallest n).Inv ∧ (b.removeSmallest n).toArray = b.toArray.drop n := by
  unfold removeSmallest
  by_cases hn : b.len < n
  · rw [if_pos hn]
    exact ⟨inv_new, by
      rw [toArray_new, List.drop_eq_nil_of_le (by rw [length_toArray b hb]; exact Nat.le_of_lt hn)]⟩
  · rw [if_neg hn]
    have hlt := popLoop_lt popLowN (fun w n hw => popLowN_lt n hw) b.bits n hb.words
    have harr := toArrayFrom_rsLoop b.bits 0 n hb.words
    rw [rsLoop_eq]
    refine ⟨⟨(length_popLoop _ _ n).trans hb.length, hlt, ?_⟩, harr⟩
    show b.len - n = popSum _
    rw [← length_toArrayFrom _ hlt 0, harr, List.length_drop, length_toArrayFrom _ hb.words 0, hb.len]

theorem toArrayFrom_snoc (k : Nat) (a : List Nat) (w : Nat) (hw : w < 2^64) :
    toArrayFrom k (a ++ [w]) = toArrayFrom k a ++ bitsOf (k + a.length) w := by
  rw [toArrayFrom_append, toArrayFrom_cons _ _ _ hw, toArrayFrom_nil, List.append_nil]

theorem take_sub_append_of_le {α} (a b : List α) (n : Nat) (h : n ≤ b.length) :
    (a ++ b).take ((a ++ b).length - n) = a ++ b.take (b.length - n) := by
  rw [List.length_append, Nat.add_sub_assoc h, List.take_length_add_append]

theorem take_sub_append_of_ge {α} (a b : List α) (n : Nat) (h : b.length ≤ n) :
    (a ++ b).take ((a ++ b).length - n) = a.take (a.length - (n - b.length)) := by
  obtain ⟨m, rfl⟩ := Nat.exists_eq_add_of_le h
  rw [List.length_append, Nat.add_sub_cancel_left, Nat.add_comm b.length m, Nat.add_sub_add_right,
    List.take_append_of_le_length (Nat.sub_le _ _)]

theorem toArrayFrom_rbLoop (rs : List Nat) : ∀ (k n : Nat), (∀ w ∈ rs, w < 2^64) →
    toArrayFrom k (popLoop popHighN rs n).reverse
      = (toArrayFrom k rs.reverse).take ((toArrayFrom k rs.reverse).length - n) := by
  induction rs with
  | nil => intro k n _; exact (List.take_nil).symm
  | cons w rs ih =>
    intro k n hws
    have hw : w < 2^64 := hws w (by simp)
    have hws' : ∀ x ∈ rs, x < 2^64 := fun x hx => hws x (by simp [hx])
    have h0 : (0 : Nat) < 2^64 := by decide
    have hlen := length_bitsOf (k + rs.reverse.length) w hw
    rw [List.reverse_cons, toArrayFrom_snoc k _ w hw, popLoop]
    by_cases hn : n < popcount w
    · rw [if_pos hn, List.reverse_cons, toArrayFrom_snoc k _ _ (popHighN_lt n hw), bitsOf_popHighN _ w n hw,
        take_sub_append_of_le _ _ n (hlen ▸ Nat.le_of_lt hn)]
    · rw [if_neg hn, take_sub_append_of_ge _ _ n (hlen ▸ Nat.le_of_not_lt hn), hlen]
      by_cases hn' : n - popcount w = 0
      · rw [if_pos hn', List.reverse_cons, toArrayFrom_snoc k _ _ h0, bitsOf_zero, List.append_nil, hn', Nat.sub_zero,
          List.take_length]
      · rw [if_neg hn', List.reverse_cons, toArrayFrom_snoc k _ _ h0, bitsOf_zero, List.append_nil, ih k _ hws']

theorem removeBiggest_spec (b : BStore) (hb : b.Inv) (n : Nat) :
    (b.removeBiggest n).Inv ∧ (b.removeBiggest n).toArray = b.toArray.take (b.toArray.length - n) := by
  unfold removeBiggest
  by_cases hn : b.len < n
  · rw [if_pos hn]
    exact ⟨inv_new, by
      rw [toArray_new, length_toArray b hb, Nat.sub_eq_zero_of_le (Nat.le_of_lt hn), List.take_zero]⟩
  · rw [if_neg hn]
    have hrev : ∀ w ∈ b.bits.reverse, w < 2^64 := fun w hw => hb.words w (List.mem_reverse.1 hw)
    have hlt : ∀ w ∈ (popLoop popHighN b.bits.reverse n).reverse, w < 2^64 := fun w hw =>
      popLoop_lt popHighN (fun w n hw => popHighN_lt n hw) _ n hrev w (List.mem_reverse.1 hw)
    have harr := toArrayFrom_rbLoop b.bits.reverse 0 n hrev
    rw [List.reverse_reverse] at harr
    rw [rbLoop_eq]
    refine ⟨⟨?_, hlt, ?_⟩, harr⟩
    · show (popLoop popHighN b.bits.reverse n).reverse.length = 1024
      rw [List.length_reverse, length_popLoop, List.length_reverse, hb.length]
    · show b.len - n = popSum _
      rw [← length_toArrayFrom _ hlt 0, harr, List.length_take, length_toArrayFrom _ hb.words 0, hb.len,
        Nat.min_eq_left (Nat.sub_le _ _)]

/-! ### word-wise binary operations (`op_bitmaps`) and relations -/

theorem word_zipWith (f : Nat → Nat → Nat) (as bs : List Nat) (k : Nat)
    (h1 : k < as.length) (h2 : k < bs.length) :
    word (List.zipWith f as bs) k = f (word as k) (word bs k) := by
  rw [word_eq_getElem (by simp; omega), word_eq_getElem h1, word_eq_getElem h2, List.getElem_zipWith]

theorem opBitmaps_spec (f : Nat → Nat → Nat) (g : Bool → Bool → Bool) (hg : g false false = false)
    (hf : ∀ x y i, x < 2^64 → y < 2^64 → (f x y).testBit i = g (x.testBit i) (y.testBit i))
    (hlt : ∀ x y, x < 2^64 → y < 2^64 → f x y < 2^64)
    (a b : BStore) (ha : a.Inv) (hb : b.Inv) :
    (opBitmaps f a b).Inv ∧ ∀ x, (opBitmaps f a b).test x = g (a.test x) (b.test x) := by
  suffices h : (opBitmaps f a b).Inv ∧ ∀ x, x < 65536 → (opBitmaps f a b).test x = g (a.test x) (b.test x) from
    ⟨h.1, test_unguard ha hb h.1 hg h.2⟩
  refine ⟨⟨?_, ?_, rfl⟩, ?_⟩
  · show (List.zipWith f a.bits b.bits).length = 1024
    rw [List.length_zipWith, ha.length, hb.length]; rfl
  · intro w hw
    change w ∈ List.zipWith f a.bits b.bits at hw
    rw [List.mem_iff_getElem] at hw
    obtain ⟨k, hk, rfl⟩ := hw
    rw [List.getElem_zipWith]
    exact hlt _ _ (ha.words _ (List.getElem_mem _)) (hb.words _ (List.getElem_mem _))
  · intro x hx
    have hk : x / 64 < 1024 := (Nat.div_lt_iff_lt_mul (by decide)).2 hx
    show (word (List.zipWith f a.bits b.bits) (x / 64)).testBit (x % 64) = _
    rw [word_zipWith f _ _ _ (by rw [ha.length]; exact hk) (by rw [hb.length]; exact hk),
      hf _ _ _ (word_lt ha.words _) (word_lt hb.words _)]
    rfl

theorem orB_spec (a b : BStore) (ha : a.Inv) (hb : b.Inv) :
    (orB a b).Inv ∧ ∀ x, (orB a b).test x = (a.test x || b.test x) :=
  opBitmaps_spec (· ||| ·) (· || ·) rfl (fun x y i _ _ => Nat.testBit_or x y i)
    (fun _ _ hx hy => Nat.or_lt_two_pow hx hy) a b ha hb

theorem andB_spec (a b : BStore) (ha : a.Inv) (hb : b.Inv) :
    (andB a b).Inv ∧ ∀ x, (andB a b).test x = (a.test x && b.test x) :=
  opBitmaps_spec (· &&& ·) (· && ·) rfl (fun x y i _ _ => Nat.testBit_and x y i)
    (fun _ y hx _ => and_lt _ y hx) a b ha hb

theorem subB_spec (a b : BStore) (ha : a.Inv) (hb : b.Inv) :
    (subB a b).Inv ∧ ∀ x, (subB a b).test x = (a.test x && !b.test x) :=
  opBitmaps_spec (fun l r => l &&& not64 r) (fun p q => p && !q) rfl
    (fun x y i hx hy => by
      show (x &&& not64 y).testBit i = (x.testBit i && !y.testBit i)
      rw [Nat.testBit_and, not64_testBit_of_lt hy]
      by_cases hi : i < 64
      · simp [hi]
      · simp [hi, testBit_ge64 hx (Nat.le_of_not_lt hi)])
    (fun _ y hx _ => and_lt _ _ hx) a b ha hb

theorem xorB_spec (a b : BStore) (ha : a.Inv) (hb : b.Inv) :
    (xorB a b).Inv ∧ ∀ x, (xorB a b).test x = (a.test x != b.test x) :=
  opBitmaps_spec (· ^^^ ·) (fun p q => p != q) rfl (fun x y i _ _ => by
      show (x ^^^ y).testBit i = _
      rw [Nat.testBit_xor])
    (fun _ _ hx hy => Nat.xor_lt_two_pow hx hy) a b ha hb

theorem all_zipWith_iff (f : Nat → Nat → Bool) : ∀ (as bs : List Nat), as.length = bs.length →
    ((List.zipWith f as bs).all id = true ↔ ∀ k, k < as.length → f (word as k) (word bs k) = true) := by
  intro as
  induction as with
  | nil => intro bs _; exact ⟨fun _ _ hk => absurd hk (Nat.not_lt_zero _), fun _ => rfl⟩
  | cons x as ih =>
    intro bs hl
    cases bs with
    | nil => exact absurd hl (Nat.succ_ne_zero _)
    | cons y bs =>
      rw [List.zipWith_cons_cons, List.all_cons, Bool.and_eq_true, ih bs (Nat.succ.inj hl), List.length_cons,
        Nat.forall_lt_succ_left]
      exact Iff.rfl

theorem forall_pos_iff (P : Nat → Nat → Prop) (n : Nat) :
    (∀ x, x < 64 * n → P (x / 64) (x % 64)) ↔ ∀ k, k < n → ∀ i, i < 64 → P k i := by
  constructor
  · intro h k hk i hi
    have := h (64 * k + i) (Nat.lt_of_lt_of_le (Nat.add_lt_add_left hi _) (Nat.mul_le_mul_left 64 hk))
    rwa [pos_div k hi, pos_mod k hi] at this
  · intro h x hx
    exact h _ (Nat.div_lt_of_lt_mul hx) _ (Nat.mod_lt _ (by decide))

/-- a word-wise relation `r`, which on single words says `R` of each pair of bits, says `R` of each pair of bits
    of the stores -/
theorem all_zipWith_spec (r : Nat → Nat → Bool) (R : Bool → Bool → Prop)
    (hr : ∀ x y, x < 2^64 → (r x y = true ↔ ∀ i, i < 64 → R (x.testBit i) (y.testBit i)))
    (a b : BStore) (ha : a.Inv) (hb : b.Inv) :
    (List.zipWith r a.bits b.bits).all id = true ↔ ∀ x, x < 65536 → R (a.test x) (b.test x) := by
  rw [all_zipWith_iff r _ _ (ha.length.trans hb.length.symm), ha.length]
  show _ ↔ ∀ x, x < 64 * 1024 → R ((word a.bits (x / 64)).testBit (x % 64)) ((word b.bits (x / 64)).testBit (x % 64))
  rw [forall_pos_iff (fun k i => R ((word a.bits k).testBit i) ((word b.bits k).testBit i))]
  exact forall_congr' fun k => forall_congr' fun _ => hr _ _ (word_lt ha.words k)

theorem isDisjoint_spec (a b : BStore) (ha : a.Inv) (hb : b.Inv) :
    a.isDisjoint b = true ↔ ∀ x, x < 65536 → ¬ (a.test x = true ∧ b.test x = true) :=
  all_zipWith_spec _ (fun p q => ¬ (p = true ∧ q = true)) (fun _ y hx => and_eq_zero_iff_bits y hx) a b ha hb

theorem isSubset_spec (a b : BStore) (ha : a.Inv) (hb : b.Inv) :
    a.isSubset b = true ↔ ∀ x, x < 65536 → a.test x = true → b.test x = true :=
  all_zipWith_spec _ (fun p q => p = true → q = true) (fun _ y hx => and_eq_left_iff_bits y hx) a b ha hb

/-! ### bitmap ⊕ array -/

theorem subArr_eq_foldl (b : BStore) (v : List Nat) :
    b.subArr v = v.foldl (fun b i => (b.remove i).1) b := rfl

theorem subArr_spec (b : BStore) (hb : b.Inv) (v : List Nat) (hv : ∀ x ∈ v, x < 65536) :
    (b.subArr v).Inv ∧ ∀ x, (b.subArr v).test x = (b.test x && !decide (x ∈ v)) := by
  rw [subArr_eq_foldl]
  induction v generalizing b with
  | nil => exact ⟨hb, fun x => by simp⟩
  | cons i v ih =>
    have hi : i < 65536 := hv i (by simp)
    obtain ⟨h1, h2, _⟩ := remove_spec b hb i hi
    obtain ⟨h3, h4⟩ := ih (b.remove i).1 h1 (fun x hx => hv x (by simp [hx]))
    rw [List.foldl_cons]
    refine ⟨h3, fun x => ?_⟩
    rw [h4 x, h2 x]
    by_cases e : x = i <;> simp [e]

/-! ### intersection cardinalities -/

theorem interLenArray_foldl (b : BStore) (v : List Nat) (acc : Nat) :
    v.foldl (fun acc i =>
      let old := word b.bits (wkey i)
      acc + ((old &&& (1 <<< wbit i)) >>> wbit i)) acc
      = acc + (v.filter (fun x => b.test x)).length := by
  induction v generalizing acc with
  | nil => simp
  | cons i v ih =>
    rw [List.foldl_cons, ih]
    simp only [Word.and_shl_shr_eq, List.filter_cons]
    have e : (word b.bits (wkey i)).testBit (wbit i) = b.test i := rfl
    rw [e]
    cases b.test i <;> simp <;> omega

set_option linter.unusedVariables false in
theorem interLenArray_spec (b : BStore) (hb : b.Inv) (v : List Nat) (hv : ∀ x ∈ v, x < 65536) :
    b.interLenArray v = (v.filter (fun x => b.test x)).length := by
  unfold interLenArray
  rw [interLenArray_foldl]; omega

/-- `intersection_len` of two bitsets is the cardinality of their `&` -/
theorem interLenBitmap_eq_len (a b : BStore) : a.interLenBitmap b = (andB a b).len := by
  show (List.zipWith (fun x y => popcount (x &&& y)) a.bits b.bits).foldl (· + ·) 0
    = popSum (List.zipWith (· &&& ·) a.bits b.bits)
  rw [← List.map_zipWith (f := popcount) (g := (· &&& ·)), List.foldl_map]
  rfl

theorem toArray_andB (a b : BStore) (ha : a.Inv) (hb : b.Inv) :
    (andB a b).toArray = a.toArray.filter (fun x => b.test x) := by
  obtain ⟨hi, ht⟩ := andB_spec a b ha hb
  refine Roaring.sorted_ext _ _ (sorted_toArray _ hi) (Arr.sorted_filter (sorted_toArray a ha) _) fun x => ?_
  rw [List.mem_filter, mem_toArray _ hi, mem_toArray a ha, ht x, Bool.and_eq_true, and_assoc]

theorem interLenBitmap_spec (a b : BStore) (ha : a.Inv) (hb : b.Inv) :
    a.interLenBitmap b = (a.toArray.filter (fun x => b.test x)).length := by
  rw [interLenBitmap_eq_len, ← length_toArray _ (andB_spec a b ha hb).1, toArray_andB a b ha hb]

/-! ### `bitxor_assign(&ArrayStore)` -/

theorem xor_bit_eq_or {old bit : Nat} (h : old.testBit bit = false) :
    old ^^^ (1 <<< bit) = old ||| (1 <<< bit) := by
  apply Nat.eq_of_testBit_eq
  intro j
  rw [Nat.testBit_xor, Nat.testBit_or, Nat.one_shiftLeft, Nat.testBit_two_pow]
  by_cases e : bit = j
  · subst e; simp [h]
  · simp [e]

theorem xor_bit_eq_and_not {old bit : Nat} (hold : old < 2^64) (hbit : bit < 64)
    (h : old.testBit bit = true) :
    old ^^^ (1 <<< bit) = old &&& not64 (1 <<< bit) := by
  apply Nat.eq_of_testBit_eq
  intro j
  rw [Nat.testBit_xor, Nat.testBit_and, not64_testBit, Nat.one_shiftLeft, Nat.testBit_two_pow]
  by_cases e : bit = j
  · subst e; simp [h, hbit]
  · by_cases hj : j < 64
    · simp [e, hj]
    · simp [e, hj, testBit_ge64 hold (Nat.le_of_not_lt hj)]

theorem xor_xor_bit_shr (old bit : Nat) : (old ^^^ (old ^^^ (1 <<< bit))) >>> bit = 1 := by
  rw [← Nat.xor_assoc, Nat.xor_self, Nat.zero_xor, Nat.shiftLeft_shiftRight]

theorem bit_and_shr_eq (old bit : Nat) :
    ((1 <<< bit) &&& old) >>> bit = (old.testBit bit).toNat := by
  rw [Nat.and_comm, Word.and_shl_shr_eq]

/-- one iteration of the `bitxor_assign(&ArrayStore)` loop, on the pair (`i64` length, words) -/
def xorArrStep (p : Int × List Nat) (i : Nat) : Int × List Nat :=
  let k := wkey i; let bit := wbit i
  let old := word p.2 k
  let new := old ^^^ (1 <<< bit)
  (p.1 + 1 - 2 * (((1 <<< bit) &&& old) >>> bit : Nat), p.2.set k new)

theorem xorArr_eq_foldl (b : BStore) (v : List Nat) :
    b.xorArr v =
      { len := ((v.foldl xorArrStep ((b.len : Int), b.bits)).1 % (W : Int)).toNat,
        bits := (v.foldl xorArrStep ((b.len : Int), b.bits)).2 } := rfl

theorem one_le_popcount_of_testBit {w bit : Nat} (hw : w < 2^64) (hbit : bit < 64)
    (h : w.testBit bit = true) : 1 ≤ popcount w := by
  rw [popcount_eq_length_bitPos w hw]
  exact List.length_pos_of_mem ((mem_bitPos w bit).mpr ⟨hbit, h⟩)

theorem xorArrStep_spec (b : BStore) (hb : b.Inv) (i : Nat) (hi : i < 65536) :
    ∃ b' : BStore, b'.Inv ∧ xorArrStep ((b.len : Int), b.bits) i = ((b'.len : Int), b'.bits) ∧
      ∀ x, b'.test x = (b.test x != decide (x = i)) := by
  have hbit := wbit_lt i
  have hold : word b.bits (wkey i) < 2^64 := word_lt hb.words _
  have ht : b.test i = (word b.bits (wkey i)).testBit (wbit i) := rfl
  cases hc : b.test i with
  | false =>
    obtain ⟨h1, h2, _⟩ := insert_spec b hb i hi
    rw [ht] at hc
    refine ⟨(b.insert i).1, h1, ?_, ?_⟩
    · -- bit clear: xor with `1 <<< bit` is `|||` with it, so the step is `insert`, and `len + 1 - 2 * 0 = len + 1`
      simp only [xorArrStep, insert, bit_and_shr_eq, hc, ← xor_bit_eq_or hc, xor_xor_bit_shr]
      simp
    · intro x
      rw [h2 x]
      by_cases e : x = i
      · subst e; rw [ht, hc]; simp
      · simp [e]
  | true =>
    obtain ⟨h1, h2, _⟩ := remove_spec b hb i hi
    rw [ht] at hc
    have hlen : 1 ≤ b.len := by
      rw [hb.len]
      exact Nat.le_trans (one_le_popcount_of_testBit hold hbit hc) (Word.popcount_word_le_popSum _ _)
    refine ⟨(b.remove i).1, h1, ?_, ?_⟩
    · -- bit set: xor with `1 <<< bit` clears it, so the step is `remove`, and `len + 1 - 2 * 1 = len - 1` (`hlen`)
      simp only [xorArrStep, remove, bit_and_shr_eq, hc, ← xor_bit_eq_and_not hold hbit hc,
        xor_xor_bit_shr]
      simp; omega
    · intro x
      rw [h2 x]
      by_cases e : x = i
      · subst e; rw [ht, hc]; simp
      · simp [e]

theorem xorArr_foldl_spec (v : List Nat) (hs : Sorted v) (hv : ∀ x ∈ v, x < 65536)
    (b : BStore) (hb : b.Inv) :
    ∃ b' : BStore, b'.Inv ∧ v.foldl xorArrStep ((b.len : Int), b.bits) = ((b'.len : Int), b'.bits) ∧
      ∀ x, b'.test x = (b.test x != decide (x ∈ v)) := by
  induction v generalizing b with
  | nil => exact ⟨b, hb, rfl, fun x => by simp⟩
  | cons i v ih =>
    unfold Sorted at hs
    rw [List.pairwise_cons] at hs
    obtain ⟨b1, hb1, e1, t1⟩ := xorArrStep_spec b hb i (hv i (by simp))
    obtain ⟨b2, hb2, e2, t2⟩ := ih hs.2 (fun x hx => hv x (by simp [hx])) b1 hb1
    refine ⟨b2, hb2, ?_, ?_⟩
    · rw [List.foldl_cons, e1, e2]
    · intro x
      rw [t2 x, t1 x]
      by_cases e : x = i
      · subst e
        have : x ∉ v := fun hm => Nat.lt_irrefl _ (hs.1 x hm)
        simp [this]
      · simp [e]

theorem xorArr_spec (b : BStore) (hb : b.Inv) (v : List Nat) (hv : Arr.Inv v) :
    (b.xorArr v).Inv ∧ ∀ x, (b.xorArr v).test x = (b.test x != decide (x ∈ v)) := by
  obtain ⟨b', hb', e, t⟩ := xorArr_foldl_spec v hv.1 hv.2 b hb
  have hle : b'.len ≤ 65536 := by
    rw [len_eq_countP b' hb']
    have := List.countP_le_length (p := fun x => b'.test x) (l := List.range 65536)
    simpa using this
  -- the `i64` length is a small natural number, so reducing it mod 2^64 changes nothing
  have : b.xorArr v = b' := by
    rw [xorArr_eq_foldl, e]
    show ({ len := ((b'.len : Int) % (W : Int)).toNat, bits := b'.bits } : BStore) = b'
    rw [Int.emod_eq_of_lt (Int.natCast_nonneg _)
      (Int.ofNat_lt.2 (Nat.lt_of_le_of_lt hle (by decide : 65536 < W))), Int.toNat_natCast]
  rw [this]
  exact ⟨hb', t⟩

end BStore
end Roaring
