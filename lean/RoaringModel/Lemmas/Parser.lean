import RoaringModel.Ser
/-!
# Parser lemmas: prefix-monotone parsers (C14_prefix, C13 "rest is a suffix", C05_decode "++ rest")

First the generic part.  `Mono p`: whenever `p` succeeds on `bs` it has consumed a prefix `used`; it then succeeds
with the same value on `used ++ ys` for every continuation `ys`, and fails with EOF on every strictly shorter prefix
of `used`.  The property is preserved by `pure`, `fail` and `bind`, and holds for `readN`.  `NoPanic` (no `panic`
result) and `Sim` (the same program over two readers related by a projection of the reader state) are preserved in
the same way.

Then the decoders of `Ser.lean`: each is walked once (`Same`, `same_decodeHeader` … `same_deserializeG`), which gives
`mono_*` and `sim_*` for all of them and `np_deserializeG` for the checked decoder.
-/
namespace Roaring

theorem readN_append (xs ys : List Nat) (n : Nat) (h : xs.length = n) : readN n (xs ++ ys) = .ok (xs, ys) := by
  subst h
  unfold readN
  simp

theorem readN_eof {n : Nat} {bs : List Nat} (h : bs.length < n) : readN n bs = .error .eof := if_pos h

theorem readN_ok {n : Nat} {bs a rest : List Nat} (h : readN n bs = .ok (a, rest)) :
    a.length = n ∧ bs = a ++ rest := by
  unfold readN at h
  split at h
  · cases h
  · cases h
    exact ⟨List.length_take_of_le (by omega), (List.take_append_drop n bs).symm⟩

theorem bind_ok {σ α β : Type} (p : Parser σ α) (f : α → Parser σ β) (s s' : σ) (a : α)
    (h : p s = .ok (a, s')) : (p >>= f) s = f a s' := by
  simp only [bind, Parser.bind, h]

-- `run_bind`, `run_ite_pos`, `run_ite_neg` (and `rfl` for `pure`) evaluate a decoder along one path, as a term
theorem run_bind {σ α β : Type} {p : Parser σ α} {f : α → Parser σ β} {s s' s'' : σ} {a : α} {b : β}
    (h : p s = .ok (a, s')) (hf : f a s' = .ok (b, s'')) : (p >>= f) s = .ok (b, s'') :=
  (bind_ok p f s s' a h).trans hf

theorem run_ite_pos {σ α : Type} {c : Prop} [Decidable c] {p q : Parser σ α} {s : σ} {r : Except DecErr (α × σ)}
    (hc : c) (h : p s = r) : (if c then p else q) s = r := by rw [if_pos hc]; exact h

theorem run_ite_neg {σ α : Type} {c : Prop} [Decidable c] {p q : Parser σ α} {s : σ} {r : Except DecErr (α × σ)}
    (hc : ¬c) (h : q s = r) : (if c then p else q) s = r := by rw [if_neg hc]; exact h

theorem bind_ok_inv {σ α β : Type} {p : Parser σ α} {f : α → Parser σ β} {s : σ} {r : β × σ}
    (h : (p >>= f) s = .ok r) : ∃ a s', p s = .ok (a, s') ∧ f a s' = .ok r := by
  simp only [bind, Parser.bind] at h
  split at h
  · exact ⟨_, _, ‹_›, h⟩
  · cases h

namespace Parser

abbrev Bytes := List Nat

-- decoder results in test vectors are compared by `decide +kernel`
deriving instance DecidableEq for Except

def Mono {α : Type} (p : Parser Bytes α) : Prop :=
  ∀ bs a rest, p bs = .ok (a, rest) →
    ∃ used, bs = used ++ rest ∧ (∀ ys, p (used ++ ys) = .ok (a, ys)) ∧
      (∀ k, k < used.length → p (used.take k) = .error .eof)

theorem mono_pure {α : Type} (a : α) : Mono (pure a : Parser Bytes α) := by
  intro bs a' rest h
  cases h
  exact ⟨[], rfl, fun ys => rfl, fun k hk => absurd hk (Nat.not_lt_zero k)⟩

theorem mono_fail {α : Type} (e : DecErr) : Mono (fail e : Parser Bytes α) := by
  intro bs a rest h; cases h

theorem mono_readN (n : Nat) : Mono (readN n) := by
  intro bs a rest h
  obtain ⟨hl, rfl⟩ := readN_ok h
  exact ⟨a, rfl, fun ys => readN_append a ys n hl,
    fun k hk => readN_eof (by rw [List.length_take]; omega)⟩

theorem mono_bind {α β : Type} (p : Parser Bytes α) (f : α → Parser Bytes β) (hp : Mono p)
    (hf : ∀ a, Mono (f a)) : Mono (p >>= f) := by
  intro bs b rest h
  obtain ⟨a, r1, hpa, hfa⟩ := bind_ok_inv h
  obtain ⟨u1, rfl, hcont1, hpre1⟩ := hp bs a r1 hpa
  obtain ⟨u2, rfl, hcont2, hpre2⟩ := hf a r1 b rest hfa
  refine ⟨u1 ++ u2, (List.append_assoc _ _ _).symm, fun ys => ?_, fun k hk => ?_⟩
  · rw [List.append_assoc, bind_ok _ _ _ _ _ (hcont1 _)]
    exact hcont2 ys
  · -- a cut inside `u1` stops the first parser; a cut inside `u2` stops the second
    by_cases hk1 : k < u1.length
    · show Parser.bind p f _ = _
      rw [Parser.bind, List.take_append_of_le_length (Nat.le_of_lt hk1), hpre1 k hk1]
    · rw [List.length_append] at hk
      rw [List.take_append, List.take_of_length_le (by omega), bind_ok _ _ _ _ _ (hcont1 _)]
      exact hpre2 _ (by omega)

theorem mono_ite {α : Type} (c : Prop) [Decidable c] (p q : Parser Bytes α) (hp : Mono p) (hq : Mono q) :
    Mono (if c then p else q) := by
  split <;> assumption

theorem prefix_rest_eof {α : Type} (p : Parser Bytes α) (hp : Mono p) (bs : Bytes) (a : α) (rest : Bytes)
    (h : p bs = .ok (a, rest)) (k : Nat) (hk : k < bs.length - rest.length) : p (bs.take k) = .error .eof := by
  obtain ⟨used, rfl, _, hpre⟩ := hp bs a rest h
  rw [List.length_append, Nat.add_sub_cancel] at hk
  rw [List.take_append_of_le_length (Nat.le_of_lt hk)]
  exact hpre k hk

theorem rest_suffix {α : Type} (p : Parser Bytes α) (hp : Mono p) (bs : Bytes) (a : α) (rest : Bytes)
    (h : p bs = .ok (a, rest)) : rest <:+ bs := by
  obtain ⟨used, hbs, _, _⟩ := hp bs a rest h
  exact ⟨used, hbs.symm⟩

theorem append_rest {α : Type} (p : Parser Bytes α) (hp : Mono p) (bs : Bytes) (a : α)
    (h : p bs = .ok (a, [])) (ys : Bytes) : p (bs ++ ys) = .ok (a, ys) := by
  obtain ⟨used, hbs, hcont, _⟩ := hp bs a [] h
  simp at hbs
  subst hbs
  exact hcont ys

def NoPanic {σ α : Type} (p : Parser σ α) : Prop := ∀ s, p s ≠ .error .panic

section NoPanic
variable {σ : Type}

theorem np_pure {α : Type} (a : α) : NoPanic (pure a : Parser σ α) := by
  intro s h; simp [pure, Parser.pure] at h

theorem np_fail {α : Type} (e : DecErr) (he : e ≠ .panic) : NoPanic (fail e : Parser σ α) := by
  intro s h; simp only [fail, Except.error.injEq] at h; exact he h

theorem np_bind {α β : Type} (p : Parser σ α) (f : α → Parser σ β) (hp : NoPanic p) (hf : ∀ a, NoPanic (f a)) :
    NoPanic (p >>= f) := by
  intro s h
  simp only [bind, Parser.bind] at h
  split at h
  · rename_i a s' _
    exact hf a s' h
  · rename_i e he
    simp only [Except.error.injEq] at h
    subst h
    exact hp s he

theorem np_readN (n : Nat) : NoPanic (readN n) := by
  intro s h
  unfold readN at h
  split at h <;> simp at h

end NoPanic

def Sim {σ' σ α : Type} (π : σ' → σ) (p' : Parser σ' α) (p : Parser σ α) : Prop :=
  ∀ s', (p' s').map (fun r => (r.1, π r.2)) = p (π s')

section Sim
variable {σ' σ : Type} {π : σ' → σ}

theorem sim_pure {α : Type} (a : α) : Sim π (pure a : Parser σ' α) (pure a) := by
  intro s'; simp [pure, Parser.pure, Except.map]

theorem sim_fail {α : Type} (e : DecErr) : Sim π (fail e : Parser σ' α) (fail e) := by
  intro s'; simp [fail, Except.map]

theorem sim_bind {α β : Type} (p' : Parser σ' α) (p : Parser σ α) (f' : α → Parser σ' β) (f : α → Parser σ β)
    (hp : Sim π p' p) (hf : ∀ a, Sim π (f' a) (f a)) : Sim π (p' >>= f') (p >>= f) := by
  intro s'
  have h1 := hp s'
  simp only [bind, Parser.bind]
  cases hps : p' s' with
  | error e =>
    rw [hps] at h1; simp only [Except.map] at h1
    rw [← h1]; simp [Except.map]
  | ok r =>
    obtain ⟨a, t'⟩ := r
    rw [hps] at h1; simp only [Except.map] at h1
    rw [← h1]
    exact hf a t'

end Sim

/-! ## One walk through the decoders

`Same R' R ok p' p`: `p'` and `p` are one program over the readers `R'` and `R`, built from the reads, `pure`,
`>>=` and `fail e` for errors `e` with `ok e`.  Every decoder of `Ser.lean` is such a program
(`same_decodeHeader`, …, `same_deserializeG`); `Mono`, `NoPanic` and `Sim` are preserved by the four
constructors.  With `ok := fun _ => True` that gives `Mono` and `Sim` of every decoder; with `ok := (· ≠ .panic)` it
gives `NoPanic` of the checked ones only (`chk = true`: the unchecked constructors panic under debug assertions). -/

inductive Same {σ' σ : Type} (R' : Nat → Parser σ' (List Nat)) (R : Nat → Parser σ (List Nat))
    (ok : DecErr → Prop) : {α : Type} → Parser σ' α → Parser σ α → Prop
  | read (n : Nat) : Same R' R ok (R' n) (R n)
  | pure {α : Type} (a : α) : Same R' R ok (pure a) (pure a)
  | fail {α : Type} (e : DecErr) : ok e → Same R' R ok (fail e : Parser σ' α) (fail e)
  | bind {α β : Type} {p' : Parser σ' α} {p : Parser σ α} {f' : α → Parser σ' β} {f : α → Parser σ β} :
      Same R' R ok p' p → (∀ a, Same R' R ok (f' a) (f a)) → Same R' R ok (p' >>= f') (p >>= f)

section Same
variable {σ' σ : Type} {R' : Nat → Parser σ' (List Nat)} {R : Nat → Parser σ (List Nat)} {ok : DecErr → Prop}

theorem Same.sim {π : σ' → σ} (hR : ∀ n, Sim π (R' n) (R n)) {α : Type} {p' : Parser σ' α} {p : Parser σ α}
    (h : Same R' R ok p' p) : Sim π p' p := by
  induction h with
  | read n => exact hR n
  | pure a => exact sim_pure a
  | fail e _ => exact sim_fail e
  | bind _ _ ih1 ih2 => exact sim_bind _ _ _ _ ih1 ih2

/-- a property of the programs over one reader that `pure`, `>>=` and `fail e` for `ok e` preserve: it passes
    from the reads to every program built from them -/
structure Closed {σ : Type} (ok : DecErr → Prop) (P : ∀ {α : Type}, Parser σ α → Prop) : Prop where
  pure : ∀ {α : Type} (a : α), P (pure a : Parser σ α)
  fail : ∀ {α : Type} (e : DecErr), ok e → P (fail e : Parser σ α)
  bind : ∀ {α β : Type} (p : Parser σ α) (f : α → Parser σ β), P p → (∀ a, P (f a)) → P (p >>= f)

theorem Closed.of_same {P : ∀ {α : Type}, Parser σ α → Prop} (h : Closed ok P) (hR : ∀ n, P (R n))
    {α : Type} {p' p : Parser σ α} (hs : Same R R ok p' p) : P p := by
  induction hs with
  | read n => exact hR n
  | pure a => exact h.pure a
  | fail e he => exact h.fail e he
  | bind _ _ ih1 ih2 => exact h.bind _ _ ih1 ih2

theorem np_closed : Closed (· ≠ .panic) (@NoPanic σ) := ⟨np_pure, np_fail, np_bind⟩

theorem mono_closed : Closed ok @Mono := ⟨mono_pure, fun e _ => mono_fail e, mono_bind⟩

theorem Same.ofOption {α : Type} {e : DecErr} (he : ok e) (x : Option α) :
    Same R' R ok (ofOption e x) (ofOption e x) := by
  cases x with
  | some a => exact .pure a
  | none => exact .fail e he

theorem Same.ite (c : Prop) [Decidable c] {α : Type} {p' q' : Parser σ' α} {p q : Parser σ α}
    (hp : c → Same R' R ok p' p) (hq : ¬c → Same R' R ok q' q) :
    Same R' R ok (if c then p' else q') (if c then p else q) := by
  split
  · exact hp ‹_›
  · exact hq ‹_›

theorem replayRuns_error : ∀ (runs : List (Nat × Nat)) (st : Store) (e : DecErr),
    replayRuns st runs = .error e → e = .invalidData
  | [], st, e, h => by cases h
  | (s, len) :: rs, st, e, h => by
    unfold replayRuns at h
    split at h
    · cases h; rfl
    · exact replayRuns_error rs _ e h

-- the errors the decoders raise themselves are no panics (`hok`), except where the unchecked constructors validate
-- under debug assertions (the hypothesis `hp` of the lemmas below)
variable (hok : ∀ e, e ≠ .panic → ok e)
include hok

theorem same_decodeRunStore : Same R' R ok (decodeRunStore R') (decodeRunStore R) := by
  unfold decodeRunStore
  refine .bind (.read _) fun rb => .bind (.read _) fun ib => ?_
  dsimp only
  cases h : replayRuns _ _ with
  | ok st => exact .pure st
  | error e => exact .fail e (hok e (by rw [replayRuns_error _ _ e h]; decide))

theorem same_decodeArrayStore (chk dbg : Bool) (hp : chk = false → dbg = true → ok .panic) (card : Nat) :
    Same R' R ok (decodeArrayStore R' chk dbg card) (decodeArrayStore R chk dbg card) := by
  unfold decodeArrayStore
  refine .bind (.read _) fun vb =>
    .ite _ (fun _ => .ite _ (fun _ => .pure _) fun _ => .fail _ (hok _ (by decide))) fun hc => ?_
  cases dbg with
  | false => exact .pure _
  | true => exact .ofOption (hp (Bool.eq_false_iff.mpr hc) rfl) _

theorem same_decodeBitmapStore (chk dbg : Bool) (hp : chk = false → dbg = true → ok .panic) (card : Nat) :
    Same R' R ok (decodeBitmapStore R' chk dbg card) (decodeBitmapStore R chk dbg card) := by
  unfold decodeBitmapStore
  refine .bind (.read _) fun wb => .ite _ (fun _ => .ofOption (hok _ (by decide)) _) fun hc => ?_
  cases dbg with
  | false => exact .pure _
  | true => exact .ofOption (hp (Bool.eq_false_iff.mpr hc) rfl) _

theorem same_decodeStore (chk dbg : Bool) (hp : chk = false → dbg = true → ok .panic) (card : Nat) (isRun : Bool) :
    Same R' R ok (decodeStore R' chk dbg card isRun) (decodeStore R chk dbg card isRun) :=
  .ite _ (fun _ => .bind (same_decodeRunStore hok) fun st => .pure _)
    fun _ => .ite _ (fun _ => same_decodeArrayStore hok chk dbg hp card)
      fun _ => same_decodeBitmapStore hok chk dbg hp card

theorem same_decodeContainers (chk dbg : Bool) (hp : chk = false → dbg = true → ok .panic) (rb : Option (List Nat)) :
    ∀ (ds : List (Nat × Nat)) (i : Nat),
      Same R' R ok (decodeContainers R' chk dbg rb ds i) (decodeContainers R chk dbg rb ds i)
  | [], _ => .pure []
  | _ :: ds, i =>
    .bind (same_decodeStore hok chk dbg hp _ _) fun _ =>
      .bind (same_decodeContainers chk dbg hp rb ds (i + 1)) fun _ => .pure _

theorem same_decodeHeader : Same R' R ok (decodeHeader R') (decodeHeader R) := by
  unfold decodeHeader
  exact .bind (.read _) fun cb => .bind
    (.ite _ (fun _ => .bind (.read _) fun sb => .pure _)
      fun _ => .ite _ (fun _ => .pure _) fun _ => .fail _ (hok _ (by decide)))
    fun (size, hasOffsets, hasRun) => .bind (.ite _ (fun _ => .bind (.read _) fun bm => .pure _) fun _ => .pure _)
    fun runBitmap => .ite _ (fun _ => .fail _ (hok _ (by decide)))
      fun _ => .bind (.read _) fun db => .bind (.ite _ (fun _ => .read _) fun _ => .pure _) fun ob => .pure _

theorem same_deserializeG (chk dbg : Bool) (hp : chk = false → dbg = true → ok .panic) :
    Same R' R ok (deserializeG R' chk dbg) (deserializeG R chk dbg) := by
  unfold deserializeG
  exact .bind (same_decodeHeader hok) fun h => .bind (same_decodeContainers hok chk dbg hp _ _ _) fun cs =>
    .ite _ (fun _ => .ite _ (fun _ => .fail _ (hok _ (by decide)))
      fun _ => .ite _ (fun _ => .fail _ (hok _ (by decide))) fun _ => .pure _) fun _ => .pure _

end Same

theorem mono_decodeHeader : Mono (decodeHeader readN) :=
  mono_closed.of_same mono_readN (same_decodeHeader (ok := fun _ => True) fun _ _ => trivial)

theorem mono_decodeStore (chk dbg : Bool) (card : Nat) (isRun : Bool) :
    Mono (decodeStore readN chk dbg card isRun) :=
  mono_closed.of_same mono_readN
    (same_decodeStore (ok := fun _ => True) (fun _ _ => trivial) chk dbg (fun _ _ => trivial) card isRun)

theorem mono_deserializeG (chk dbg : Bool) : Mono (deserializeG readN chk dbg) :=
  mono_closed.of_same mono_readN (same_deserializeG (ok := fun _ => True) (fun _ _ => trivial) chk dbg fun _ _ => trivial)

section
variable {σ : Type} {R : Nat → Parser σ (List Nat)} (hR : ∀ n, NoPanic (R n))
include hR

theorem np_deserializeG (dbg : Bool) : NoPanic (deserializeG R true dbg) :=
  np_closed.of_same hR (same_deserializeG (fun _ he => he) true dbg nofun)

end

section
variable {σ' σ : Type} {π : σ' → σ} {R' : Nat → Parser σ' (List Nat)} {R : Nat → Parser σ (List Nat)}
  (hR : ∀ n, Sim π (R' n) (R n))
include hR

theorem sim_decodeHeader : Sim π (decodeHeader R') (decodeHeader R) :=
  (same_decodeHeader (ok := fun _ => True) fun _ _ => trivial).sim hR

theorem sim_deserializeG (chk dbg : Bool) : Sim π (deserializeG R' chk dbg) (deserializeG R chk dbg) :=
  (same_deserializeG (ok := fun _ => True) (fun _ _ => trivial) chk dbg fun _ _ => trivial).sim hR

end

end Parser
end Roaring
