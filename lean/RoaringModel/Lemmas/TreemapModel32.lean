import RoaringModel.Lemmas.TreemapAlg
import RoaringModel.Lemmas.TreemapMulti
import RoaringModel.Lemmas.BitmapMerge
import RoaringModel.Lemmas.MultiKernelProof
/-!
# The mirrored 32-bit operations `Ops32.model` satisfy the laws the treemap layer rests on

`BinLaws` (`Lemmas/TreemapAlg.lean`) from the 32-bit set algebra, relations and `intersection_len`, `MultiLaws`
(`Lemmas/TreemapMulti.lean`) from the 32-bit multi-ops at the exact `size_hint` the treemap code passes
(`Multi.multiOwned_law` / `multiRef_law`); and with them the 64-bit theorems for the operations the driver runs.
-/
namespace Roaring
namespace Treemap

theorem binLaws_model : BinLaws Ops32.model where
  orAO := Bitmap.orAO_exact
  orAR := Bitmap.orAR_exact
  andAR := Bitmap.andAR_exact
  subAR := Bitmap.subAR_exact
  xorAO := Bitmap.xorWith_exact (fun _ _ => rfl) Store.xorAssignOwned_spec
  xorAR := Bitmap.xorWith_exact (fun _ _ => rfl) Store.xorAssignRef_spec
  interLen := Bitmap.interLen_spec
  isSubset := Bitmap.isSubset_spec
  isDisjoint := Bitmap.isDisjoint_spec

/-- **The mirrored 32-bit multi-ops satisfy `MultiLaws`**: the hypothesis of `multi_exact`,
    `multiWith_exact`, `multiWith_elems_indep` (`Lemmas/TreemapMulti.lean`) holds for `Ops32.model`. -/
theorem multiLaws_model : MultiLaws Ops32.model := by
  have ho := fun op l hl => Multi.multiOwned_law op .exact l (Multi.Hint.admissible_exact _) hl
  have hr := fun op l hl => Multi.multiRef_law op .exact l (Multi.Hint.admissible_exact _) hl
  -- with the bundle unfolded first the laws apply as they stand; left to the unifier, it searches through the
  -- definitions of the multi-ops before it looks at `Ops32.model`
  constructor <;> dsimp only [Ops32.model]
  · exact ho .or
  · exact hr .or
  · exact ho .and
  · exact hr .and
  · exact ho .sub
  · exact hr .sub
  · exact ho .xor
  · exact hr .xor


/-- all 4 operators × 6 operand forms (oo, or, ro, rr, ao, ar) of the treemap algebra over the mirrored 32-bit
    operations are exact -/
theorem exact_model :
    (Exact64 (orOO Ops32.model) Spec.sOr ∧ Exact64 (orOR Ops32.model) Spec.sOr ∧ Exact64 (orRO Ops32.model) Spec.sOr ∧
      Exact64 (orRR Ops32.model) Spec.sOr ∧ Exact64 (orAO Ops32.model) Spec.sOr ∧ Exact64 (orAR Ops32.model) Spec.sOr) ∧
    (Exact64 (andOO Ops32.model) Spec.sAnd ∧ Exact64 (andOR Ops32.model) Spec.sAnd ∧
      Exact64 (andRO Ops32.model) Spec.sAnd ∧ Exact64 (andRR Ops32.model) Spec.sAnd ∧
      Exact64 (andAO Ops32.model) Spec.sAnd ∧ Exact64 (andAR Ops32.model) Spec.sAnd) ∧
    (Exact64 (subOO Ops32.model) Spec.sSub ∧ Exact64 (subOR Ops32.model) Spec.sSub ∧
      Exact64 (subRO Ops32.model) Spec.sSub ∧ Exact64 (subRR Ops32.model) Spec.sSub ∧
      Exact64 (subAO Ops32.model) Spec.sSub ∧ Exact64 (subAR Ops32.model) Spec.sSub) ∧
    (Exact64 (xorOO Ops32.model) Spec.sXor ∧ Exact64 (xorOR Ops32.model) Spec.sXor ∧
      Exact64 (xorRO Ops32.model) Spec.sXor ∧ Exact64 (xorRR Ops32.model) Spec.sXor ∧
      Exact64 (xorAO Ops32.model) Spec.sXor ∧ Exact64 (xorAR Ops32.model) Spec.sXor) :=
  have L := binLaws_model
  ⟨⟨orAO_exact L, orAR_exact L, orRO_exact L, orRR_exact L, orAO_exact L, orAR_exact L⟩,
   ⟨andAO_exact L, andAR_exact L, andRO_exact L, andRR_exact L, andAO_exact L, andAR_exact L⟩,
   ⟨subAR_exact L, subAR_exact L, subAR_exact L, subAR_exact L, subAR_exact L, subAR_exact L⟩,
   ⟨xorAO_exact L, xorAR_exact L, xorRO_exact L, xorRR_exact L, xorAO_exact L, xorAR_exact L⟩⟩

theorem relations_model {a b : Treemap} (ha : TWF a) (hb : TWF b) :
    isSubset Ops32.model a b = Spec.isSubset (elems a) (elems b) ∧
    isSuperset Ops32.model a b = Spec.isSuperset (elems a) (elems b) ∧
    isDisjoint Ops32.model a b = Spec.isDisjoint (elems a) (elems b) ∧
    intersectionLen Ops32.model a b = Spec.interLen (elems a) (elems b) ∧
    differenceLen Ops32.model a b = Spec.diffLen (elems a) (elems b) ∧
    unionLen Ops32.model a b = Spec.unionLen (elems a) (elems b) % W64 ∧
    symmetricDifferenceLen Ops32.model a b = Spec.xorLen (elems a) (elems b) % W64 :=
  have L := binLaws_model
  ⟨isSubset_spec L ha hb, isSuperset_spec L ha hb, isDisjoint_spec L ha hb, intersectionLen_spec L ha hb,
   (differenceLen_spec L ha hb).1, unionLen_mod L ha hb, symmetricDifferenceLen_mod L ha hb⟩

end Treemap
end Roaring
