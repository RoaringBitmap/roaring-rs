import RoaringModel.Lemmas.TreemapCodec
import RoaringModel.Lemmas.EncodeSpec
import RoaringModel.SpecCodec64
/-!
# `Treemap.serialize t = Spec.encode64 (Treemap.elems t)`: the model's writer against the reference encoder
  of the 64-bit portable format

Generic in the 32-bit facts (`PartsOK`: every partition has an element and only `u32` elements; `h32`: the
32-bit writer agrees with the 32-bit reference encoder on every partition), which `Lemmas/TreemapCodecWF.lean`
supplies for `Treemap.WFd Bitmap.WF` values (`WFd.partsOK`, `serialize_eq_encode`).
-/
namespace Roaring
namespace Treemap
open TL

/-- what the bucket grouping needs from the partitions -/
def PartsOK (t : Treemap) : Prop :=
  ∀ p ∈ t, p.1 < P32 ∧ Bitmap.elems p.2 ≠ [] ∧ ∀ x ∈ Bitmap.elems p.2, x < P32

theorem keysOf64_elems (t : Treemap) (h : PartsOK t) (hs : KeysSorted t) : Spec.keysOf64 (elems t) = keys t :=
  Grouped.keys_flat (B := P32) rfl (fun _ => rfl) (fun _ _ _ => rfl) (fun _ _ => join_div) (fun _ _ => join_mod)
    t hs fun p hp => (h p hp).2

theorem bucketOf_elems (t : Treemap) (h : PartsOK t) (hs : KeysSorted t) :
    ∀ p ∈ t, Spec.bucketOf (elems t) p.1 = Bitmap.elems p.2 := fun p hp => by
  rw [elems_eq_blk fun q hq => (h q hq).2.2]
  exact Blk.filter_key_mod (B := P32) (key := Prod.fst) (low := pLow) hs (fun q hq => (h q hq).2.2) hp

theorem serialize_eq_encode64 (t : Treemap) (h : PartsOK t) (hs : KeysSorted t)
    (h32 : ∀ p ∈ t, Bitmap.serialize p.2 = Spec.encode (Bitmap.elems p.2)) :
    serialize t = Spec.encode64 (elems t) := by
  unfold Spec.encode64
  simp only
  rw [keysOf64_elems t h hs, leBytes8_eq, serialize_eq, keys, List.length_map, List.flatMap_map]
  rw [List.flatMap_def, bucketBytes, List.flatMap_def]
  congr 2
  apply List.map_congr_left
  intro p hp
  rw [bucketOf_elems t h hs p hp, leBytes4_eq, Nat.mod_eq_of_lt (h p hp).1, h32 p hp]

end Treemap
end Roaring
