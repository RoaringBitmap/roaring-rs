import RoaringModel.Lemmas.TreemapKernel32
import RoaringModel.Lemmas.SpecFacts
/-!
# The queries `contains`, `len`, `is_empty`, `min`, `max`, `select`, `rank` (inherent.rs:291-432) through the partition
  directory
-/
namespace Roaring
namespace Treemap
open TL

variable (K : Kernel32)

theorem contains_spec (t : Treemap) (hw : WF K t) (v : Nat) (hv : v < 18446744073709551616) :
    Treemap.contains t v = Spec.contains (elems t) v := by
  rw [Treemap.contains, split_eq hv, Spec.contains, Spec.contains_eq]
  dsimp only
  simp only [mem_elems_getD K hw v]
  cases hg : get t (v / P32) with
  | none => exact (decide_eq_false List.not_mem_nil).symm
  | some b =>
    show Bitmap.contains b (v % P32) = decide (v % P32 ∈ Bitmap.elems b)
    rw [K.contains_spec b _ (hw.get hg).2.1 (Nat.mod_lt _ (by decide)), Spec.contains, Spec.contains_eq]

theorem length_le_of_sorted_lt (l : List Nat) (m N : Nat) (hs : TL.Sorted l) (hm : ∀ x ∈ l, m ≤ x)
    (hN : ∀ x ∈ l, x < N) : l.length + m ≤ N ∨ l = [] := by
  cases l with
  | nil => exact Or.inr rfl
  | cons a l =>
    have hmN : m ≤ N :=
      Nat.le_of_lt (Nat.lt_of_le_of_lt (hm a (List.mem_cons_self ..)) (hN a (List.mem_cons_self ..)))
    exact Or.inl (Nat.add_le_of_le_sub hmN (length_le_sub hs hm hN))

theorem part_length_le {b : Bitmap} (hb : K.WF b) : (Bitmap.elems b).length ≤ 4294967296 :=
  length_le_of_lt (K.elems_sorted b hb) (K.elems_lt b hb)

theorem len_eq_length {t : Treemap} (h : ∀ p ∈ t, K.WF p.2) : Treemap.len t = (elems t).length := by
  unfold Treemap.len; rw [len_foldl t fun p hp => K.len_spec p.2 (h p hp)]; simp

theorem len_snoc (l : Treemap) (k : Nat) (b : Bitmap) : Treemap.len (l ++ [(k, b)]) = Treemap.len l + Bitmap.len b := by
  unfold Treemap.len; rw [List.foldl_append]; rfl

/-- `is_empty` answers emptiness (and a well-formed empty treemap has no partition) -/
theorem isEmpty_spec (t : Treemap) (hw : WF K t) : Treemap.isEmpty t = (elems t).isEmpty := by
  cases t with
  | nil => rfl
  | cons p t =>
    have hp := hw.parts p (List.mem_cons_self ..)
    have h1 : Bitmap.isEmpty p.2 = false :=
      Bool.eq_false_iff.mpr fun h => hp.2.2 ((K.isEmpty_spec _ hp.2.1).1 h)
    have h2 : elems (p :: t) ≠ [] := by rw [elems_cons]; simp [hp.2.2]
    simp [Treemap.isEmpty, h1, h2]

theorem min?_spec (t : Treemap) (hw : WF K t) : Treemap.min? t = Spec.min? (elems t) := by
  cases t with
  | nil => rfl
  | cons p t =>
    obtain ⟨k, b⟩ := p
    have hp := hw.parts (k, b) (List.mem_cons_self ..)
    have hmin := K.min_spec b hp.2.1
    obtain ⟨y, ys, hy⟩ := List.exists_cons_of_ne_nil hp.2.2
    simp only [Spec.min?] at hmin ⊢
    simp only [hy, List.head?_cons] at hmin
    simp [Treemap.min?, List.find?, hmin, elems_cons, hy]

theorem max?_spec (t : Treemap) (hw : WF K t) : Treemap.max? t = Spec.max? (elems t) := by
  rcases List.eq_nil_or_concat t with rfl | ⟨t', p, rfl⟩
  · rfl
  · obtain ⟨k, b⟩ := p
    rw [List.concat_eq_append] at hw ⊢
    have hp := hw.parts (k, b) (by simp)
    have hmax := K.max_spec b hp.2.1
    have hel : elems (t' ++ [(k, b)]) = elems t' ++ (Bitmap.elems b).map (join k) := by simp [elems]
    simp only [Spec.max?] at hmax ⊢
    obtain ⟨m, hm⟩ : ∃ m, (Bitmap.elems b).getLast? = some m := by
      cases h : (Bitmap.elems b).getLast? with
      | none => exact absurd (List.getLast?_eq_none_iff.mp h) hp.2.2
      | some m => exact ⟨m, rfl⟩
    rw [hm] at hmax
    rw [hel, List.getLast?_append, List.getLast?_map, hm]
    simp [Treemap.max?, List.reverse_append, hmax]

/-- `select(n)` is the `n`-th smallest value; the `.unwrap()` on the partition's `select` never panics -/
theorem select_spec (t : Treemap) (hw : WF K t) (n : Nat) :
    Treemap.select t n = some (Spec.select (elems t) n) := by
  induction t generalizing n with
  | nil => rfl
  | cons p t ih =>
    obtain ⟨key, b⟩ := p
    have hb : K.WF b := (hw.parts _ (List.mem_cons_self ..)).2.1
    have hlen := K.len_spec b hb
    rw [Treemap.select, elems_cons]
    dsimp only [Spec.select]
    by_cases h : Bitmap.len b > n
    · have hlt : n < (Bitmap.elems b).length := hlen ▸ h
      have hn : n < 4294967296 := Nat.lt_of_lt_of_le hlt (part_length_le K hb)
      rw [if_pos h, Nat.mod_eq_of_lt hn, K.select_spec b n hb hn, Spec.select,
        List.getElem?_append_left (by rw [List.length_map]; exact hlt), List.getElem?_map, List.getElem?_eq_getElem hlt]
      rfl
    · rw [if_neg h, ih hw.tail, Spec.select,
        List.getElem?_append_right (by rw [List.length_map, ← hlen]; exact Nat.not_lt.mp h), List.length_map, hlen]

/-- the values of partition `k` that are `≤ v` -/
theorem rank_part {k : Nat} {b : Bitmap} (hb : K.WF b) (v : Nat) :
    (((Bitmap.elems b).map (join k)).filter (· ≤ v)).length =
      if k < v / 4294967296 then Bitmap.len b
      else if k = v / 4294967296 then Bitmap.rank b (v % 4294967296) else 0 := by
  have hlt := K.elems_lt b hb
  have hle : ∀ y ∈ Bitmap.elems b, join k y ≤ v ↔ k < v / 4294967296 ∨ k = v / 4294967296 ∧ y ≤ v % 4294967296 :=
    fun y hy => by rw [join_eq (hlt y hy)]; exact Radix.mul_add_le_iff k (hlt y hy) v
  rw [List.filter_map, List.length_map]
  by_cases h1 : k < v / 4294967296
  · rw [if_pos h1, K.len_spec b hb]
    exact congrArg _ (List.filter_eq_self.mpr fun y hy => decide_eq_true ((hle y hy).2 (Or.inl h1)))
  · rw [if_neg h1]
    by_cases h2 : k = v / 4294967296
    · rw [if_pos h2, K.rank_spec b _ hb (Nat.mod_lt _ (by decide))]
      refine congrArg _ (List.filter_congr fun y hy => decide_eq_decide.mpr ((hle y hy).trans ?_))
      exact ⟨fun h => h.elim (fun h => absurd h h1) And.right, fun h => Or.inr ⟨h2, h⟩⟩
    · rw [if_neg h2, List.length_eq_zero_iff, List.filter_eq_nil_iff]
      exact fun y hy h => ((hle y hy).1 (of_decide_eq_true h)).elim h1 fun h' => h2 h'.1

/-- the `match` of `rank` on the reversed range `..=hi` -/
def rankR (hi lo : Nat) (t : Treemap) : Nat :=
  match (range t .unb (.incl hi)).reverse with
  | [] => 0
  | (k, bitmap) :: rest => (if k = hi then Bitmap.rank bitmap lo else Bitmap.len bitmap) + Treemap.len rest

private theorem range_cons (p : Nat × Bitmap) (t : Treemap) (hi : Nat) :
    range (p :: t) .unb (.incl hi) = if p.1 ≤ hi then p :: range t .unb (.incl hi) else range t .unb (.incl hi) := by
  unfold range
  rw [List.filter_cons]
  simp [Bound.memB]

private theorem range_nil_of_gt {t : Treemap} {hi : Nat} (h : ∀ q ∈ t, hi < q.1) : range t .unb (.incl hi) = [] :=
  List.filter_eq_nil_iff.mpr fun q hq => by simpa [Bound.memB] using h q hq

private theorem mem_range_le {t : Treemap} {hi : Nat} {q : Nat × Bitmap} (h : q ∈ range t .unb (.incl hi)) :
    q ∈ t ∧ q.1 ≤ hi := by
  unfold range at h
  have := List.mem_filter.mp h
  exact ⟨this.1, by simpa [Bound.memB] using this.2⟩

/-- peeling the first partition: it is counted whole unless it is also the last one `≤ hi` -/
theorem rankR_cons {hi lo k : Nat} {b : Bitmap} {t : Treemap} (hlt : ∀ q ∈ t, k < q.1) :
    rankR hi lo ((k, b) :: t) =
      (if k < hi then Bitmap.len b else if k = hi then Bitmap.rank b lo else 0) + rankR hi lo t := by
  unfold rankR
  rw [range_cons]
  by_cases h1 : k ≤ hi
  · rw [if_pos h1, List.reverse_cons]
    cases hr : (range t .unb (.incl hi)).reverse with
    | nil =>
      show (if k = hi then Bitmap.rank b lo else Bitmap.len b) + 0 = _ + 0
      rcases Nat.lt_or_eq_of_le h1 with h | h
      · rw [if_neg (Nat.ne_of_lt h), if_pos h]
      · rw [if_pos h, if_neg (Nat.not_lt.mpr (Nat.le_of_eq h.symm)), if_pos h]
    | cons q rest =>
      obtain ⟨k', b'⟩ := q
      have hq := mem_range_le (List.mem_reverse.mp (hr ▸ List.mem_cons_self ..))
      rw [if_pos (Nat.lt_of_lt_of_le (hlt _ hq.1) hq.2), List.cons_append]
      dsimp only
      rw [len_snoc]
      omega
  · rw [if_neg h1, range_nil_of_gt fun q hq => Nat.lt_trans (Nat.not_le.mp h1) (hlt q hq),
      if_neg (mt Nat.le_of_lt h1), if_neg (mt Nat.le_of_eq h1)]
    rfl

theorem rankR_spec (v : Nat) {t : Treemap} (hw : WF K t) :
    rankR (v / 4294967296) (v % 4294967296) t = ((elems t).filter (· ≤ v)).length := by
  induction t with
  | nil => rfl
  | cons p t ih =>
    rw [elems_cons, List.filter_append, List.length_append, rank_part K (hw.parts p (List.mem_cons_self ..)).2.1 v,
      ← ih hw.tail, rankR_cons (keysSorted_cons.mp hw.sorted).1]

theorem rank_spec (t : Treemap) (hw : WF K t) (v : Nat) (hv : v < 18446744073709551616) :
    Treemap.rank t v = Spec.rank (elems t) v := by
  rw [Treemap.rank, split_eq hv]
  exact rankR_spec K v hw

end Treemap
end Roaring
