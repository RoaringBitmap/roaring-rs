import RoaringModel.Lemmas.Radix
import RoaringModel.Lemmas.TreemapSorted
/-!
# A key-sorted list of blocks in base `B`, seen as its list of values

`d : List α` with `key : α → Nat` and `low : α → List Nat`; the values are `key a * B + x` for `x ∈ low a`, block after
block.  Used at `B = 2^16` for the containers of a bitmap and at `B = 2^32` for the partitions of a treemap.
-/
namespace Roaring
namespace Blk
open TL

section
variable {α : Type} {key : α → Nat} {low : α → List Nat} {B : Nat}

def elems (key : α → Nat) (low : α → List Nat) (B : Nat) (d : List α) : List Nat :=
  d.flatMap fun a => (low a).map fun x => key a * B + x

theorem elems_cons (a : α) (d : List α) :
    elems key low B (a :: d) = (low a).map (fun x => key a * B + x) ++ elems key low B d := List.flatMap_cons

theorem elems_append (d e : List α) : elems key low B (d ++ e) = elems key low B d ++ elems key low B e :=
  List.flatMap_append

/-- what the proofs need of a directory: keys strictly ascending, low parts strictly ascending and below `B` -/
structure Ok (key : α → Nat) (low : α → List Nat) (B : Nat) (d : List α) : Prop where
  keys : (d.map key).Pairwise (· < ·)
  sorted : ∀ a ∈ d, Sorted (low a)
  lt : ∀ a ∈ d, ∀ x ∈ low a, x < B

theorem Ok.tail {a : α} {d : List α} (h : Ok key low B (a :: d)) : Ok key low B d :=
  ⟨(List.pairwise_cons.mp h.keys).2, fun b hb => h.sorted b (List.mem_cons_of_mem _ hb),
    fun b hb => h.lt b (List.mem_cons_of_mem _ hb)⟩

theorem Ok.head_lt {a : α} {d : List α} (h : Ok key low B (a :: d)) : ∀ b ∈ d, key a < key b :=
  fun _ hb => (List.pairwise_cons.mp h.keys).1 _ (List.mem_map_of_mem hb)

/-- a value of the directory lies in the block of its high part -/
theorem mem_elems_iff {d : List α} (hlt : ∀ a ∈ d, ∀ x ∈ low a, x < B) (y : Nat) :
    y ∈ elems key low B d ↔ ∃ a ∈ d, key a = y / B ∧ y % B ∈ low a := by
  simp only [elems, List.mem_flatMap, List.mem_map]
  constructor
  · rintro ⟨a, ha, x, hx, rfl⟩
    have := hlt a ha x hx
    exact ⟨a, ha, (Radix.mul_add_div _ this).symm, (Radix.mul_add_mod _ this).symm ▸ hx⟩
  · rintro ⟨a, ha, hk, hx⟩
    exact ⟨a, ha, y % B, hx, hk ▸ Nat.div_add_mod' y B⟩

theorem mem_elems_mul_add {d : List α} (hlt : ∀ a ∈ d, ∀ x ∈ low a, x < B) (k : Nat) {x : Nat} (hx : x < B) :
    k * B + x ∈ elems key low B d ↔ ∃ a ∈ d, key a = k ∧ x ∈ low a := by
  rw [mem_elems_iff hlt, Radix.mul_add_div k hx, Radix.mul_add_mod k hx]

theorem div_of_mem {d : List α} (hlt : ∀ a ∈ d, ∀ x ∈ low a, x < B) {y : Nat} (hy : y ∈ elems key low B d) :
    ∃ a ∈ d, y / B = key a :=
  let ⟨a, ha, hk, _⟩ := (mem_elems_iff hlt y).mp hy
  ⟨a, ha, hk.symm⟩

theorem sorted_elems {d : List α} (h : Ok key low B d) : Sorted (elems key low B d) := by
  induction d with
  | nil => exact List.Pairwise.nil
  | cons a d ih =>
    rw [elems_cons]
    refine sorted_append (sorted_map_add _ (h.sorted a (List.mem_cons_self ..))) (ih h.tail) fun x hx y hy => ?_
    obtain ⟨i, hi, rfl⟩ := List.mem_map.mp hx
    obtain ⟨b, hb, hk⟩ := div_of_mem h.tail.lt hy
    refine Nat.lt_of_div_lt_div (c := B) ?_
    rw [Radix.mul_add_div _ (h.lt a (List.mem_cons_self ..) i hi), hk]
    exact h.head_lt b hb

/-- a directory whose blocks are the windows of a strictly ascending list `s` has `s` as its values -/
theorem elems_eq_of_mem {d : List α} (h : Ok key low B d) (hB : 0 < B) {s : List Nat} (hs : Sorted s)
    (hmem : ∀ k x, x < B → (k * B + x ∈ s ↔ ∃ a ∈ d, key a = k ∧ x ∈ low a)) : elems key low B d = s := by
  refine sorted_ext (sorted_elems h) hs ?_
  rw [Radix.forall_mul_add hB]
  intro k x hx
  rw [mem_elems_mul_add h.lt k hx, hmem k x hx]

/-! ### the directory as a finite map `key ↦ low values` (`Bitmap.chunk`, `Treemap.partElems`) -/

/-- the low values under key `k`, `[]` if there is no such block; the first match, as `chunk` and `get` take it -/
def part (key : α → Nat) (low : α → List Nat) : List α → Nat → List Nat
  | [], _ => []
  | a :: d, k => if key a = k then low a else part key low d k

theorem mem_part_iff {d : List α} (hs : (d.map key).Pairwise (· < ·)) (k x : Nat) :
    x ∈ part key low d k ↔ ∃ a ∈ d, key a = k ∧ x ∈ low a := by
  induction d with
  | nil => exact ⟨fun h => (nomatch (h : x ∈ [])), fun ⟨_, h, _⟩ => (nomatch h)⟩
  | cons a d ih =>
    have hlt := (List.pairwise_cons.mp hs).1
    have ih := ih (List.pairwise_cons.mp hs).2
    rw [part]
    by_cases hk : key a = k
    · rw [if_pos hk]
      refine ⟨fun h => ⟨a, List.mem_cons_self .., hk, h⟩, fun ⟨b, hb, hkb, hx⟩ => ?_⟩
      rcases List.mem_cons.mp hb with rfl | hb
      · exact hx
      · exact absurd (hk.trans hkb.symm) (Nat.ne_of_lt (hlt _ (List.mem_map_of_mem hb)))
    · rw [if_neg hk, ih]
      refine ⟨fun ⟨b, hb, h⟩ => ⟨b, List.mem_cons_of_mem _ hb, h⟩, fun ⟨b, hb, hkb, hx⟩ => ?_⟩
      rcases List.mem_cons.mp hb with rfl | hb
      · exact absurd hkb hk
      · exact ⟨b, hb, hkb, hx⟩

/-- a part is empty or is the low part of a block (so it is ascending and below `B` when the blocks are) -/
theorem part_cases (d : List α) (k : Nat) : part key low d k = [] ∨ ∃ a ∈ d, key a = k ∧ part key low d k = low a := by
  induction d with
  | nil => exact Or.inl rfl
  | cons a d ih =>
    rw [part]
    by_cases hk : key a = k
    · rw [if_pos hk]
      exact Or.inr ⟨a, List.mem_cons_self .., hk, rfl⟩
    · rw [if_neg hk]
      exact ih.imp_right fun ⟨b, hb, h⟩ => ⟨b, List.mem_cons_of_mem _ hb, h⟩

/-- the values of the directory, window by window -/
theorem mem_elems_part {d : List α} (h : Ok key low B d) (y : Nat) :
    y ∈ elems key low B d ↔ y % B ∈ part key low d (y / B) := by
  rw [mem_elems_iff h.lt, mem_part_iff h.keys]

/-! ### canonical form -/

/-- every block is the window of its key; needs the keys distinct and the low parts below `B` only -/
theorem filter_key {d : List α} (hk : (d.map key).Pairwise (· < ·)) (hlt : ∀ a ∈ d, ∀ x ∈ low a, x < B) {a : α}
    (ha : a ∈ d) : (elems key low B d).filter (fun y => y / B = key a) = (low a).map fun x => key a * B + x := by
  -- a block with another key has nothing in the window
  have other : ∀ c ∈ d, key c ≠ key a → ((low c).map fun x => key c * B + x).filter (fun y => y / B = key a) = [] :=
    fun c hc hne => List.filter_eq_nil_iff.mpr fun y hy => by
      obtain ⟨i, hi, rfl⟩ := List.mem_map.mp hy
      rw [Radix.mul_add_div _ (hlt c hc i hi), decide_eq_true_eq]
      exact hne
  induction d with
  | nil => cases ha
  | cons c d ih =>
    obtain ⟨hc, hk'⟩ := List.pairwise_cons.mp hk
    have hlt' := fun b hb => hlt b (List.mem_cons_of_mem _ hb)
    have other' := fun b hb => other b (List.mem_cons_of_mem _ hb)
    rw [elems_cons, List.filter_append]
    rcases List.mem_cons.mp ha with rfl | ha'
    · rw [List.filter_eq_self.mpr fun y hy => by
          obtain ⟨i, hi, rfl⟩ := List.mem_map.mp hy
          exact decide_eq_true (Radix.mul_add_div _ (hlt a List.mem_cons_self i hi)),
        List.filter_eq_nil_iff.mpr fun y hy => by
          obtain ⟨b, hb, hy⟩ := List.mem_flatMap.mp hy
          exact List.filter_eq_nil_iff.mp (other' b hb (Nat.ne_of_gt (hc _ (List.mem_map_of_mem hb)))) y hy,
        List.append_nil]
    · rw [other c List.mem_cons_self (Nat.ne_of_lt (hc _ (List.mem_map_of_mem ha'))), ih hk' hlt' ha' other',
        List.nil_append]

/-- the low parts of the values in the window of a block's key are the block -/
theorem filter_key_mod {d : List α}
    (hk : (d.map key).Pairwise (· < ·)) (hlt : ∀ a ∈ d, ∀ x ∈ low a, x < B) {a : α} (ha : a ∈ d) :
    ((elems key low B d).filter (fun y => y / B = key a)).map (· % B) = low a := by
  rw [filter_key hk hlt ha, List.map_map]
  exact (List.map_congr_left fun x hx => Radix.mul_add_mod _ (hlt a ha x hx)).trans (List.map_id _)

/-- the first block is the window of its key -/
theorem filter_head {a : α} {d : List α} (h : Ok key low B (a :: d)) :
    (elems key low B (a :: d)).filter (fun y => y / B = key a) = (low a).map fun x => key a * B + x :=
  filter_key h.keys h.lt List.mem_cons_self

theorem head_key {a : α} {d : List α} (h : Ok key low B (a :: d)) (hne : low a ≠ []) :
    (elems key low B (a :: d)).head?.map (· / B) = some (key a) := by
  obtain ⟨x, l, hl⟩ := List.exists_cons_of_ne_nil hne
  rw [elems_cons, hl, List.map_cons, List.cons_append, List.head?_cons, Option.map_some,
    Radix.mul_add_div _ (h.lt a (List.mem_cons_self ..) x (hl ▸ List.mem_cons_self ..))]

theorem elems_ne_nil {a : α} {d : List α} (hne : low a ≠ []) : elems key low B (a :: d) ≠ [] := by
  rw [elems_cons]
  exact List.append_ne_nil_of_left_ne_nil (mt List.map_eq_nil_iff.mp hne) _

/-- **Canonical form.**  Two directories without empty blocks and with the same values have the same blocks, as far as
    `key` and `low` can tell; `inj` says that is far enough. -/
theorem canonical : ∀ {d e : List α}, Ok key low B d → Ok key low B e → (∀ a ∈ d, low a ≠ []) → (∀ a ∈ e, low a ≠ []) →
    (∀ a ∈ d, ∀ b ∈ e, key a = key b → low a = low b → a = b) →
    elems key low B d = elems key low B e → d = e := by
  intro d
  induction d with
  | nil =>
    intro e _ _ _ he _ h
    cases e with
    | nil => rfl
    | cons b e => exact absurd h.symm (elems_ne_nil (he b (List.mem_cons_self ..)))
  | cons a d ih =>
    intro e hd hE hdn hen inj h
    cases e with
    | nil => exact absurd h (elems_ne_nil (hdn a (List.mem_cons_self ..)))
    | cons b e =>
      have hk : key a = key b := Option.some.inj <| by
        rw [← head_key hd (hdn a (List.mem_cons_self ..)), h, head_key hE (hen b (List.mem_cons_self ..))]
      have hl : low a = low b := by
        have := filter_head hd
        rw [h, hk, filter_head hE] at this
        exact (List.map_inj_right fun _ _ => Nat.add_left_cancel).mp this.symm
      have hab := inj a (List.mem_cons_self ..) b (List.mem_cons_self ..) hk hl
      subst hab
      rw [elems_cons, elems_cons] at h
      rw [ih hd.tail hE.tail (fun c hc => hdn c (List.mem_cons_of_mem _ hc)) (fun c hc => hen c (List.mem_cons_of_mem _ hc))
        (fun c hc c' hc' => inj c (List.mem_cons_of_mem _ hc) c' (List.mem_cons_of_mem _ hc')) (List.append_cancel_left h)]

/-! ### cardinalities -/

/-- every block holds at most `N` values: the total is at most `N · #blocks`, with equality exactly if every block
    holds `N` -/
theorem length_elems_bound {N : Nat} (d : List α) (h : ∀ a ∈ d, (low a).length ≤ N) :
    (elems key low B d).length ≤ N * d.length ∧
      ((elems key low B d).length = N * d.length ↔ ∀ a ∈ d, (low a).length = N) := by
  induction d with
  | nil => exact ⟨Nat.le_refl _, fun _ _ h => (nomatch h), fun _ => rfl⟩
  | cons a d ih =>
    have h0 := h a (List.mem_cons_self ..)
    obtain ⟨ih1, ih2⟩ := ih fun b hb => h b (List.mem_cons_of_mem _ hb)
    rw [elems_cons, List.length_append, List.length_map, List.length_cons, Nat.mul_succ, List.forall_mem_cons, ← ih2]
    omega

/-- strictly ascending keys below `M`: at most `M` blocks -/
theorem length_le_of_keys {d : List α} {M : Nat} (hs : (d.map key).Pairwise (· < ·)) (h : ∀ a ∈ d, key a < M) :
    d.length ≤ M := by
  rw [← List.length_map (f := key)]
  exact length_le_of_lt hs fun k hk => by
    obtain ⟨a, ha, rfl⟩ := List.mem_map.mp hk
    exact h a ha

/-- **Full.**  At most `M` blocks of at most `N` values each: the directory holds `N · M` values exactly when it has
    `M` blocks of `N` values -/
theorem full_iff {d : List α} {M N : Nat} (hN : 0 < N) (hs : (d.map key).Pairwise (· < ·)) (hk : ∀ a ∈ d, key a < M)
    (hl : ∀ a ∈ d, (low a).length ≤ N) :
    (elems key low B d).length = N * M ↔ d.length = M ∧ ∀ a ∈ d, (low a).length = N := by
  obtain ⟨hle, hiff⟩ := length_elems_bound (key := key) (B := B) d hl
  constructor
  · intro hsum
    have hM : d.length = M :=
      Nat.le_antisymm (length_le_of_keys hs hk) (Nat.le_of_mul_le_mul_left (hsum ▸ hle) hN)
    exact ⟨hM, hiff.1 (hM ▸ hsum)⟩
  · rintro ⟨hM, hall⟩
    rw [hiff.2 hall, hM]

/-! ### a transformation block by block that keeps exactly the values with `P` (`remove`, `remove_range`) -/

theorem elems_map_filter (f : α → α) (P : Nat → Bool) (d : List α) (hk : ∀ a ∈ d, key (f a) = key a)
    (hl : ∀ a ∈ d, low (f a) = (low a).filter fun x => P (key a * B + x)) :
    elems key low B (d.map f) = (elems key low B d).filter P := by
  induction d with
  | nil => rfl
  | cons a d ih =>
    rw [List.map_cons, elems_cons, elems_cons, List.filter_append, List.filter_map,
      ih (fun b hb => hk b (List.mem_cons_of_mem _ hb)) (fun b hb => hl b (List.mem_cons_of_mem _ hb)),
      hk a (List.mem_cons_self ..), hl a (List.mem_cons_self ..)]
    rfl

/-- dropping blocks without values changes nothing -/
theorem elems_filter (p : α → Bool) (d : List α) (hp : ∀ a ∈ d, p a = false → low a = []) :
    elems key low B (d.filter p) = elems key low B d := by
  induction d with
  | nil => rfl
  | cons a d ih =>
    have ih := ih fun b hb => hp b (List.mem_cons_of_mem _ hb)
    cases hf : p a with
    | true => rw [List.filter_cons_of_pos hf, elems_cons, elems_cons, ih]
    | false =>
      rw [List.filter_cons_of_neg (by rw [hf]; exact Bool.false_ne_true), elems_cons, ih,
        hp a (List.mem_cons_self ..) hf]
      rfl

/-- counting the values with `Q`, block by block -/
theorem length_filter (Q : Nat → Bool) (d : List α) :
    ((elems key low B d).filter Q).length = (d.map fun a => ((low a).filter fun x => Q (key a * B + x)).length).sum := by
  induction d with
  | nil => rfl
  | cons a d ih =>
    rw [elems_cons, List.filter_append, List.length_append, List.filter_map, List.length_map, ih, List.map_cons,
      List.sum_cons]
    rfl

end
end Blk
end Roaring
