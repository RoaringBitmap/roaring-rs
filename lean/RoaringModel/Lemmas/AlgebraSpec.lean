import RoaringModel.Spec
import RoaringModel.Lemmas.ArrFacts
import RoaringModel.Lemmas.ArrMerge
/-!
# The membership and empty-operand laws of the SPEC set algebra (`Spec.sOr / sAnd / sSub / sXor`)

These laws *are* the specification of C02 (see the comment in `Spec.lean`).  The executable merge forms of the spec are
the two-pointer merges of `scalar.rs` once more, so the laws are those of `Lemmas/ArrMerge.lean`.
-/
namespace Roaring

namespace Spec

theorem sOr_eq (l r : List Nat) : sOr l r = Arr.or l r := by
  fun_induction sOr l r <;> simp [Arr.or, *]
theorem sAnd_eq (l r : List Nat) : sAnd l r = Arr.and l r := by
  fun_induction sAnd l r <;> simp [Arr.and, *]
theorem sSub_eq (l r : List Nat) : sSub l r = Arr.sub l r := by
  fun_induction sSub l r <;> simp [Arr.sub, *]

theorem mem_sOr (l r : List Nat) (x : Nat) : x ∈ sOr l r ↔ x ∈ l ∨ x ∈ r :=
  sOr_eq l r ▸ Arr.mem_or l r x
theorem sorted_sOr (l r : List Nat) (hl : Roaring.Sorted l) (hr : Roaring.Sorted r) : Roaring.Sorted (sOr l r) :=
  sOr_eq l r ▸ Arr.sorted_or l r hl hr

theorem mem_sAnd (l r : List Nat) (hl : Roaring.Sorted l) (hr : Roaring.Sorted r) (x : Nat) :
    x ∈ sAnd l r ↔ x ∈ l ∧ x ∈ r :=
  sAnd_eq l r ▸ Arr.mem_and l r hl hr x
theorem sorted_sAnd (l r : List Nat) (hl : Roaring.Sorted l) (hr : Roaring.Sorted r) : Roaring.Sorted (sAnd l r) :=
  sAnd_eq l r ▸ Arr.sorted_and l r hl hr

theorem mem_sSub (l r : List Nat) (hl : Roaring.Sorted l) (hr : Roaring.Sorted r) (x : Nat) :
    x ∈ sSub l r ↔ x ∈ l ∧ x ∉ r :=
  sSub_eq l r ▸ Arr.mem_sub l r hl hr x
theorem sorted_sSub (l r : List Nat) (hl : Roaring.Sorted l) (hr : Roaring.Sorted r) : Roaring.Sorted (sSub l r) :=
  sSub_eq l r ▸ Arr.sorted_sub l r hl hr

theorem mem_sXor (l r : List Nat) (hl : Roaring.Sorted l) (hr : Roaring.Sorted r) (x : Nat) :
    x ∈ sXor l r ↔ (x ∈ l ∧ x ∉ r) ∨ (x ∉ l ∧ x ∈ r) := by
  unfold sXor
  rw [mem_sOr, mem_sSub l r hl hr, mem_sSub r l hr hl]
  exact or_congr_right And.comm
theorem sorted_sXor (l r : List Nat) (hl : Roaring.Sorted l) (hr : Roaring.Sorted r) : Roaring.Sorted (sXor l r) :=
  sorted_sOr _ _ (sorted_sSub l r hl hr) (sorted_sSub r l hr hl)

theorem sOr_nil_left (r : List Nat) : sOr [] r = r := by simp [sOr]
theorem sOr_nil_right (l : List Nat) : sOr l [] = l := by cases l <;> simp [sOr]
theorem sAnd_nil_left (r : List Nat) : sAnd [] r = [] := by simp [sAnd]
theorem sAnd_nil_right (l : List Nat) : sAnd l [] = [] := by cases l <;> simp [sAnd]
theorem sSub_nil_left (r : List Nat) : sSub [] r = [] := by simp [sSub]
theorem sSub_nil_right (l : List Nat) : sSub l [] = l := by cases l <;> simp [sSub]
theorem sXor_nil_left (r : List Nat) : sXor [] r = r := by
  rw [sXor, sSub_nil_left, sSub_nil_right, sOr_nil_left]
theorem sXor_nil_right (l : List Nat) : sXor l [] = l := by
  rw [sXor, sSub_nil_left, sSub_nil_right, sOr_nil_right]

theorem sOr_ne_nil {l r : List Nat} (h : r ≠ []) : sOr l r ≠ [] := by
  obtain ⟨y, hy⟩ := List.exists_mem_of_ne_nil r h
  exact List.ne_nil_of_mem ((mem_sOr l r y).2 (Or.inr hy))

end Spec
end Roaring
