import RoaringModel.Lemmas.ArrMerge
import RoaringModel.Lemmas.ArrFacts
import RoaringModel.Lemmas.BStoreBasic
import RoaringModel.Lemmas.StoreFacts
/-!
# The mirrored store definitions equal the model definitions (fidelity audit, `notes/fidelity-stores-iter32.md`)

The mirrored definitions (quoting the Rust next to them) stand beside the definitions they mirror: the visitor-generic
`Arr.scalar*`, `Arr.*Visit`, `Arr.*Op` in ArrayStore.lean, `BStore.*Mirror` and `BStore.toArrayOp` in BitmapStore.lean,
`Store.arrToBitmapOp` in Store.lean; the unconditional equalities (`@[csimp]`) are there too.  This file states the
equalities that need the shared invariants (`Sorted` / `Arr.Inv` / `BStore.Inv`, what `Bitmap.WF` gives for every chunk)
in the form the `Props/*.lean` corollaries use.
-/
namespace Roaring

namespace Arr

theorem orVisit_eq (a b : List Nat) : orVisit a b = or a b := (congrFun (congrFun or_eq_visit a) b).symm
theorem andVisit_eq (a b : List Nat) : andVisit a b = and a b := (congrFun (congrFun and_eq_visit a) b).symm
theorem subVisit_eq (a b : List Nat) : subVisit a b = sub a b := (congrFun (congrFun sub_eq_visit a) b).symm
theorem xorVisit_eq (a b : List Nat) : xorVisit a b = xor a b := (congrFun (congrFun xor_eq_visit a) b).symm
theorem interLenVisit_eq (a b : List Nat) : interLenVisit a b = interLen a b :=
  (congrFun (congrFun interLen_eq_visit a) b).symm

/-- the counting visitor counts what the writing visitor writes: `intersection_len` = `len` of `&` on arrays,
    for arbitrary (also ill-formed) operands -/
theorem interLenVisit_eq_length (a b : List Nat) : interLenVisit a b = (andVisit a b).length := by
  rw [interLenVisit_eq, andVisit_eq, interLen_eq]

/-- `&a | &b` on arrays: the debug validation of `from_vec_unchecked` never fires on strictly ascending operands -/
theorem orOp_eq (dbg : Bool) (a b : List Nat) (ha : Sorted a) (hb : Sorted b) : orOp dbg a b = some (or a b) := by
  unfold orOp; rw [orVisit_eq]; exact fromVecUnchecked_spec dbg _ (sorted_or a b ha hb)
theorem andOp_eq (dbg : Bool) (a b : List Nat) (ha : Sorted a) (hb : Sorted b) : andOp dbg a b = some (and a b) := by
  unfold andOp; rw [andVisit_eq]; exact fromVecUnchecked_spec dbg _ (sorted_and a b ha hb)
theorem subOp_eq (dbg : Bool) (a b : List Nat) (ha : Sorted a) (hb : Sorted b) : subOp dbg a b = some (sub a b) := by
  unfold subOp; rw [subVisit_eq]; exact fromVecUnchecked_spec dbg _ (sorted_sub a b ha hb)
theorem xorOp_eq (dbg : Bool) (a b : List Nat) (ha : Sorted a) (hb : Sorted b) : xorOp dbg a b = some (xor a b) := by
  unfold xorOp; rw [xorVisit_eq]; exact fromVecUnchecked_spec dbg _ (sorted_xor a b ha hb)

end Arr

namespace BStore

/-- `to_array_store`: the debug validation of `from_vec_unchecked` never fires -/
theorem toArrayOp_eq (dbg : Bool) (b : BStore) (hb : b.Inv) : toArrayOp dbg b = some b.toArray :=
  Arr.fromVecUnchecked_spec dbg _ (sorted_toArray b hb)

/-- `insert_range`: under the store invariant and for a `u16` range the fused loop is the model definition -/
theorem insertRange_mirror_eq_of_inv (b : BStore) (hb : b.Inv) (s e : Nat) (hse : s ≤ e) (he : e < 65536) :
    insertRangeMirror b s e = insertRange b s e :=
  insertRange_mirror_eq b s e hse (by rw [hb.length]; unfold wkey; omega)

/-- … and so is what the compiled driver runs -/
theorem insertRangeExec_eq_mirror (b : BStore) (hb : b.Inv) (s e : Nat) (hse : s ≤ e) (he : e < 65536) :
    insertRangeExec b s e = insertRangeMirror b s e := by
  unfold insertRangeExec
  rw [if_pos ⟨hse, by rw [hb.length]; unfold wkey; omega⟩]

end BStore

namespace Store

/-- `to_bitmap_store`: the debug `try_from(len, bits).unwrap()` of `from_unchecked` never fires -/
theorem arrToBitmapOp_eq (dbg : Bool) (v : List Nat) (hv : Arr.Inv v) : arrToBitmapOp dbg v = some (arrToBitmap v) := by
  have h : v.length = BStore.popSum (arrToBitmapBits v) := (BStore.arrToBitmap_spec v hv).1.len
  unfold arrToBitmapOp BStore.fromUnchecked
  cases dbg
  · rfl
  · simp only [if_true]
    rw [BStore.tryFrom_spec, if_pos h]; rfl

end Store

end Roaring
