import RoaringModel.Lemmas.BIterCore
import RoaringModel.Lemmas.IterDefs
/-!
# C03's `BIter.Inv` is `BIter.OK`, the invariant of the cursor lemmas (`BIterCore.lean`)
-/
namespace Roaring
namespace BIter

theorem Inv.ok {it : BIter} (h : it.Inv) : it.OK := ⟨h.v, h.vb, h.ws, h.live, h.kb⟩
theorem OK.inv {it : BIter} (h : it.OK) : it.Inv := ⟨h.v, h.vb, h.ws, h.live, h.kb⟩

theorem new_inv (bits : List Nat) (hw : ∀ w ∈ bits, w < 2^64) : (BIter.new bits).Inv := (new_ok bits hw).inv

end BIter
end Roaring

#print axioms Roaring.BIter.new_inv
