import RoaringModel.Lemmas.MiscWF
/-!
# C20: what `statistics` reports of a well-formed bitmap

The per-container counts (`cards_eq`, `filter_arr`, `filter_bm`), `min_value` / `max_value` from the first and the
last container given the bitset store's `min()` / `max()` (`stats_minmax` over `BStoreMinMax`).
-/
namespace Roaring.MiscLemmas
open Roaring

theorem cards_eq (b : Bitmap) (h : b.WF) :
    (Spec.groups (Bitmap.elems b)).map (·.2) = b.map Container.len := by
  rw [groups_elems b h, List.map_map]; rfl

theorem filter_arr (b : Bitmap) (h : b.WF) :
    b.filter (fun c => match c.store with | .array _ => true | .bitmap _ => false)
      = b.filter (fun c => decide (c.len ≤ 4096)) :=
  List.filter_congr fun c hc => store_kind c.store ((storeWF_iff _).2 (h.2 c hc).2)

theorem filter_bm (b : Bitmap) (h : b.WF) :
    b.filter (fun c => match c.store with | .array _ => false | .bitmap _ => true)
      = b.filter (fun c => decide (4096 < c.len)) := by
  apply List.filter_congr
  intro c hc
  have hw := (h.2 c hc).2
  cases hs : c.store with
  | array v => rw [hs] at hw; have := hw.2.2; simp [Container.len, hs, Store.len]; omega
  | bitmap bs => rw [hs] at hw; have := hw.2; simp [Container.len, hs, Store.len]; omega

/-- a bitset store's `min()` / `max()` are the first / last element of its ascending element list; holds of every
    `BStore.Inv` store (`BStore.min?_spec` / `BStore.max?_spec`, Lemmas/BStoreBasic.lean) -/
def BStoreMinMax (bs : BStore) : Prop :=
  bs.min? = bs.toArray.head? ∧ bs.max? = bs.toArray.getLast?

theorem store_min (c : Container) (hK : ∀ bs, c.store = .bitmap bs → BStoreMinMax bs) :
    c.min?.map (Bitmap.join c.key) = c.elems.head? := by
  simp only [Container.min?, Container.elems, List.head?_map]
  cases hs : c.store with
  | array v => simp [Store.min?, Store.elems, Arr.min?] <;> rfl
  | bitmap bs => simp [Store.min?, Store.elems, (hK bs hs).1] <;> rfl

theorem store_max (c : Container) (hK : ∀ bs, c.store = .bitmap bs → BStoreMinMax bs) :
    c.max?.map (Bitmap.join c.key) = c.elems.getLast? := by
  simp only [Container.max?, Container.elems, List.getLast?_map]
  cases hs : c.store with
  | array v => simp [Store.max?, Store.elems, Arr.max?] <;> rfl
  | bitmap bs => simp [Store.max?, Store.elems, (hK bs hs).2] <;> rfl

theorem stats_minmax (b : Bitmap) (h : b.WF) (hK : ∀ c ∈ b, ∀ bs, c.store = .bitmap bs → BStoreMinMax bs) :
    (Bitmap.statistics b).minValue = (Spec.stats (Bitmap.elems b)).minValue ∧
    (Bitmap.statistics b).maxValue = (Spec.stats (Bitmap.elems b)).maxValue := by
  simp only [Bitmap.statistics, Spec.stats]
  constructor
  · cases b with
    | nil => rfl
    | cons c cs =>
      have hne := container_elems_ne_nil c (h.2 c (by simp)).2
      simp only [Bitmap.min?, List.head?_cons, Bitmap.elems_cons]
      rw [store_min c (hK c (by simp)), List.head?_append]
      cases hh : c.elems.head? with
      | none => exact absurd (List.head?_eq_none_iff.1 hh) hne
      | some v => rfl
  · induction b with
    | nil => rfl
    | cons c cs ih =>
      rw [Bitmap.elems_cons, List.getLast?_append]
      cases cs with
      | nil =>
        simp only [Bitmap.max?, List.getLast?_singleton, Bitmap.elems, List.flatMap_nil, List.getLast?_nil,
          Option.none_or]
        exact store_max c (hK c (by simp))
      | cons c' cs' =>
        have ih' := ih h.tail (fun x hx => hK x (by simp [hx]))
        have hmax : Bitmap.max? (c :: c' :: cs') = Bitmap.max? (c' :: cs') := by
          simp [Bitmap.max?, List.getLast?_cons_cons]
        rw [hmax, ih']
        have hne : Bitmap.elems (c' :: cs') ≠ [] := by
          rw [Bitmap.elems_cons]
          have := container_elems_ne_nil c' (h.2 c' (by simp)).2
          simp [this]
        cases hl : (Bitmap.elems (c' :: cs')).getLast? with
        | none => exact absurd (List.getLast?_eq_none_iff.1 hl) hne
        | some v => rfl

end Roaring.MiscLemmas
