import RoaringModel.SafeCompose
import RoaringModel.Lemmas.SafeLemmas
import RoaringModel.Lemmas.BitmapMut
import RoaringModel.Lemmas.BitmapMut2
import RoaringModel.Lemmas.TreemapKernel
import RoaringModel.Lemmas.TreemapQuery
import RoaringModel.Lemmas.TreemapInsertRange
import RoaringModel.Lemmas.TreemapAppend
import RoaringModel.Lemmas.IterFoldLemmas
import RoaringModel.Lemmas.CIterLemmas
import RoaringModel.Lemmas.MultiMerge
/-!
# The composed `Safe_*` predicates of `SafeCompose.lean` follow from well-formedness (C16)

A theorem `safe_…` per predicate (none where the predicate is by definition that of the store or of `Treemap.len`),
from `Store.Inv` / `Bitmap.WF` / `Treemap.PartsWF` and the integer type of the arguments.  The intermediate values of
the loops are handled with the preservation lemmas of the core library (`Store.removeRange_spec`, `Bitmap.insert_spec`,
`Bitmap.pushUnchecked_spec`, …).  In order: `Store`, `Container`, `Bitmap` (with `removeRangeIter`, the state-passing
form of the `remove_range` loop), `Treemap` (first `safe_len_iff` for `Safe.lean`'s `Treemap.Safe_len`: it rests on the
treemap library), the size arithmetic of `bitmap::Iter` (`Iter`) and `treemap::Iter` (`TIter`),
and the indexings of the multi-operand merge loops (`Multi`).
-/
namespace Roaring

/-- the test of `append` before each `push_unchecked`: a value not at or below the last one is above all -/
theorem forall_lt_of_getLast? {l : List Nat} (hs : Sorted l) {m v : Nat} (hl : l.getLast? = some m) (hv : ¬ v ≤ m) :
    ∀ x ∈ l, x < v :=
  fun x hx => Nat.lt_of_le_of_lt ((Arr.getLast?_sorted l hs m hl).2 x hx) (Nat.lt_of_not_le hv)

namespace Store

theorem safe_contains (st : Store) (h : st.Inv) (i : Nat) (hi : i < 65536) : st.Safe_contains i := by
  cases st with
  | array v => trivial
  | bitmap b => exact BStore.safe_contains b h i hi

theorem safe_min (st : Store) (h : st.Inv) : st.Safe_min := by
  cases st with
  | array v => trivial
  | bitmap b => exact BStore.safe_min b h

theorem safe_max (st : Store) (h : st.Inv) : st.Safe_max := by
  cases st with
  | array v => trivial
  | bitmap b => exact BStore.safe_max b h

theorem safe_push (st : Store) (h : st.Inv) (i : Nat) (hi : i < 65536) : st.Safe_push i := by
  cases st with
  | array v => trivial
  | bitmap b => exact ⟨BStore.safe_max b h, fun _ => BStore.safe_insert b h i hi⟩

theorem safe_pushUnchecked (dbg : Bool) (st : Store) (h : st.Inv) (i : Nat) (hi : i < 65536)
    (hmax : ∀ x ∈ st.elems, x < i) : st.Safe_pushUnchecked dbg i := by
  cases st with
  | array v =>
    intro _
    cases hm : Arr.max? v with
    | none => trivial
    | some m =>
      simp only []
      exact hmax m (List.mem_of_getLast? hm)
  | bitmap b =>
    refine ⟨fun _ => ⟨BStore.safe_max b h, ?_⟩, BStore.safe_insert b h i hi⟩
    cases hm : b.max? with
    | none => trivial
    | some m =>
      simp only []
      exact hmax m (BStore.max?_eq_some b h m hm).1

/-- the store after `Store::remove_range` is structurally valid (also for the empty range, which returns early) -/
theorem removeRange_inv (st : Store) (h : st.Inv) (s e : Nat) (he : e < 65536) : (st.removeRange s e).1.Inv := by
  by_cases hse : s ≤ e
  · exact (removeRange_spec st h s e hse he).1
  · rw [removeRange_empty st s e (Nat.lt_of_not_le hse)]; exact h

end Store

namespace Container

theorem safe_insert (c : Container) (h : c.store.Inv) (i : Nat) (hi : i < 65536) : c.Safe_insert i :=
  ⟨Store.safe_insert _ h i hi, fun _ => Container.safe_ensureCorrectStore _ (Store.insert_spec _ h i hi).1⟩

theorem safe_remove (c : Container) (h : c.store.Inv) (i : Nat) (hi : i < 65536) : c.Safe_remove i :=
  ⟨Store.safe_remove _ h i hi, fun _ => Container.safe_ensureCorrectStore _ (Store.remove_spec _ h i hi).1⟩

theorem safe_removeRange (c : Container) (h : c.store.Inv) (s e : Nat) (he : e < 65536) : c.Safe_removeRange s e :=
  ⟨fun hse => Store.safe_removeRange _ h s e hse he,
   Container.safe_ensureCorrectStore _ (Store.removeRange_inv _ h s e he)⟩

theorem safe_push (c : Container) (h : c.store.Inv) (i : Nat) (hi : i < 65536) : c.Safe_push i :=
  ⟨Store.safe_push _ h i hi, fun _ => Container.safe_ensureCorrectStore _ (Store.push_spec _ h i hi).1⟩

theorem safe_pushUnchecked (dbg : Bool) (c : Container) (h : c.store.Inv) (i : Nat) (hi : i < 65536)
    (hmax : ∀ x ∈ c.store.elems, x < i) : c.Safe_pushUnchecked dbg i := by
  refine ⟨Store.safe_pushUnchecked dbg _ h i hi hmax, ?_⟩
  obtain ⟨st', e, hinv, _⟩ := Store.pushUnchecked_spec dbg c.store h i hi hmax
  rw [e]
  exact Container.safe_ensureCorrectStore _ hinv

theorem removeRange_snd_le (c : Container) (h : c.store.Inv) (s e : Nat) (he : e < 65536) :
    (c.removeRange s e).2 ≤ 65536 := by
  unfold Container.removeRange
  simp only []
  by_cases hse : s ≤ e
  · rw [(Store.removeRange_spec c.store h s e hse he).2.2]
    exact Nat.le_trans (List.length_filter_le _ _) (Store.len_eq _ h ▸ Store.len_le _ h)
  · rw [Store.removeRange_empty c.store s e (Nat.lt_of_not_le hse)]; exact Nat.zero_le _

end Container

namespace Bitmap

theorem safe_bitmap_insert (b : Bitmap) (h : StoresInv b) (v : Nat) (hv : v < 4294967296) : Safe_insert b v := by
  have hf := safe_findContainerByKey b (hi16 v)
  have hl := lo16_lt v
  refine ⟨safe_split v hv, hf, ?_⟩
  rw [List.getElem?_eq_getElem hf.2]
  exact Container.safe_insert _ (storesInv_findContainerByKey h _ _ (List.getElem_mem hf.2)) _ hl

theorem safe_bitmap_remove (b : Bitmap) (h : StoresInv b) (v : Nat) (hv : v < 4294967296) : Safe_remove b v := by
  refine ⟨safe_split v hv, safe_search b _, ?_⟩
  rcases hsr : search b (hi16 v) with ⟨_ | _, loc⟩
  · trivial
  · obtain ⟨c, e, _⟩ := search_true hsr
    simp only [e]
    exact ⟨Container.safe_remove c (h c (List.mem_of_getElem? e)) _ (lo16_lt v), fun _ _ => by simpa using search_lt_length hsr⟩

theorem safe_bitmap_contains (b : Bitmap) (h : StoresInv b) (v : Nat) (hv : v < 4294967296) : Safe_contains b v := by
  refine ⟨safe_split v hv, safe_search b _, ?_⟩
  rcases hsr : search b (hi16 v) with ⟨_ | _, loc⟩
  · trivial
  · obtain ⟨c, e, _⟩ := search_true hsr
    simp only [e]
    exact Store.safe_contains c.store (h c (List.mem_of_getElem? e)) _ (lo16_lt v)

theorem safe_bitmap_min (b : Bitmap) (h : b.WF) : Safe_min b := by
  unfold Safe_min
  cases hh : b.head? with
  | none => trivial
  | some c =>
    have hc : c ∈ b := List.mem_of_head? hh
    have hinv := h.storesInv c hc
    refine ⟨Store.safe_min _ hinv, ?_⟩
    unfold Container.min?
    cases hm : c.store.min? with
    | none => trivial
    | some m =>
      simp only []
      rw [Store.min?_spec _ hinv] at hm
      exact safe_join _ _ (h.2 c hc).1 (Store.elems_lt _ hinv m (List.mem_of_head? hm))

theorem safe_bitmap_max (b : Bitmap) (h : b.WF) : Safe_max b := by
  unfold Safe_max
  cases hh : b.getLast? with
  | none => trivial
  | some c =>
    have hc : c ∈ b := List.mem_of_getLast? hh
    have hinv := h.storesInv c hc
    refine ⟨Store.safe_max _ hinv, ?_⟩
    unfold Container.max?
    cases hm : c.store.max? with
    | none => trivial
    | some m =>
      simp only []
      rw [Store.max?_spec _ hinv] at hm
      exact safe_join _ _ (h.2 c hc).1 (Store.elems_lt _ hinv m (List.mem_of_getLast? hm))

theorem safe_bitmap_push (b : Bitmap) (h : StoresInv b) (v : Nat) (hv : v < 4294967296) : Safe_push b v := by
  have hl := lo16_lt v
  have hnew := Container.safe_push (Container.new (hi16 v)) Store.new_inv _ hl
  refine ⟨safe_split v hv, ?_⟩
  cases hh : b.getLast? with
  | none => exact hnew
  | some c =>
    exact ite_intro (fun _ => Container.safe_push c (h c (List.mem_of_getLast? hh)) _ hl) fun _ =>
      ite_intro (fun _ => trivial) fun _ => hnew

/-- `push_unchecked` under its documented precondition (`value` above every element) -/
theorem safe_bitmap_pushUnchecked (dbg : Bool) (b : Bitmap) (h : b.WF) (v : Nat) (hv : v < 4294967296)
    (hmax : ∀ x ∈ elems b, x < v) : Safe_pushUnchecked dbg b v := by
  have hl := lo16_lt v
  have hnew := Container.safe_pushUnchecked dbg (Container.new (hi16 v)) Store.new_inv _ hl
    (by simp [Container.new_elems])
  refine ⟨safe_split v hv, ?_⟩
  cases hh : b.getLast? with
  | none => exact hnew
  | some c =>
    have hc : c ∈ b := List.mem_of_getLast? hh
    have hinv := h.storesInv c hc
    -- every value of the last chunk is a value of the bitmap, hence below `v`: compare as (key, low part)
    have hlex : ∀ x ∈ c.store.elems, c.key < hi16 v ∨ c.key = hi16 v ∧ x < lo16 v := fun x hx =>
      (Radix.mul_add_lt_iff c.key (Store.elems_lt _ hinv x hx) v).1
        (hmax _ ((mem_elems_iff_exists b _).2 ⟨c, hc, List.mem_map_of_mem hx⟩))
    exact ite_intro
      (fun hk => Container.safe_pushUnchecked dbg c hinv _ hl fun x hx =>
        ((hlex x hx).resolve_left fun hlt => Nat.ne_of_lt hlt hk).2)
      fun hk => ⟨fun hgt => (hlex _ (List.head_mem (h.ne c hc))).elim (Nat.lt_asymm hgt.2) fun e => hk e.1, hnew⟩

/-! ### `remove_range`: the `while` loop -/

/-- the state-passing form of the loop that `Safe_removeRangeLoop` follows: final `(self.containers, removed)` -/
def removeRangeIter (sk si ek ei : Nat) : List Container → List Container → Nat → List Container × Nat
  | done, [], removed => (done, removed)
  | done, c :: cs, removed =>
    if c.key ≥ sk && c.key ≤ ek then
      let r := c.removeRange (if c.key = sk then si else 0) (if c.key = ek then ei else 65535)
      if r.1.isEmpty then removeRangeIter sk si ek ei done cs (removed + r.2)
      else removeRangeIter sk si ek ei (done ++ [r.1]) cs (removed + r.2)
    else removeRangeIter sk si ek ei (done ++ [c]) cs removed

/-- … computes the model's `removeRangeLoop`, from any state `(done, removed)` reached so far -/
theorem removeRangeIter_eq (sk si ek ei : Nat) (cs done : List Container) (removed : Nat) :
    removeRangeIter sk si ek ei done cs removed =
      (done ++ (removeRangeLoop sk si ek ei cs).1, removed + (removeRangeLoop sk si ek ei cs).2) := by
  fun_induction removeRangeIter sk si ek ei done cs removed with
  | case1 done removed => rw [removeRangeLoop, List.append_nil]; rfl
  | case2 done c cs removed hin r hem ih =>
    rw [ih, removeRangeLoop, if_pos hin]
    dsimp only
    rw [if_pos hem, Nat.add_assoc]
  | case3 done c cs removed hin r hem ih =>
    rw [ih, removeRangeLoop, if_pos hin]
    dsimp only
    rw [if_neg hem, Nat.add_assoc, List.append_assoc]
    rfl
  | case4 done c cs removed hin ih =>
    rw [ih, removeRangeLoop, if_neg hin, List.append_assoc]
    rfl

/-- every iteration removes at most `2^16` values and leaves at most as many containers -/
theorem safe_removeRangeLoop (sk si ek ei : Nat) (hsi : si < 65536) (hei : ei < 65536)
    (hord : sk = ek → si ≤ ei) (cs done : List Container) (removed : Nat) (h : StoresInv cs)
    (hlen : done.length + cs.length ≤ 65536) (hacc : removed + 65536 * cs.length < 2^64) :
    Safe_removeRangeLoop sk si ek ei done cs removed := by
  induction cs generalizing done removed with
  | nil => trivial
  | cons c cs ih =>
    obtain ⟨hc, hcs⟩ := storesInv_cons.1 h
    rw [List.length_cons] at hlen hacc
    have hidx : U64 (done.length + 1) :=
      Nat.lt_of_le_of_lt (Nat.le_trans (Nat.add_le_add_left (Nat.succ_le_succ (Nat.zero_le _)) _) hlen) (by decide)
    have hlen' : ∀ x : Container, (done ++ [x]).length + cs.length ≤ 65536 := fun x => by
      rw [List.length_append, List.length_singleton, Nat.add_assoc, Nat.add_comm 1]; exact hlen
    have hpos : ∀ x : Container, done.length < (done ++ x :: cs).length := fun x => by
      rw [List.length_append]; exact Nat.lt_add_of_pos_right (Nat.succ_pos _)
    unfold Safe_removeRangeLoop
    refine ⟨hpos c, ite_intro (fun _ => ?_) (fun _ => ?_)⟩
    · obtain ⟨haz, hz⟩ := Radix.span_le (top := 65535) (Nat.le_of_lt_succ hsi) (Nat.le_of_lt_succ hei) hord c.key
      have hz : (if c.key = ek then ei else 65535) < 65536 := Nat.lt_succ_of_le hz
      have hr := Container.removeRange_snd_le c hc (if c.key = sk then si else 0) _ hz
      have hacc' := counter_step hr hacc
      refine ⟨Nat.lt_of_le_of_lt haz hz, hz, haz, Container.safe_removeRange c hc _ _ hz,
        Nat.lt_of_le_of_lt (Nat.le_add_right _ _) hacc',
        ite_intro (fun _ => ⟨hpos _, ih done _ hcs (Nat.le_trans (Nat.add_le_add_left (Nat.le_succ _) _) hlen) hacc'⟩)
          (fun _ => ⟨hidx, ih _ _ hcs (hlen' _) hacc'⟩)⟩
    · exact ⟨hidx, ih _ _ hcs (hlen' c) (counter_step (Nat.zero_le _) hacc)⟩

theorem safe_bitmap_removeRange (b : Bitmap) (h : b.WF) (lo hi : Bound)
    (hlo : Bound.le u32Max lo) (hhi : Bound.le u32Max hi) : Safe_removeRange b lo hi := by
  unfold Safe_removeRange
  cases hc : convertRange u32Max lo hi with
  | error e => trivial
  | ok r =>
    obtain ⟨st, en⟩ := r
    obtain ⟨hse, hen⟩ := convertRange_bounds lo hi hlo hhi st en hc
    have hlen := dir_length_le b h.dir
    simp only []
    exact ⟨safe_split st (Nat.lt_of_le_of_lt hse hen), safe_split en hen,
      safe_removeRangeLoop _ _ _ _ (lo16_lt st) (lo16_lt en) (Radix.mod_le_mod_of_div_eq hse) b [] 0 h.storesInv
        (by simpa using hlen) (Nat.lt_of_le_of_lt (Nat.add_le_add_left (Nat.mul_le_mul_left _ hlen) 0) (by decide))⟩

/-! ### `extend`, `append` -/

theorem safe_bitmap_extend (vs : List Nat) (b : Bitmap) (h : b.WF) (hvs : ∀ v ∈ vs, v < 4294967296) :
    Safe_extend b vs := by
  induction vs generalizing b with
  | nil => trivial
  | cons v vs ih =>
    obtain ⟨hv, hvs⟩ := List.forall_mem_cons.1 hvs
    exact ⟨safe_bitmap_insert b h.storesInv v hv, ih _ (insert_spec b h v hv).1 hvs⟩

/-- `count` never exceeds `prev + 1` (the accepted values are strictly ascending `u32`s), so `count += 1` cannot
    overflow whatever the length of the iterator -/
theorem safe_bitmap_appendLoop (dbg : Bool) (vs : List Nat) (b : Bitmap) (prev count : Nat) (h : b.WF)
    (hlast : (elems b).getLast? = some prev) (hvs : ∀ v ∈ vs, v < 4294967296) (hcnt : count ≤ prev + 1) :
    Safe_appendLoop dbg b prev count vs := by
  induction vs generalizing b prev count with
  | nil => trivial
  | cons v vs ih =>
    obtain ⟨hv, hvs⟩ := List.forall_mem_cons.1 hvs
    unfold Safe_appendLoop
    refine ite_intro (fun _ => trivial) fun hle => ?_
    have hmax := forall_lt_of_getLast? (sorted_elems b h.dir) hlast hle
    have hcv : count + 1 ≤ v + 1 := Nat.succ_le_succ (Nat.le_trans hcnt (Nat.lt_of_not_le hle))
    obtain ⟨b1, e1, w1, l1⟩ := pushUnchecked_spec dbg b h v hv hmax
    refine ⟨safe_bitmap_pushUnchecked dbg b h v hv hmax,
      Nat.lt_of_le_of_lt hcv (Nat.lt_of_le_of_lt (Nat.succ_le_of_lt hv) (by decide)), ?_⟩
    rw [e1]
    exact ih b1 v (count + 1) w1 (by rw [l1]; exact List.getLast?_concat) hvs hcv

theorem safe_bitmap_appendFrom (dbg : Bool) (b : Bitmap) (h : b.WF) (first : Nat) (rest : List Nat)
    (hvs : ∀ v ∈ first :: rest, v < 4294967296) (hmax : ∀ x ∈ elems b, x < first) :
    Safe_appendFrom dbg b first rest := by
  have hf := hvs first (List.mem_cons_self ..)
  obtain ⟨b1, e1, w1, l1⟩ := pushUnchecked_spec dbg b h first hf hmax
  refine ⟨safe_bitmap_pushUnchecked dbg b h first hf hmax, ?_⟩
  rw [e1]
  exact safe_bitmap_appendLoop dbg rest b1 first 1 w1 (by rw [l1]; exact List.getLast?_concat)
    (fun x hx => hvs x (List.mem_cons_of_mem _ hx)) (Nat.le_add_left _ _)

theorem safe_bitmap_append (dbg : Bool) (b : Bitmap) (h : b.WF) (vs : List Nat) (hvs : ∀ v ∈ vs, v < 4294967296) :
    Safe_append dbg b vs := by
  unfold Safe_append
  cases vs with
  | nil => trivial
  | cons first rest =>
    refine ⟨safe_bitmap_max b h, ?_⟩
    rw [max?_spec b h, Spec.max?]
    cases hlast : (elems b).getLast? with
    | none =>
      exact safe_bitmap_appendFrom dbg b h first rest hvs fun x hx =>
        absurd (List.getLast?_eq_none_iff.mp hlast ▸ hx) List.not_mem_nil
    | some m =>
      exact ite_intro (fun _ => trivial) fun hle =>
        safe_bitmap_appendFrom dbg b h first rest hvs (forall_lt_of_getLast? (sorted_elems b h.dir) hlast hle)

end Bitmap

namespace Treemap
open TL

theorem twf_parts {t : Treemap} (hw : TWF t) : PartsWF t :=
  fun p hp => ⟨(hw.parts p hp).1, (hw.parts p hp).2.1⟩

/-- `len()` overflows exactly when the treemap holds `2^64` values or more -/
theorem safe_len_iff (t : Treemap) (h : PartsWF t) : Safe_len t ↔ (Treemap.elems t).length < 2^64 := by
  unfold Safe_len
  rw [len_eq_length (K := kernel32) fun p hp => (h p hp).2]

theorem safe_tm_insert (t : Treemap) (hw : TWF t) (v : Nat) (hv : v < 2^64) : Safe_insert t v :=
  ⟨safe_split v hv,
   Bitmap.safe_bitmap_insert _ (Bitmap.WF.storesInv (wf_getD kernel32 hw _)) _ (split_snd_lt v)⟩

theorem safe_tm_remove (t : Treemap) (hw : TWF t) (v : Nat) (hv : v < 2^64) : Safe_remove t v := by
  refine ⟨safe_split v hv, ?_⟩
  cases hg : get t (split v).1 with
  | none => trivial
  | some b => exact Bitmap.safe_bitmap_remove b (Bitmap.WF.storesInv (hw.get hg).2.1) _ (split_snd_lt v)

theorem safe_tm_contains (t : Treemap) (hw : TWF t) (v : Nat) (hv : v < 2^64) : Safe_contains t v := by
  refine ⟨safe_split v hv, ?_⟩
  cases hg : get t (split v).1 with
  | none => trivial
  | some b => exact Bitmap.safe_bitmap_contains b (Bitmap.WF.storesInv (hw.get hg).2.1) _ (split_snd_lt v)

theorem safe_tm_push (t : Treemap) (hw : TWF t) (v : Nat) (hv : v < 2^64) : Safe_push t v := by
  have hnew := Bitmap.safe_bitmap_push Bitmap.new (Bitmap.WF.storesInv kernel32.new_WF) _ (split_snd_lt v)
  refine ⟨safe_split v hv, ?_⟩
  cases hl : t.getLast? with
  | none => exact hnew
  | some p =>
    obtain ⟨key, b⟩ := p
    exact ite_intro (fun _ => Bitmap.safe_bitmap_push b
      (Bitmap.WF.storesInv (twf_parts hw _ (List.mem_of_getLast? hl)).2) _ (split_snd_lt v)) fun _ =>
        ite_intro (fun _ => trivial) fun _ => hnew

theorem safe_tm_pushUnchecked (dbg : Bool) (t : Treemap) (hw : TWF t) (v : Nat) (hv : v < 18446744073709551616)
    (hmax : ∀ x ∈ elems t, x < v) : Safe_pushUnchecked dbg t v := by
  have hnew := Bitmap.safe_bitmap_pushUnchecked dbg Bitmap.new kernel32.new_WF _ (split_snd_lt v)
    (by simp [Bitmap.new, Bitmap.elems])
  refine ⟨safe_split v hv, ?_⟩
  cases hl : t.getLast? with
  | none => exact hnew
  | some p =>
    obtain ⟨key, b⟩ := p
    have hb : b.WF := (hw.parts _ (List.mem_of_getLast? hl)).2.1
    simp only [split_fst_of_lt hv, split_snd]
    rcases (forall_lt_iff_last kernel32 hw hl (v / 4294967296) (Nat.mod_lt v (by decide))).1
      (by rw [Nat.div_add_mod']; exact hmax) with hk | ⟨hk, hall⟩
    · rw [if_neg (Nat.ne_of_lt hk)]
      exact ⟨fun hgt => Nat.lt_asymm hk hgt.2, by simpa only [split_snd] using hnew⟩
    · rw [if_pos hk]
      exact Bitmap.safe_bitmap_pushUnchecked dbg b hb _ (Nat.mod_lt _ (by decide)) hall

theorem safe_tm_maxRev (l : Treemap) (h : PartsWF l) : Safe_maxRev l := by
  induction l with
  | nil => trivial
  | cons p rest ih =>
    obtain ⟨k, rb⟩ := p
    obtain ⟨⟨hk, hb⟩, hrest⟩ := List.forall_mem_cons.1 h
    unfold Safe_maxRev
    refine ⟨Bitmap.safe_bitmap_max rb hb, ?_⟩
    cases hm : Bitmap.max? rb with
    | none => exact ih hrest
    | some m =>
      simp only []
      rw [Bitmap.max?_spec rb hb] at hm
      exact safe_join k m hk (Bitmap.elems_lt rb hb.dir m (List.mem_of_getLast? hm))

theorem safe_tm_max (t : Treemap) (hw : TWF t) : Safe_max t :=
  safe_tm_maxRev t.reverse (fun p hp => twf_parts hw p (List.mem_reverse.1 hp))

/-! ### `insert_range` -/

theorem safe_tm_insertRangeStep {t : Treemap} (hw : TWF t) (sh sl eh el counter hi : Nat)
    (hsl : sl < 4294967296) (hel : el < 4294967296)
    (hc : counter + (insertRangeStep sh sl eh el t hi).2 < 2^64) :
    Safe_insertRangeStep sh sl eh el t counter hi := by
  have hb : ((get t hi).getD Bitmap.new).WF := wf_getD kernel32 hw hi
  have hsl : sl ≤ u32Max := Nat.le_of_lt_succ hsl
  have hel : el ≤ u32Max := Nat.le_of_lt_succ hel
  refine ⟨ite_intro (fun _ => Bitmap.safe_insertRange _ hb _ _ hsl hel) fun _ =>
    ite_intro (fun _ => Bitmap.safe_insertRange _ hb _ _ hsl (Nat.le_refl _)) fun _ =>
    ite_intro (fun _ => Bitmap.safe_insertRange _ hb _ _ (Nat.zero_le _) hel) fun _ =>
      ⟨Bitmap.safe_len _ kernel32.full_spec.1, ?_⟩, hc⟩
  cases hg : get t hi with
  | none => trivial
  | some old =>
    have hold : old.WF := (hw.get hg).2.1
    exact ⟨Bitmap.safe_len old hold, safe_insertRangeFull old hold⟩

theorem irFold_snd_mono (sh sl eh el : Nat) (t : Treemap) (n k : Nat) :
    (irFold sh sl eh el t n).2 ≤ (irFold sh sl eh el t (n + k)).2 := by
  induction k with
  | zero => exact Nat.le_refl _
  | succ k ih =>
    rw [← Nat.add_assoc, irFold_succ]
    exact Nat.le_trans ih (Nat.le_add_right _ _)

theorem irFold_wf (t : Treemap) (hw : TWF t) (sh sl eh el : Nat)
    (hsl : sl < P32) (hel : el < P32) (heh : eh < P32) (hse : sh = eh → sl ≤ el) (n : Nat) (hn : sh + n ≤ eh + 1) :
    TWF (irFold sh sl eh el t n).1 := by
  cases n with
  | zero => exact hw
  | succ n => exact (irFold_spec kernel32 t hw sh sl eh el hsl hel heh hse n (Nat.le_of_succ_le_succ hn)).1

/-- the loop over `start_hi..=end_hi`, from iteration `n` on, on the state the fold has reached -/
theorem safe_tm_insertRangeLoop_range (t : Treemap) (hw : TWF t) (sh sl eh el : Nat)
    (hsl : sl < P32) (hel : el < P32) (heh : eh < P32) (hse : sh = eh → sl ≤ el) (m n : Nat)
    (hend : sh + (n + m) ≤ eh + 1) (hcnt : (irFold sh sl eh el t (n + m)).2 < 2^64) :
    Safe_insertRangeLoop sh sl eh el (List.range' (sh + n) m) (irFold sh sl eh el t n).1 (irFold sh sl eh el t n).2 := by
  induction m generalizing n with
  | zero => trivial
  | succ m ih =>
    -- `n + (m + 1)` iterations are `n + 1` and then `m` more
    have e : n + 1 + m = n + (m + 1) := Nat.add_right_comm n 1 m
    have hle : sh + n ≤ eh :=
      Nat.le_trans (Nat.add_le_add_left (Nat.le_add_right n m) sh) (Nat.le_of_succ_le_succ hend)
    have hstep := irFold_succ sh sl eh el t n
    have hnext := ih (n + 1) (e ▸ hend) (e ▸ hcnt)
    rw [hstep] at hnext
    rw [List.range'_succ]
    exact ⟨Nat.lt_of_le_of_lt hle heh,
      safe_tm_insertRangeStep (irFold_wf t hw sh sl eh el hsl hel heh hse n (Nat.le_succ_of_le hle)) _ _ _ _ _ _ hsl hel
        (Nat.lt_of_le_of_lt (Nat.le_trans (Nat.le_of_eq (congrArg Prod.snd hstep).symm)
          (irFold_snd_mono sh sl eh el t (n + 1) m)) (e ▸ hcnt)),
      hnext⟩

/-- `insert_range`, the whole method, under the condition that the final value of `counter` fits `u64`
    (it fails only for `insert_range(..)` into the empty treemap, see `safe_tm_insertRange`) -/
theorem safe_tm_insertRange_of_count (t : Treemap) (hw : TWF t) (lo hi : Bound)
    (hlo : Bound.le u64Max lo) (hhi : Bound.le u64Max hi) (hcnt : (Treemap.insertRange t lo hi).2 < 2^64) :
    Safe_insertRange t lo hi := by
  unfold Safe_insertRange
  have hconv := convertRange64_interval lo hi hlo hhi
  cases hc : convertRange64 lo hi with
  | none => trivial
  | some p =>
    obtain ⟨start, en⟩ := p
    rw [hc] at hconv
    obtain ⟨hse, hen⟩ := interval64_bounds hconv.symm
    have hen' : en < 2^64 := Nat.lt_succ_of_le hen
    have hst' : start < 2^64 := Nat.lt_of_le_of_lt hse hen'
    simp only []
    refine ⟨safe_split start hst', safe_split en hen', ?_⟩
    -- the model's result is the fold
    have hfold : (Treemap.insertRange t lo hi).2 =
        (irFold (split start).1 (split start).2 (split en).1 (split en).2 t
          ((split en).1 + 1 - (split start).1)).2 := by
      unfold Treemap.insertRange; rw [hc]; rfl
    rw [hfold] at hcnt
    rw [split_eq hst', split_eq hen'] at hcnt ⊢
    have hdiv : start / P32 ≤ en / P32 := Nat.div_le_div_right hse
    have hsl : start % P32 < P32 := Nat.mod_lt _ (by decide)
    have hel : en % P32 < P32 := Nat.mod_lt _ (by decide)
    have heh : en / P32 < P32 := Nat.div_lt_of_lt_mul hen'
    have hord : start / P32 = en / P32 → start % P32 ≤ en % P32 := Radix.mod_le_mod_of_div_eq hse
    exact safe_tm_insertRangeLoop_range t hw (start / P32) (start % P32) (en / P32) (en % P32) hsl hel heh hord
      (en / P32 + 1 - start / P32) 0
      ((Nat.zero_add _).symm ▸ Nat.le_of_eq (Nat.add_sub_cancel' (Nat.le_succ_of_le hdiv)))
      ((Nat.zero_add _).symm ▸ hcnt)

/-- the final counter fits `u64` unless all `2^64` values are new -/
theorem insertRange_count_lt (t : Treemap) (hw : TWF t) (lo hi : Bound)
    (hlo : Bound.le u64Max lo) (hhi : Bound.le u64Max hi)
    (hnf : t ≠ [] ∨ convertRange64 lo hi ≠ some (0, u64Max)) : (Treemap.insertRange t lo hi).2 < 2^64 := by
  rw [(insertRange_spec kernel32 t hw lo hi hlo hhi).2.2]
  have hconv := convertRange64_interval lo hi hlo hhi
  unfold Spec.insertRange
  cases hi' : Spec.interval u64Max lo hi with
  | none => exact Nat.two_pow_pos 64
  | some p =>
    obtain ⟨a, c⟩ := p
    rw [hi'] at hconv
    obtain ⟨hse, hen⟩ := interval64_bounds hi'
    show c - a + 1 - _ < _
    by_cases hfull : a = 0 ∧ c = u64Max
    · obtain ⟨rfl, rfl⟩ := hfull
      -- the range is everything: the treemap is not empty, and each of its values lies in the range, so is not new
      have hne : t ≠ [] := hnf.resolve_right fun h => h hconv
      obtain ⟨x, hx⟩ := List.exists_mem_of_ne_nil _ fun h => hne ((elems_eq_nil_iff hw).mp h)
      have hx' : x ≤ u64Max := Nat.le_of_lt_succ (elems_lt (kE kernel32) hw x hx)
      exact Nat.sub_lt (by decide) (List.length_pos_of_mem (List.mem_filter.2 ⟨hx, Bool.and_eq_true _ _ ▸ ⟨decide_eq_true (Nat.zero_le x), decide_eq_true hx'⟩⟩))
    · have : c - a + 1 < u64Max + 1 := by omega
      exact Nat.lt_of_le_of_lt (Nat.sub_le _ _) this

theorem safe_tm_insertRange (t : Treemap) (hw : TWF t) (lo hi : Bound)
    (hlo : Bound.le u64Max lo) (hhi : Bound.le u64Max hi)
    (hnf : t ≠ [] ∨ convertRange64 lo hi ≠ some (0, u64Max)) : Safe_insertRange t lo hi :=
  safe_tm_insertRange_of_count t hw lo hi hlo hhi (insertRange_count_lt t hw lo hi hlo hhi hnf)

/-! ### `remove_range` -/

theorem safe_tm_removeRangeLoop (sk si ek ei : Nat) (hsi : si < 4294967296) (hei : ei < 4294967296)
    (t : Treemap) (removed : Nat) (h : ∀ p ∈ t, p.2.WF) (hacc : removed + 4294967296 * t.length < 2^64) :
    Safe_removeRangeLoop sk si ek ei t removed := by
  induction t generalizing removed with
  | nil => trivial
  | cons p t ih =>
    obtain ⟨key, rb⟩ := p
    obtain ⟨hb, ht⟩ := List.forall_mem_cons.1 h
    rw [List.length_cons] at hacc
    unfold Safe_removeRangeLoop
    refine ite_intro (fun _ => ?_) fun _ => ih _ ht (counter_step (Nat.zero_le _) hacc)
    have ha : Bound.le u32Max (.incl (if key = sk then si else 0)) := ite_le (Nat.le_of_lt_succ hsi) (Nat.zero_le _)
    have hz : Bound.le u32Max (.incl (if key = ek then ei else u32Max)) :=
      ite_le (Nat.le_of_lt_succ hei) (Nat.le_refl _)
    have hacc' := counter_step (Bitmap.removeRange_snd_le rb hb _ _ ha hz) hacc
    exact ⟨Nat.lt_succ_of_le ha, Nat.lt_succ_of_le hz, Bitmap.safe_bitmap_removeRange rb hb _ _ ha hz,
      Nat.lt_of_le_of_lt (Nat.le_add_right _ _) hacc', ih _ ht hacc'⟩

theorem safe_tm_removeRange (t : Treemap) (hw : TWF t) (hl : t.length < 4294967296) (lo hi : Bound)
    (hlo : Bound.le u64Max lo) (hhi : Bound.le u64Max hi) : Safe_removeRange t lo hi := by
  unfold Safe_removeRange
  have hconv := convertRange64_interval lo hi hlo hhi
  cases hc : convertRange64 lo hi with
  | none => trivial
  | some p =>
    obtain ⟨start, en⟩ := p
    rw [hc] at hconv
    obtain ⟨hse, hen⟩ := interval64_bounds hconv.symm
    simp only []
    have hen : en < 2^64 := Nat.lt_succ_of_le hen
    refine ⟨safe_split start (Nat.lt_of_le_of_lt hse hen), safe_split en hen, ?_⟩
    apply safe_tm_removeRangeLoop _ _ _ _ (split_snd_lt start) (split_snd_lt en) t 0
      (fun p hp => (twf_parts hw p hp).2)
    rw [Nat.zero_add]
    exact Nat.mul_lt_mul_of_pos_left hl (by decide)

/-! ### `append` -/

theorem safe_tm_appendLoop (dbg : Bool) (vs : List Nat) (t : Treemap) (prev count : Nat) (h : TWF t)
    (hlast : (elems t).getLast? = some prev) (hvs : ∀ v ∈ vs, v < 18446744073709551616)
    (hcnt : count + vs.length < 2^64) : Safe_appendLoop dbg t prev count vs := by
  induction vs generalizing t prev count with
  | nil => trivial
  | cons v vs ih =>
    obtain ⟨hv, hvs⟩ := List.forall_mem_cons.1 hvs
    rw [List.length_cons] at hcnt
    unfold Safe_appendLoop
    refine ite_intro (fun _ => trivial) fun hle => ?_
    have hmax := forall_lt_of_getLast? (sorted_elems (kE kernel32) h) hlast hle
    obtain ⟨t1, e1, w1, l1⟩ := pushUnchecked_spec kernel32 dbg t h v hv hmax
    refine ⟨safe_tm_pushUnchecked dbg t h v hv hmax,
      Nat.lt_of_le_of_lt (Nat.add_le_add_left (Nat.le_add_left 1 _) _) hcnt, ?_⟩
    rw [e1]
    exact ih t1 v (count + 1) w1 (by rw [l1]; exact List.getLast?_concat) hvs
      (by rw [Nat.add_right_comm]; exact hcnt)

theorem safe_tm_appendFrom (dbg : Bool) (t : Treemap) (h : TWF t) (first : Nat) (rest : List Nat)
    (hvs : ∀ v ∈ first :: rest, v < 18446744073709551616) (hcnt : rest.length + 1 < 2^64)
    (hmax : ∀ x ∈ elems t, x < first) : Safe_appendFrom dbg t first rest := by
  have hf := hvs first (List.mem_cons_self ..)
  obtain ⟨t1, e1, w1, l1⟩ := pushUnchecked_spec kernel32 dbg t h first hf hmax
  refine ⟨safe_tm_pushUnchecked dbg t h first hf hmax, ?_⟩
  rw [e1]
  exact safe_tm_appendLoop dbg rest t1 first 1 w1 (by rw [l1]; exact List.getLast?_concat)
    (fun x hx => hvs x (List.mem_cons_of_mem _ hx)) (by rw [Nat.add_comm]; exact hcnt)

theorem safe_tm_append (dbg : Bool) (t : Treemap) (h : TWF t) (hmaxq : Treemap.max? t = (elems t).getLast?)
    (vs : List Nat) (hvs : ∀ v ∈ vs, v < 18446744073709551616) (hcnt : vs.length < 2^64) : Safe_append dbg t vs := by
  unfold Safe_append
  cases vs with
  | nil => trivial
  | cons first rest =>
    simp only [List.length_cons] at hcnt
    refine ⟨safe_tm_max t h, ?_⟩
    rw [hmaxq]
    cases hlast : (elems t).getLast? with
    | none =>
      exact safe_tm_appendFrom dbg t h first rest hvs hcnt fun x hx =>
        absurd (List.getLast?_eq_none_iff.mp hlast ▸ hx) List.not_mem_nil
    | some m =>
      exact ite_intro (fun _ => trivial) fun hle =>
        safe_tm_appendFrom dbg t h first rest hvs hcnt (forall_lt_of_getLast? (sorted_elems (kE kernel32) h) hlast hle)

end Treemap

/-! ## `bitmap::Iter` size arithmetic -/
namespace Iter

theorem clen?_isSome (c : CIter) (hc : c.Inv) : c.len?.isSome = true := by
  unfold CIter.len?
  rw [cKernel.sizeHint c hc]
  simp

theorem iterOK_inv : ∀ st : Store, st.IterOK → st.Inv
  | .array _, h => h
  | .bitmap b, h => (Store.inv_bitmap b).2 h

theorem safe_nthLoop (cs : List Container) (n : Nat) (h : ∀ c ∈ cs, c.IterOK) : Safe_nthLoop cs n := by
  induction cs generalizing n with
  | nil => trivial
  | cons c cs ih =>
    obtain ⟨hc, hcs⟩ := List.forall_mem_cons.1 h
    unfold Safe_nthLoop
    exact ⟨Nat.lt_of_le_of_lt (Container.len_le c (iterOK_inv _ hc)) (by decide),
      ite_intro (fun _ => trivial) fun hn => ⟨Nat.le_of_not_lt hn, ih _ hcs⟩⟩

theorem safe_nth (it : Iter) (hi : it.Inv) (n : Nat) : Safe_nth it n := by
  have hl := fun n => safe_nthLoop it.containers n hi.cok
  unfold Safe_nth
  cases hf : it.front with
  | none => exact hl n
  | some f =>
    refine ⟨clen?_isSome f (hi.fi f hf), ite_intro (fun _ => ?_) fun hn => ⟨Nat.le_of_not_lt hn, hl _⟩⟩
    split
    · trivial
    · exact hl n

theorem safe_nthBack (it : Iter) (hi : it.Inv) (n : Nat) : Safe_nthBack it n := by
  have hl := fun n => safe_nthLoop it.containers.reverse n fun c hc => hi.cok c (List.mem_reverse.1 hc)
  unfold Safe_nthBack
  cases hb : it.back with
  | none => exact hl n
  | some b =>
    refine ⟨clen?_isSome b (hi.bi b hb), ite_intro (fun _ => ?_) fun hn => ⟨Nat.le_of_not_lt hn, hl _⟩⟩
    split
    · trivial
    · exact hl n

/-- a partly consumed end of the cursor: `len` and `count` are the number of values it still holds, and `len()` does
    not trip its assertion -/
theorem cend_len (f : CIter) (h : f.Inv) :
    f.len = (orem (some f)).length ∧ f.count = (orem (some f)).length ∧ f.len?.isSome = true :=
  ⟨CIter.len_spec f h, cKernel.count f h, clen?_isSome f h⟩

/-- `size_hint` / `count` of a cursor over `u32` values: every sum is the length of a part of the remaining values -/
theorem safe_sizeHint_count (it : Iter) (hi : it.Inv) (hlen : it.rem.length ≤ usizeMax) :
    Safe_sizeHint it ∧ Safe_count it := by
  obtain ⟨fr, cs, bk⟩ := it
  have hc : ∀ c ∈ cs, U64 c.len := fun c hc => Nat.lt_of_le_of_lt (Container.len_le c (iterOK_inv _ (hi.cok c hc))) (by decide)
  have hsum := sum_len cs 0 hi.cok
  simp only [rem_mk, List.length_append, usizeMax] at hlen
  simp only [Nat.zero_add] at hsum
  have key : ∀ a a' z z' : Nat, a = (orem fr).length → a' = (orem fr).length → z = (orem bk).length →
      z' = (orem bk).length →
      U64 (a + z) ∧ U64 (mid cs).length ∧ U64 (a' + (mid cs).length) ∧ U64 (a' + (mid cs).length + z') := by
    intro a a' z z' ha ha' hz hz'
    subst ha ha' hz hz'
    exact ⟨Nat.lt_succ_of_le (Nat.le_trans (Nat.add_le_add_right (Nat.le_add_right _ _) _) hlen),
      Nat.lt_succ_of_le (Nat.le_trans (Nat.le_trans (Nat.le_add_left _ _) (Nat.le_add_right _ _)) hlen),
      Nat.lt_succ_of_le (Nat.le_trans (Nat.le_add_right _ _) hlen), Nat.lt_succ_of_le hlen⟩
  unfold Safe_sizeHint Safe_count
  simp only [hsum]
  cases fr with
  | none =>
    cases bk with
    | none =>
      have k := key 0 0 0 0 rfl rfl rfl rfl
      exact ⟨⟨trivial, trivial, k.1, hc⟩, hc, k.2⟩
    | some b =>
      obtain ⟨b1, b2, b3⟩ := cend_len b (hi.bi b rfl)
      have k := key 0 0 _ _ rfl rfl b1 b2
      exact ⟨⟨trivial, b3, k.1, hc⟩, hc, k.2⟩
  | some f =>
    obtain ⟨f1, f2, f3⟩ := cend_len f (hi.fi f rfl)
    cases bk with
    | none =>
      have k := key _ _ 0 0 f1 f2 rfl rfl
      exact ⟨⟨f3, trivial, k.1, hc⟩, hc, k.2⟩
    | some b =>
      obtain ⟨b1, b2, b3⟩ := cend_len b (hi.bi b rfl)
      have k := key _ _ _ _ f1 f2 b1 b2
      exact ⟨⟨f3, b3, k.1, hc⟩, hc, k.2⟩

end Iter

namespace TIter

theorem safe_foldJoin (hi lo : Nat) (hhi : hi < 4294967296) (hlo : lo < 4294967296) : Safe_foldJoin hi lo := by
  have h : hi * 2^32 + lo < 2^64 := Nat.lt_of_lt_of_le (Radix.mul_add_lt hhi hlo) (by decide)
  unfold Safe_foldJoin
  rw [Nat.shiftLeft_eq]
  exact ⟨Nat.lt_of_le_of_lt (Nat.le_add_right _ lo) h, h⟩

end TIter

/-! ## MultiOps: the indexings of the merge loops hold for every accumulator -/
namespace Multi

theorem safe_mergeContainerOwned (op : Store → Store → Store) : ∀ (rhs lhs : List Container),
    Safe_mergeContainerOwned op lhs rhs
  | [], _ => trivial
  | r :: rs, lhs => ⟨Bitmap.safe_search lhs r.key, safe_mergeContainerOwned op rs _⟩

theorem safe_searchCow (cs : List Cow) (key : Nat) : Safe_searchCow cs key := by
  have := Bitmap.safe_search (cs.map Cow.get) key
  rwa [Bitmap.Safe_search, ← searchCow_eq, List.length_map] at this

theorem safe_mergeContainerRef (op : Store → Store → Store) : ∀ (rhs : List Container) (cs : List Cow),
    Safe_mergeContainerRef op cs rhs
  | [], _ => trivial
  | r :: rs, cs => ⟨safe_searchCow cs r.key, safe_mergeContainerRef op rs _⟩

end Multi
end Roaring
