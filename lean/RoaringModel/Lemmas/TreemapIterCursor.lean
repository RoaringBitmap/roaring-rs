import RoaringModel.Lemmas.TreemapIterBase
/-!
# `treemap::Iter` is a cursor over `Iter.rem`, under `Iter.Inv`: `new`, `next`, `next_back`, `size_hint`
  (`advance_to` / `advance_back_to`: TreemapIterAdvance.lean)
-/
namespace Roaring
namespace TIter
open TL Treemap

variable {K : Inner} (S : InnerSpec K)

/-- the untouched partitions form a contiguous segment of the map -/
def Seg (tm r : Treemap) : Prop := ∃ pre post, tm = pre ++ r ++ post

theorem Seg.append_right {tm a b : Treemap} (h : Seg tm (a ++ b)) : Seg tm b := by
  obtain ⟨pre, post, rfl⟩ := h; exact ⟨pre ++ a, post, by simp only [List.append_assoc]⟩
theorem Seg.append_left {tm a b : Treemap} (h : Seg tm (a ++ b)) : Seg tm a := by
  obtain ⟨pre, post, rfl⟩ := h; exact ⟨pre, b ++ post, by simp only [List.append_assoc]⟩
theorem Seg.tail {tm : Treemap} {p : Nat × Bitmap} {r : Treemap} (h : Seg tm (p :: r)) : Seg tm r :=
  Seg.append_right (a := [p]) h
theorem Seg.init {tm : Treemap} {p : Nat × Bitmap} {r : Treemap} (h : Seg tm (r ++ [p])) : Seg tm r := h.append_left

/-- the abstraction: values not yet yielded, ascending -/
def Iter.rem (it : Iter K) : List Nat := orem S it.front ++ elems it.outer.range ++ orem S it.back

/-- `fr` / `bk`: the front / back partition cursor is sound and its key lies before / after every untouched partition;
    `fb`: the front cursor's key is below the back cursor's -/
structure Iter.Inv (it : Iter K) : Prop where
  tmSorted : KeysSorted it.outer.treemap
  seg : Seg it.outer.treemap it.outer.range
  range : RInv S it.outer.range
  fr : ∀ f, it.front = some f → CInv S f ∧ ∀ p ∈ it.outer.range, f.hi < p.1
  bk : ∀ b, it.back = some b → CInv S b ∧ ∀ p ∈ it.outer.range, p.1 < b.hi
  fb : ∀ f b, it.front = some f → it.back = some b → f.hi < b.hi

theorem range_unb (t : Treemap) : Treemap.range t .unb .unb = t := by
  simp [Treemap.range, Bound.memB]

/-- `iter()`: the cursor starts on all values -/
theorem Iter.new_spec {t : Treemap} (h : WFd S.WF t) :
    (Iter.new (K := K) t).Inv S ∧ (Iter.new (K := K) t).rem S = elems t := by
  unfold Iter.new PIter.new
  rw [range_unb]
  exact ⟨⟨h.sorted, ⟨[], [], (List.append_nil t).symm⟩, .of_WFd S h, nofun, nofun, nofun⟩, List.append_nil _⟩

/-! ### moves of the two ends that keep the invariant -/
namespace Iter.Inv
variable {S} {o : PIter} {tm r : Treemap} {p : Nat × Bitmap} {f b : Option (To64 K)} {c c' : To64 K}

theorem setFront (h : Inv S ⟨o, some c, b⟩) (hc : CInv S c') (hhi : c'.hi = c.hi) : Inv S ⟨o, some c', b⟩ :=
  ⟨h.tmSorted, h.seg, h.range, fun _ e => Option.some.inj e ▸ ⟨hc, hhi ▸ (h.fr c rfl).2⟩, h.bk,
    fun g b' hg hb => by cases hg; exact hhi ▸ h.fb c b' rfl hb⟩
theorem setBack (h : Inv S ⟨o, f, some c⟩) (hc : CInv S c') (hhi : c'.hi = c.hi) : Inv S ⟨o, f, some c'⟩ :=
  ⟨h.tmSorted, h.seg, h.range, h.fr, fun _ e => Option.some.inj e ▸ ⟨hc, hhi ▸ (h.bk c rfl).2⟩,
    fun f' g hf hg => by cases hg; exact hhi ▸ h.fb f' c hf rfl⟩
theorem noFront (h : Inv S ⟨o, f, b⟩) : Inv S ⟨o, none, b⟩ := ⟨h.tmSorted, h.seg, h.range, nofun, h.bk, nofun⟩
theorem noBack (h : Inv S ⟨o, f, b⟩) : Inv S ⟨o, f, none⟩ := ⟨h.tmSorted, h.seg, h.range, h.fr, nofun, nofun⟩

/-- fewer untouched partitions, still a segment of the map -/
theorem subrange {r' : Treemap} (h : Inv S ⟨⟨tm, r⟩, f, b⟩) (hseg : Seg tm r') (hsub : r'.Sublist r) :
    Inv S ⟨⟨tm, r'⟩, f, b⟩ :=
  ⟨h.tmSorted, hseg, h.range.sublist S hsub,
    fun g hg => ⟨(h.fr g hg).1, fun q hq => (h.fr g hg).2 q (hsub.subset hq)⟩,
    fun g hg => ⟨(h.bk g hg).1, fun q hq => (h.bk g hg).2 q (hsub.subset hq)⟩, h.fb⟩

/-- the first / last untouched partition becomes the front / back cursor -/
theorem headFront (h : Inv S ⟨⟨tm, p :: r⟩, f, b⟩) (hc : CInv S c) (hhi : c.hi = p.1) : Inv S ⟨⟨tm, r⟩, some c, b⟩ :=
  ⟨h.tmSorted, h.seg.tail, h.range.tail,
    fun _ e => Option.some.inj e ▸ ⟨hc, hhi ▸ h.range.head_lt S⟩,
    fun g hg => ⟨(h.bk g hg).1, fun q hq => (h.bk g hg).2 q (List.mem_cons_of_mem _ hq)⟩,
    fun g b' hg hb => by cases hg; exact hhi ▸ (h.bk b' hb).2 p (List.mem_cons_self ..)⟩
theorem lastBack (h : Inv S ⟨⟨tm, r ++ [p]⟩, f, b⟩) (hc : CInv S c) (hhi : c.hi = p.1) : Inv S ⟨⟨tm, r⟩, f, some c⟩ :=
  ⟨h.tmSorted, h.seg.init, h.range.init,
    fun g hg => ⟨(h.fr g hg).1, fun q hq => (h.fr g hg).2 q (List.mem_append_left _ hq)⟩,
    fun _ e => Option.some.inj e ▸ ⟨hc, hhi ▸ h.range.lt_last S⟩,
    fun f' g hf hg => by cases hg; exact hhi ▸ (h.fr f' hf).2 p List.mem_concat_self⟩
end Iter.Inv

theorem nextOuter_spec (tm : Treemap) (back : Option (To64 K)) (range : Treemap) (front : Option (To64 K)) :
    Iter.Inv S ⟨⟨tm, range⟩, front, back⟩ → orem S front = [] →
      (Iter.nextOuter tm back range front).1.Inv S ∧
      (Iter.nextOuter tm back range front).1.rem S = (elems range ++ orem S back).tail ∧
      (Iter.nextOuter tm back range front).2 = (elems range ++ orem S back).head? := by
  induction range generalizing front with
  | nil =>
    intro h hf
    unfold Iter.nextOuter
    cases back with
    | none => exact ⟨h, by simp only [Iter.rem, hf]; rfl, rfl⟩
    | some b =>
      obtain ⟨h1, h2, h3⟩ := To64.next_spec S (h.bk b rfl).1
      exact ⟨h.setBack h1 rfl, by simp only [Iter.rem, hf, orem_some, h2]; rfl, h3⟩
  | cons p rest ih =>
    intro h _
    unfold Iter.nextOuter
    have hc := (to64_inv S (h.range.parts p (List.mem_cons_self ..))).1
    have h' := h.headFront (To64.next_spec S hc).1 rfl
    rw [elems_cons_crem S h.range]
    cases hv : (to64 K p).next.2 with
    | some v =>
      simp only [hv]
      rw [To64.next_some S hc hv]
      exact ⟨h', rfl, rfl⟩
    | none =>
      simp only [hv]
      rw [(To64.next_none S hc hv).1]
      exact ih _ h' (To64.next_none S hc hv).2

theorem Iter.next_spec (it : Iter K) (h : it.Inv S) :
    it.next.1.Inv S ∧ it.next.1.rem S = (it.rem S).tail ∧ it.next.2 = (it.rem S).head? := by
  obtain ⟨⟨tm, range⟩, front, back⟩ := it
  unfold Iter.next
  cases front with
  | none => exact nextOuter_spec S tm back range none h rfl
  | some f =>
    have hc := (h.fr f rfl).1
    have h' := h.setFront (To64.next_spec S hc).1 rfl
    rw [show Iter.rem S ⟨⟨tm, range⟩, some f, back⟩ = crem S f ++ elems range ++ orem S back from rfl]
    cases hv : f.next.2 with
    | some v =>
      simp only [hv]
      rw [To64.next_some S hc hv]
      exact ⟨h', rfl, rfl⟩
    | none =>
      simp only [hv]
      rw [(To64.next_none S hc hv).1]
      exact nextOuter_spec S tm back range _ h' (To64.next_none S hc hv).2

theorem nextBackOuter_spec (tm : Treemap) (front : Option (To64 K)) (rrange : Treemap) (back : Option (To64 K)) :
    Iter.Inv S ⟨⟨tm, rrange.reverse⟩, front, back⟩ → orem S back = [] →
      (Iter.nextBackOuter tm front rrange back).1.Inv S ∧
      (Iter.nextBackOuter tm front rrange back).1.rem S = (orem S front ++ elems rrange.reverse).dropLast ∧
      (Iter.nextBackOuter tm front rrange back).2 = (orem S front ++ elems rrange.reverse).getLast? := by
  induction rrange generalizing back with
  | nil =>
    intro h hb
    unfold Iter.nextBackOuter
    cases front with
    | none => exact ⟨h, by simp only [Iter.rem, hb]; rfl, rfl⟩
    | some f =>
      obtain ⟨h1, h2, h3⟩ := To64.nextBack_spec S (h.fr f rfl).1
      exact ⟨h.setFront h1 rfl, by simp [Iter.rem, hb, h2, elems], by simp [h3, elems]⟩
  | cons p rrest ih =>
    intro h _
    unfold Iter.nextBackOuter
    rw [List.reverse_cons] at h ⊢
    have hc := (to64_inv S (h.range.parts p List.mem_concat_self)).1
    have h' := h.lastBack (To64.nextBack_spec S hc).1 rfl
    rw [elems_concat_crem S h.range, ← List.append_assoc]
    cases hv : (to64 K p).nextBack.2 with
    | some v =>
      simp only [hv]
      rw [To64.nextBack_some S hc hv, ← List.append_assoc, List.dropLast_concat, List.getLast?_concat]
      exact ⟨h', rfl, rfl⟩
    | none =>
      simp only [hv]
      rw [(To64.nextBack_none S hc hv).1, List.append_nil]
      exact ih _ h' (To64.nextBack_none S hc hv).2

theorem Iter.nextBack_spec (it : Iter K) (h : it.Inv S) :
    it.nextBack.1.Inv S ∧ it.nextBack.1.rem S = (it.rem S).dropLast ∧ it.nextBack.2 = (it.rem S).getLast? := by
  obtain ⟨⟨tm, range⟩, front, back⟩ := it
  unfold Iter.nextBack
  have outer := nextBackOuter_spec S tm front range.reverse
  rw [List.reverse_reverse] at outer
  cases back with
  | none =>
    rw [show Iter.rem S ⟨⟨tm, range⟩, front, none⟩ = orem S front ++ elems range from List.append_nil _]
    exact outer none h rfl
  | some b =>
    have hc := (h.bk b rfl).1
    have h' := h.setBack (To64.nextBack_spec S hc).1 rfl
    rw [show Iter.rem S ⟨⟨tm, range⟩, front, some b⟩ = orem S front ++ elems range ++ crem S b from rfl]
    cases hv : b.nextBack.2 with
    | some v =>
      simp only [hv]
      rw [To64.nextBack_some S hc hv, ← List.append_assoc, List.dropLast_concat, List.getLast?_concat]
      exact ⟨h', rfl, rfl⟩
    | none =>
      simp only [hv]
      rw [(To64.nextBack_none S hc hv).1, List.append_nil]
      exact outer _ h' (To64.nextBack_none S hc hv).2

theorem remaining_eq {r : Treemap} (h : RInv S r) : ∀ acc,
    r.foldl (fun acc q => acc + Bitmap.len q.2) acc = acc + (elems r).length := by
  induction r with
  | nil => intro acc; rfl
  | cons p r ih =>
    intro acc
    rw [List.foldl_cons, ih h.tail, elems_cons, S.len_spec p.2 (h.parts p (List.mem_cons_self ..)).2,
      List.length_append, List.length_map, Nat.add_assoc]

theorem To64.sizeHint_spec {c : To64 K} (h : CInv S c) : c.sizeHint = (crem S c).length :=
  (S.sizeHint_spec _ h.1).trans (List.length_map ..).symm

theorem osizeHint_spec {o : Option (To64 K)} (h : ∀ c, o = some c → CInv S c) :
    (match (generalizing := false) o with | some c => c.sizeHint | none => 0) = (orem S o).length := by
  cases o with
  | none => rfl
  | some c => exact To64.sizeHint_spec S (h c rfl)

/-- two saturating additions saturate like one -/
theorem sat_add (a b c m : Nat) : min (min (a + b) m + c) m = min (a + c + b) m := by
  by_cases h : a + b ≤ m
  · rw [Nat.min_eq_left h, Nat.add_right_comm]
  · have h' := Nat.le_of_lt (Nat.lt_of_not_le h)
    rw [Nat.min_eq_right h', Nat.min_eq_right (Nat.le_add_right m c),
      Nat.min_eq_right (Nat.le_trans h' (Nat.add_le_add_right (Nat.le_add_right a c) b))]

/-- `size_hint` (both components) is the number of remaining values, saturating at `usize::MAX` -/
theorem Iter.sizeHint_eq (it : Iter K) (h : it.Inv S) : it.sizeHint = min (it.rem S).length usizeMax := by
  rw [Iter.rem, List.length_append, List.length_append, ← osizeHint_spec S fun c hc => (h.fr c hc).1,
    ← osizeHint_spec S fun c hc => (h.bk c hc).1, ← (remaining_eq S h.range 0).trans (Nat.zero_add _), ← sat_add]
  rfl

/-- `size_hint` is exact (both components) as long as the count fits `usize` -/
theorem Iter.sizeHint_spec (it : Iter K) (h : it.Inv S) (hfit : (it.rem S).length ≤ usizeMax) :
    it.sizeHint = (it.rem S).length :=
  (Iter.sizeHint_eq S it h).trans (Nat.min_eq_left hfit)

end TIter
end Roaring
