import RoaringModel.Mirror32
import RoaringModel.Lemmas.BitmapMut2
import RoaringModel.Lemmas.BIterLemmas
import RoaringModel.Lemmas.BStoreBasic
import RoaringModel.Lemmas.BitmapQuery
import RoaringModel.Lemmas.CursorLists
/-!
# The mirrored definitions of `Mirror32.lean` equal the model definitions (`…_mirror_eq`)

In the order of the file: `search` after an update at the position it returned; `Extend<u32>`; draining a `BitmapIter`;
container.rs `remove_smallest` / `remove_biggest`; store `PartialEq`; then for `Bitmap` (from `WF.storesInv`, what `WF`
gives every chunk): `remove_smallest`, `remove_biggest`, `rank`, `==`, the cmp.rs relations; one `step` of the driver;
`pairs_unfold` (cmp.rs `Pairs`).  The last section is not about a mirror: `full()` is well-formed and `is_full()` holds of it.
-/
namespace Roaring

/-! ## `search` after an update at the position it returned -/
namespace Bitmap

/-- after `find_container_by_key` + an update that keeps the key, the key is found at the same index -/
theorem search_after_findModify (b : Bitmap) (key : Nat) (g : Container → Container × Bool)
    (hg : ∀ c, (g c).1.key = c.key) :
    search (modifyAt (findContainerByKey b key).1 (findContainerByKey b key).2 g false).1 key
      = (true, (findContainerByKey b key).2) := by
  obtain ⟨pre, post, rfl, hpre, h⟩ := search_split b key
  have found : ∀ c r, c.key = key → search (modifyAt (pre ++ c :: r) pre.length g false).1 key = (true, pre.length) := by
    intro c r hk
    rw [modifyAt_append, search_append _ _ key hpre, search_cons, hg, hk, if_neg (Nat.lt_irrefl _), beq_self_eq_true]
    rfl
  unfold findContainerByKey
  rcases h with ⟨c, rest, rfl, hk, hs⟩ | ⟨_, hs⟩
  · rw [hs]
    exact found c rest hk
  · rw [hs]
    simp only [List.take_left', List.drop_left']
    exact found _ post rfl

theorem cinsert_key (c : Container) (i : Nat) : (c.insert i).1.key = c.key := by
  unfold Container.insert
  simp only []
  split
  · exact Container.ecs_key _
  · rfl

theorem search_after_modify (b : Bitmap) (key loc : Nat) (hs : search b key = (true, loc))
    (g : Container → Container × Bool) (hg : ∀ c, (g c).1.key = c.key) :
    search (modifyAt b loc g false).1 key = (true, loc) := by
  have := search_after_findModify b key g hg
  unfold findContainerByKey at this
  rw [hs] at this
  exact this

/-! ## `Extend<u32>` -/

/-- the loop invariant: `current_container_index` is where `currenthb` is found -/
theorem extendLoop_eq (vs : List Nat) : ∀ (b : Bitmap) (hb idx : Nat), search b hb = (true, idx) →
    extendLoop b hb idx vs = extend b vs := by
  induction vs with
  | nil => intro b hb idx _; rfl
  | cons v vs ih =>
    intro b hb idx hs
    unfold extendLoop extend
    rw [List.foldl_cons]
    by_cases hk : hb = hi16 v
    · rw [if_pos hk]
      have hfind : findContainerByKey b (hi16 v) = (b, idx) := by
        unfold findContainerByKey; rw [← hk, hs]
      have : (insert b v).1 = (modifyAt b idx (fun c => c.insert (lo16 v)) false).1 := by
        unfold insert; rw [hfind]
      rw [this]
      exact ih _ hb idx (search_after_modify b hb idx hs _ (fun c => cinsert_key c _))
    · rw [if_neg hk]
      exact ih _ (hi16 v) _ (search_after_findModify b (hi16 v) _ (fun c => cinsert_key c _))

/-- **iter.rs `Extend<u32>`**: keeping the container index between values of equal key = inserting one by one.
    Unconditional (holds for every directory, sorted or not). -/
theorem extend_mirror_eq (b : Bitmap) (vs : List Nat) : extendMirror b vs = extend b vs := by
  cases vs with
  | nil => rfl
  | cons v vs =>
    unfold extendMirror extend
    rw [List.foldl_cons]
    exact extendLoop_eq vs _ (hi16 v) _ (search_after_findModify b (hi16 v) _ (fun c => cinsert_key c _))

theorem fromIter_mirror_eq (vs : List Nat) : fromIterMirror vs = fromIter vs := extend_mirror_eq new vs

end Bitmap
end Roaring

namespace Roaring

/-! ## draining a `BitmapIter` -/
namespace BStore

/-- what the value iterator of a bitset yields = `to_array_store` -/
theorem iterAll_eq (b : BStore) (hb : b.Inv) : b.iterAll = b.toArray := by
  unfold iterAll toArray
  rw [collect_eq_rem (collect := BIter.drainFuel)
    (fun f s => by
      rw [BIter.drainFuel]
      rcases s.next with ⟨_, _ | _⟩ <;> rfl)
    BIter.next_cursor 65537 _ (BIter.new_ok b.bits hb.words), BIter.new_rem b.bits hb.length hb.words]
  rw [BIter.new_rem b.bits hb.length hb.words]
  exact Nat.lt_succ_of_le (sorted_length_le _ _ (sorted_toArray b hb) (toArray_lt b hb))

end BStore

/-! ## container.rs `remove_smallest` / `remove_biggest` -/
namespace Container

theorem removeSmallest_mirror_eq (c : Container) (hc : c.store.Inv) (n : Nat) :
    c.removeSmallestMirror n = c.removeSmallest n := by
  unfold removeSmallestMirror removeSmallest
  cases hs : c.store with
  | array v => rfl
  | bitmap b =>
    rw [hs] at hc
    simp only [BStore.iterAll_eq b hc]

theorem removeBiggest_mirror_eq (c : Container) (hc : c.store.Inv) (n : Nat) :
    c.removeBiggestMirror n = c.removeBiggest n := by
  unfold removeBiggestMirror removeBiggest
  cases hs : c.store with
  | array v => rfl
  | bitmap b =>
    rw [hs] at hc
    simp only [BStore.iterAll_eq b hc]

end Container

/-! ## store/mod.rs `PartialEq` -/
namespace Store

theorem zip_all_eq : ∀ (l r : List Nat), l.length = r.length →
    ((List.zip l r).all (fun p => p.1 == p.2) = true ↔ l = r)
  | [], [], _ => by simp
  | [], _ :: _, h => by simp at h
  | _ :: _, [], h => by simp at h
  | x :: xs, y :: ys, h => by
    have ih := zip_all_eq xs ys (by simpa using h)
    simp only [List.zip_cons_cons, List.all_cons, Bool.and_eq_true, beq_iff_eq, ih, List.cons.injEq]

/-- comparing two bitsets through `len` and the zipped value iterators = comparing `len` and the words -/
theorem eq_mirror_eq (s t : Store) (hs : s.Inv) (ht : t.Inv) : Store.eqMirror s t = Store.eq s t := by
  cases s with
  | array a => cases t <;> rfl
  | bitmap a =>
    cases t with
    | array _ => rfl
    | bitmap b =>
      have ha : a.Inv := hs
      have hb : b.Inv := ht
      show (a.len == b.len && (List.zip a.iterAll b.iterAll).all (fun p => p.1 == p.2))
        = (a.len == b.len && a.bits == b.bits)
      rw [BStore.iterAll_eq a ha, BStore.iterAll_eq b hb]
      by_cases hl : a.len = b.len
      · have hlen : a.toArray.length = b.toArray.length := by
          unfold BStore.toArray
          rw [BStore.length_toArrayFrom a.bits ha.words 0, BStore.length_toArrayFrom b.bits hb.words 0,
            ← ha.len, ← hb.len, hl]
        have h1 := zip_all_eq a.toArray b.toArray hlen
        rw [Bool.eq_iff_iff]
        simp only [Bool.and_eq_true, beq_iff_eq, h1]
        constructor
        · rintro ⟨_, h⟩; exact ⟨hl, by rw [BStore.toArray_inj a b ha hb h]⟩
        · rintro ⟨_, h⟩
          refine ⟨hl, ?_⟩
          have : a = b := by
            cases a; cases b; simp only [BStore.mk.injEq]; exact ⟨hl, h⟩
          rw [this]
      · have : (a.len == b.len) = false := by simpa using hl
        simp [this]

end Store

end Roaring

namespace Roaring
namespace Bitmap

/-! ## inherent.rs `remove_smallest` / `remove_biggest`

`position` from the front and `rposition` from the back (= from the front of the reversed list) stop at the first chunk
that does not fit into what is left of `n`; `Bitmap.removeSmallest` and `Bitmap.removeBiggestRev` are the same
skip-then-trim recursion with another trimming function. -/

/-- the chunk at which the scans stop, and what a skip-then-trim recursion `F` returns -/
theorem scan_split (g : Container → Nat → Container) (F : List Container → Nat → List Container)
    (hF0 : ∀ n, F [] n = [])
    (hF1 : ∀ c cs n, F (c :: cs) n =
      if c.len ≤ n then F cs (n - c.len) else if n > 0 then g c n :: cs else c :: cs) :
    ∀ (l : List Container) (n : Nat),
      (∃ pre c post n', l = pre ++ c :: post ∧ rsPosition l n = (pre.length, n') ∧ rbScan l n = (some pre.length, n') ∧
        F l n = (if n' > 0 then g c n' else c) :: post) ∨
      (∃ m, rsPosition l n = (l.length, m) ∧ rbScan l n = (none, m) ∧ F l n = [])
  | [], n => .inr ⟨n, rfl, rfl, hF0 n⟩
  | c :: cs, n => by
    rw [hF1, rsPosition, rbScan]
    by_cases hle : c.len ≤ n
    · simp only [if_pos hle]
      rcases scan_split g F hF0 hF1 cs (n - c.len) with ⟨pre, d, post, n', rfl, h1, h2, h3⟩ | ⟨m, h1, h2, h3⟩
      · exact .inl ⟨c :: pre, d, post, n', rfl, by rw [h1]; rfl, by rw [h2]; rfl, h3⟩
      · exact .inr ⟨m, by rw [h1]; rfl, by rw [h2]; rfl, h3⟩
    · simp only [if_neg hle]
      exact .inl ⟨[], c, cs, n, rfl, rfl, rfl, by by_cases hn : n > 0 <;> simp [hn]⟩

/-- **inherent.rs `remove_smallest`**: `position` + `drain(..position)` + `containers[0].remove_smallest(n)`
    = the fused recursion of `Bitmap.removeSmallest` -/
theorem removeSmallest_mirror_eq (b : Bitmap) (h : ∀ c ∈ b, c.store.Inv) (n : Nat) :
    removeSmallestMirror b n = removeSmallest b n := by
  have hd : ∀ p, (if p > 0 then b.drop p else b) = b.drop p := fun p => by
    cases p with
    | zero => rfl
    | succ p => rfl
  unfold removeSmallestMirror
  simp only [hd]
  rcases scan_split Container.removeSmallest removeSmallest (fun _ => rfl) (fun _ _ _ => by rw [removeSmallest]) b n
    with ⟨pre, c, post, n', rfl, h1, -, h3⟩ | ⟨m, h1, -, h3⟩
  · rw [h3, h1, List.drop_left']
    · by_cases hn : n' > 0
      · simp [hn, Container.removeSmallest_mirror_eq c (h c (by simp)) n']
      · simp [hn]
    · rfl
  · rw [h3, h1, List.drop_length]
    simp

/-- **inherent.rs `remove_biggest`**: `rposition` + `drain(position + 1..)` + `containers[position].remove_biggest(n)`
    (or `clear()`) = the recursion over the reversed list of `Bitmap.removeBiggest` -/
theorem removeBiggest_mirror_eq (b : Bitmap) (h : ∀ c ∈ b, c.store.Inv) (n : Nat) :
    removeBiggestMirror b n = removeBiggest b n := by
  unfold removeBiggestMirror removeBiggest
  rcases scan_split Container.removeBiggest removeBiggestRev (fun _ => rfl) (fun _ _ _ => by rw [removeBiggestRev])
    b.reverse n with ⟨pre, c, post, n', hb, -, h2, h3⟩ | ⟨m, -, h2, h3⟩
  · obtain rfl : b = post.reverse ++ c :: pre.reverse := by
      rw [← List.reverse_reverse b, hb, List.reverse_append, List.reverse_cons, List.append_assoc]; rfl
    -- the chunk the scan stopped at, counted from the front, and the chunks kept
    have hpos : (post.reverse ++ c :: pre.reverse).length - 1 - pre.length = post.reverse.length := by
      simp only [List.length_append, List.length_cons, List.length_reverse]; omega
    have htake : (post.reverse ++ c :: pre.reverse).take (post.reverse.length + 1) = post.reverse ++ [c] := by
      rw [List.take_append, List.take_of_length_le (Nat.le_succ _), Nat.add_sub_cancel_left]; rfl
    rw [h2, h3]
    simp only [hpos, htake]
    by_cases hn : n' > 0
    · simp [hn, Container.removeBiggest_mirror_eq c (h c (by simp)) n']
    · simp [hn]
  · rw [h2, h3]; rfl

/-! ## inherent.rs `rank` -/

private theorem foldl_add_reverse (l : List Nat) : l.reverse.foldl (· + ·) 0 = l.foldl (· + ·) 0 := by
  induction l with
  | nil => rfl
  | cons x xs ih =>
    simp only [List.reverse_cons, List.foldl_append, List.foldl_cons, List.foldl_nil, Nat.zero_add]
    rw [ih, foldl_add_init xs x]; omega

theorem len_eq_sum (l : Bitmap) : len l = (l.map Container.len).foldl (· + ·) 0 := by
  unfold len; rw [List.foldl_map]

/-- **inherent.rs `rank`**: summing the chunks before `i` in reverse (the `Ok(i)` arm) = front to back -/
theorem rank_mirror_eq (b : Bitmap) (v : Nat) : rankMirror b v = rank b v := by
  unfold rankMirror rank
  cases search b (hi16 v) with
  | mk f i =>
    cases f with
    | true => simp only []; rw [len_eq_sum, List.map_reverse, foldl_add_reverse]; rfl
    | false => simp only []; rw [len_eq_sum]

/-! ## store/mod.rs `PartialEq` through `Vec<Container>` -/

theorem eq_mirror_eq : ∀ (a b : Bitmap), (∀ c ∈ a, c.store.Inv) → (∀ c ∈ b, c.store.Inv) →
    eqMirror a b = Bitmap.eq a b
  | [], [], _, _ => rfl
  | [], _ :: _, _, _ => rfl
  | _ :: _, [], _, _ => rfl
  | x :: xs, y :: ys, hx, hy => by
    unfold eqMirror Bitmap.eq
    rw [Store.eq_mirror_eq x.store y.store (hx x (List.mem_cons_self ..)) (hy y (List.mem_cons_self ..)),
      eq_mirror_eq xs ys (fun c hc => hx c (List.mem_cons_of_mem _ hc)) (fun c hc => hy c (List.mem_cons_of_mem _ hc))]

/-! ## cmp.rs -/

private theorem isSubsetLoop_eq : ∀ (l : List (Option Container × Option Container)),
    isSubsetLoop l = l.all fun
      | (none, _) => true
      | (some _, none) => false
      | (some c1, some c2) => c1.isSubset c2
  | [] => rfl
  | (none, _) :: rest => by rw [isSubsetLoop, List.all_cons, isSubsetLoop_eq rest]; simp
  | (some _, none) :: rest => by rw [isSubsetLoop, List.all_cons]; simp
  | (some c1, some c2) :: rest => by
    rw [isSubsetLoop, List.all_cons, isSubsetLoop_eq rest]
    cases hc : c1.isSubset c2 <;> simp [hc]

/-- **cmp.rs `is_subset`**: the loop with early `return false` = `all` over the pairs -/
theorem isSubset_mirror_eq (a b : Bitmap) : isSubsetMirror a b = isSubset a b := by
  unfold isSubsetMirror isSubset; exact isSubsetLoop_eq _

theorem isSuperset_mirror_eq (a b : Bitmap) : isSupersetMirror a b = isSuperset a b :=
  isSubset_mirror_eq b a

/-- **cmp.rs `is_disjoint`**: `filter_map(zip)` then `all` = one `all` with a default -/
theorem isDisjoint_mirror_eq (a b : Bitmap) : isDisjointMirror a b = isDisjoint a b := by
  unfold isDisjointMirror isDisjoint
  induction pairs a b with
  | nil => rfl
  | cons p rest ih =>
    obtain ⟨l, r⟩ := p
    cases l <;> cases r <;> simp [ih]

end Bitmap
end Roaring

namespace Roaring

theorem Bitmap.step_mirror_eq (dbg : Bool) (b : Bitmap) (h : b.WF) (op : Op32) :
    Bitmap.stepMirror dbg b op = Bitmap.step dbg b op := by
  cases op <;> try rfl
  · simp only [Bitmap.stepMirror, Bitmap.step, Bitmap.extend_mirror_eq]
  · simp only [Bitmap.stepMirror, Bitmap.step, Bitmap.removeSmallest_mirror_eq b h.storesInv]
  · simp only [Bitmap.stepMirror, Bitmap.step, Bitmap.removeBiggest_mirror_eq b h.storesInv]

end Roaring

namespace Roaring
namespace Bitmap

/-- **cmp.rs `Pairs`**: `Bitmap.pairs` is the list of items that repeated `Pairs::next` yields -/
theorem pairs_unfold (l r : List Container) :
    pairs l r = match pairsNext (l, r) with
      | none => []
      | some (p, st) => p :: pairs st.1 st.2 := by
  cases l with
  | nil =>
    cases r with
    | nil => simp [pairs, pairsNext]
    | cons y ys => simp [pairs, pairsNext]
  | cons x xs =>
    cases r with
    | nil => simp [pairs, pairsNext]
    | cons y ys =>
      rw [pairs]
      unfold pairsNext
      by_cases h1 : x.key = y.key
      · simp [h1]
      · by_cases h2 : x.key < y.key
        · simp [h1, h2]
        · simp [h1, h2]

/-! ## inherent.rs `full()` -/

theorem storeFull_wf : Store.full.WF := ⟨BStore.inv_full, by decide⟩

/-- `full()` is well-formed (a producer row of C04) … -/
theorem full_wf : full.WF := by
  refine ⟨?_, ?_⟩
  · unfold full
    rw [List.map_map]
    have : (Container.key ∘ Container.full) = id := by funext k; rfl
    rw [this, List.map_id]
    exact List.pairwise_lt_range
  · intro c hc
    unfold full at hc
    obtain ⟨k, hk, rfl⟩ := List.mem_map.mp hc
    exact ⟨List.mem_range.mp hk, storeFull_wf⟩

/-- … and `is_full()` answers `true` on it -/
theorem full_isFull : isFull full = true := by
  unfold isFull full
  simp only [List.length_map, List.length_range, beq_self_eq_true, Bool.true_and, List.all_map]
  rw [List.all_eq_true]
  intro k _
  show (Container.full k).isFull = true
  rfl

end Bitmap
end Roaring
