import RoaringModel.BitmapStore
import RoaringModel.Lemmas.WordCore
/-!
# Word-level `testBit` facts for the range operations of `bitmap_store.rs`

The mask a range `[s, e]` induces on each word of a word list (`rangeMask`, `rankMask`), `BStore.word` of updated
word lists, and splitting a word list around a word index.  Depends only on the model and the word lemmas of
`WordCore.lean`.  Namespace `Roaring.Mask`.
-/
namespace Roaring
namespace Mask

theorem not64_testBit_of_lt {w : Nat} (h : w < 2^64) (i : Nat) :
    (not64 w).testBit i = (decide (i < 64) && !w.testBit i) := by
  rw [not64_testBit]
  by_cases hi : i < 64
  · simp [hi]
  · simp [hi, testBit_ge64 h (Nat.le_of_not_lt hi)]

theorem not64_lt {w : Nat} (h : w < 2^64) : not64 w < 2^64 := Roaring.not64_lt h

theorem and_lt_right (a : Nat) {b : Nat} (h : b < 2^64) : a &&& b < 2^64 :=
  Nat.lt_of_le_of_lt Nat.and_le_right h

theorem or_wMax {w : Nat} (h : w < 2^64) : w ||| wMax = wMax := by
  apply word_ext (Nat.or_lt_two_pow h wMax_lt) wMax_lt
  intro i hi; simp [Nat.testBit_or, wMax_testBit, hi]

theorem and_wMax {w : Nat} (h : w < 2^64) : w &&& wMax = w := by
  apply word_ext (and_lt w _ h) h
  intro i hi; simp [Nat.testBit_and, wMax_testBit, hi]

theorem not64_zero : not64 0 = wMax := by decide
theorem not64_wMax : not64 wMax = 0 := by decide

theorem shlMax_testBit {s : Nat} (hs : s < 64) (i : Nat) :
    (shlMax s).testBit i = (decide (s ≤ i) && decide (i < 64)) := by
  rw [shlMax_eq hs, maskGE_testBit hs]
theorem shrMax_testBit {e : Nat} (he : e < 64) (i : Nat) : (shrMax e).testBit i = decide (i ≤ e) := by
  rw [shrMax_eq he, maskLE_testBit]
theorem shrMax'_testBit {e : Nat} (he : e < 64) (i : Nat) : (shrMax' e).testBit i = decide (i ≤ e) := by
  rw [shrMax'_eq he, maskLE_testBit]

/-! ### the mask a range `[s, e]` induces on word `k`

`Radix.span*` at base 64: word `k` sees the bits `spanLo ..= spanHi` of the range, its own end in the first and the last
word and the word's end (`0`, `63`) elsewhere. -/

def rangeMask (s e k : Nat) : Nat :=
  if s / 64 ≤ k ∧ k ≤ e / 64 then
    maskLE (Radix.spanHi 63 (e / 64) (e % 64) k) &&& maskGE (Radix.spanLo (s / 64) (s % 64) k)
  else 0

theorem maskLE_full : maskLE 63 = wMax := rfl
theorem maskGE_full : maskGE 0 = wMax := by decide

theorem spanLo_lt (s k : Nat) : Radix.spanLo (s / 64) (s % 64) k < 64 := by
  rw [Radix.spanLo]
  split
  · exact Nat.mod_lt s (by decide)
  · decide

theorem spanHi_lt (e k : Nat) : Radix.spanHi 63 (e / 64) (e % 64) k < 64 := by
  rw [Radix.spanHi]
  split
  · exact Nat.mod_lt e (by decide)
  · decide

theorem rangeMask_lt (s e k : Nat) : rangeMask s e k < 2^64 := by
  rw [rangeMask]
  split
  · exact and_lt _ _ (maskLE_lt (spanHi_lt e k))
  · exact Nat.two_pow_pos 64

theorem rangeMask_testBit (s e k i : Nat) (hi : i < 64) :
    (rangeMask s e k).testBit i = (decide (s ≤ 64 * k + i) && decide (64 * k + i ≤ e)) := by
  have h := Radix.span_decide (B := 64) (top := 63) (sh := s / 64) (eh := e / 64) (k := k) rfl
    (Nat.mod_lt s (by decide)) (Nat.mod_lt e (by decide)) hi
  rw [Nat.div_add_mod' s 64, Nat.div_add_mod' e 64, Nat.mul_comm k 64] at h
  rw [h, rangeMask]
  by_cases c : s / 64 ≤ k ∧ k ≤ e / 64
  · rw [if_pos c, decide_eq_true c, Bool.true_and, Nat.testBit_and, maskLE_testBit, maskGE_testBit (spanLo_lt s k),
      decide_eq_true hi, Bool.and_true, Bool.and_comm]
  · rw [if_neg c, decide_eq_false c, Bool.false_and, Nat.zero_testBit]

theorem rangeMask_same (s e : Nat) (h : s / 64 = e / 64) :
    rangeMask s e (s / 64) = maskLE (e % 64) &&& maskGE (s % 64) := by
  rw [rangeMask, if_pos ⟨Nat.le_refl _, Nat.le_of_eq h⟩, Radix.spanLo, if_pos rfl, Radix.spanHi, if_pos h]

theorem rangeMask_out (s e k : Nat) (h : k < s / 64 ∨ e / 64 < k) : rangeMask s e k = 0 :=
  if_neg fun c => h.elim (Nat.not_lt.2 c.1) (Nat.not_lt.2 c.2)

theorem rangeMask_first (s e : Nat) (h : s / 64 < e / 64) : rangeMask s e (s / 64) = maskGE (s % 64) := by
  rw [rangeMask, if_pos ⟨Nat.le_refl _, Nat.le_of_lt h⟩, Radix.spanLo, if_pos rfl, Radix.spanHi, if_neg (Nat.ne_of_lt h),
    maskLE_full, Nat.and_comm, and_wMax (maskGE_lt (Nat.mod_lt s (by decide)))]

theorem rangeMask_last (s e : Nat) (h : s / 64 < e / 64) : rangeMask s e (e / 64) = maskLE (e % 64) := by
  rw [rangeMask, if_pos ⟨Nat.le_of_lt h, Nat.le_refl _⟩, Radix.spanLo, if_neg (Nat.ne_of_gt h), Radix.spanHi, if_pos rfl,
    maskGE_full, and_wMax (maskLE_lt (Nat.mod_lt e (by decide)))]

theorem rangeMask_mid (s e k : Nat) (h1 : s / 64 < k) (h2 : k < e / 64) : rangeMask s e k = wMax := by
  rw [rangeMask, if_pos ⟨Nat.le_of_lt h1, Nat.le_of_lt h2⟩, Radix.spanLo, if_neg (Nat.ne_of_gt h1), Radix.spanHi,
    if_neg (Nat.ne_of_lt h2), maskLE_full, maskGE_full, and_wMax wMax_lt]

open BStore (word fillWords)

theorem word_eq_getElem {bits : List Nat} {k : Nat} (h : k < bits.length) : word bits k = bits[k] := by
  simp [word, List.getD_eq_getElem?_getD, h]

theorem word_of_ge {bits : List Nat} {k : Nat} (h : bits.length ≤ k) : word bits k = 0 := by
  simp [word, List.getD_eq_getElem?_getD, h]

theorem word_lt {bits : List Nat} (hw : ∀ w ∈ bits, w < 2^64) (k : Nat) : word bits k < 2^64 := by
  by_cases h : k < bits.length
  · rw [word_eq_getElem h]; exact hw _ (List.getElem_mem h)
  · rw [word_of_ge (by omega)]; decide

theorem words_of_word (bits : List Nat) (h : ∀ k, k < bits.length → word bits k < 2^64) :
    ∀ w ∈ bits, w < 2^64 := by
  intro w hm
  obtain ⟨k, hk, rfl⟩ := List.getElem_of_mem hm
  rw [← word_eq_getElem hk]; exact h k hk

theorem word_set_eq (bits : List Nat) (k v i : Nat) :
    word (bits.set k v) i = if i = k ∧ k < bits.length then v else word bits i := by
  unfold word
  simp only [List.getD_eq_getElem?_getD, List.getElem?_set]
  by_cases h : k = i
  · subst h
    by_cases hk : k < bits.length <;> simp [hk]
  · have : ¬ i = k := fun h' => h h'.symm
    simp [h, this]

theorem word_set (bits : List Nat) (k v i : Nat) (hk : k < bits.length) :
    word (bits.set k v) i = if i = k then v else word bits i := by
  rw [word_set_eq]; simp [hk]

theorem word_fillWords (bits : List Nat) (lo hi val i : Nat) (h1 : lo ≤ hi) (h2 : hi ≤ bits.length) :
    word (fillWords bits lo hi val) i = if lo ≤ i ∧ i < hi then val else word bits i := by
  unfold word fillWords
  simp only [List.getD_eq_getElem?_getD, List.getElem?_append, List.getElem?_replicate, List.getElem?_take,
    List.getElem?_drop, List.length_take, List.length_append, List.length_replicate]
  rw [Nat.min_eq_left (Nat.le_trans h1 h2), Nat.add_sub_cancel' h1]
  by_cases c1 : i < lo
  · have h3 : i < hi := Nat.lt_of_lt_of_le c1 h1
    have h4 : ¬ (lo ≤ i ∧ i < hi) := fun h => Nat.not_le_of_lt c1 h.1
    rw [if_neg h4]; simp only [c1, h3, if_true]
  · have hle := Nat.le_of_not_lt c1
    by_cases c2 : i < hi
    · have h4 : i - lo < hi - lo := Nat.sub_lt_sub_right hle c2
      have h5 : lo ≤ i ∧ i < hi := ⟨hle, c2⟩
      rw [if_pos h5]; simp only [c1, c2, h4, if_true, if_false, Option.getD_some]
    · have h5 : ¬ (lo ≤ i ∧ i < hi) := fun h => c2 h.2
      rw [if_neg h5]; simp only [c2, Nat.add_sub_cancel' (Nat.le_of_not_lt c2), if_false]

theorem length_fillWords (bits : List Nat) (lo hi val : Nat) (h1 : lo ≤ hi) (h2 : hi ≤ bits.length) :
    (fillWords bits lo hi val).length = bits.length := by
  unfold fillWords
  rw [List.length_append, List.length_append, List.length_take, List.length_replicate, List.length_drop,
    Nat.min_eq_left (Nat.le_trans h1 h2), Nat.add_sub_cancel' h1, Nat.add_sub_cancel' h2]

theorem split_at (bits : List Nat) (k : Nat) (hk : k < bits.length) :
    bits = bits.take k ++ word bits k :: bits.drop (k + 1) := by
  rw [word_eq_getElem hk, ← List.drop_eq_getElem_cons hk, List.take_append_drop]

theorem split_range (bits : List Nat) (sk ek : Nat) (h1 : sk < ek) (h2 : ek < bits.length) :
    bits = bits.take sk ++ word bits sk ::
      (((bits.drop (sk + 1)).take (ek - (sk + 1))) ++ word bits ek :: bits.drop (ek + 1)) := by
  have e1 := split_at bits sk (by omega)
  have e2 : bits.drop (sk + 1) = (bits.drop (sk + 1)).take (ek - (sk + 1)) ++ (bits.drop (sk + 1)).drop (ek - (sk + 1)) :=
    (List.take_append_drop _ _).symm
  have e3 : (bits.drop (sk + 1)).drop (ek - (sk + 1)) = word bits ek :: bits.drop (ek + 1) := by
    rw [List.drop_drop, word_eq_getElem h2]
    have : sk + 1 + (ek - (sk + 1)) = ek := by omega
    rw [this]; exact List.drop_eq_getElem_cons h2
  rw [e3] at e2
  rw [← e2]; exact e1

theorem all_drop_take (bits : List Nat) (a n : Nat) (q : Nat → Bool) (h : a + n ≤ bits.length) :
    ((bits.drop a).take n).all q = true ↔ ∀ k, a ≤ k → k < a + n → q (word bits k) = true := by
  rw [List.all_eq_true]
  have hlen : ((bits.drop a).take n).length = n := by
    rw [List.length_take, List.length_drop, Nat.min_eq_left (Nat.le_sub_of_add_le' h)]
  constructor
  · intro hq k h1 h2
    have := hq _ (List.getElem_mem (hlen ▸ Nat.sub_lt_left_of_lt_add h1 h2))
    rw [List.getElem_take, List.getElem_drop] at this
    rw [word_eq_getElem (Nat.lt_of_lt_of_le h2 h)]
    simpa only [Nat.add_sub_cancel' h1] using this
  · intro hq x hx
    obtain ⟨j, hj, rfl⟩ := List.mem_iff_getElem.1 hx
    rw [List.getElem_take, List.getElem_drop, ← word_eq_getElem]
    exact hq (a + j) (Nat.le_add_right a j) (Nat.add_lt_add_left (hlen ▸ hj) a)

theorem and_not64_zero {w : Nat} (h : w < 2^64) : w &&& not64 0 = w := by
  rw [not64_zero, and_wMax h]

/-- `(w << (63 - bit)).count_ones()` counts the bits `0..=bit` of `w` -/
theorem popcount_shl_rank (w bit : Nat) (hb : bit < 64) :
    popcount ((w <<< (63 - bit)) % W) = popcount (w &&& maskLE bit) := by
  rw [maskLE_eq, Nat.and_two_pow_sub_one_eq_mod, Nat.shiftLeft_eq, W_eq]
  have : (2:Nat)^64 = 2^(bit + 1) * 2^(63 - bit) := by
    rw [← Nat.pow_add]; congr 1; omega
  rw [this, Nat.mul_mod_mul_right, popcount_mul_two_pow]

/-- the mask `x ≤ i` induces on word `k` -/
def rankMask (i k : Nat) : Nat :=
  if k < i / 64 then wMax else if k = i / 64 then maskLE (i % 64) else 0

theorem rankMask_testBit (i k j : Nat) (hj : j < 64) :
    (rankMask i k).testBit j = decide (64 * k + j ≤ i) := by
  rw [Bool.eq_iff_iff, decide_eq_true_eq, pos_le_iff k hj i]
  unfold rankMask
  by_cases c1 : k < i / 64
  · rw [if_pos c1, wMax_testBit, decide_eq_true_eq]; exact ⟨fun _ => Or.inl c1, fun _ => hj⟩
  · rw [if_neg c1]
    by_cases c2 : k = i / 64
    · rw [if_pos c2, maskLE_testBit, decide_eq_true_eq]
      exact ⟨fun h => Or.inr ⟨c2, h⟩, fun h => h.elim (absurd · c1) (·.2)⟩
    · rw [if_neg c2, Nat.zero_testBit]
      exact ⟨fun h => absurd h Bool.false_ne_true, fun h => h.elim (absurd · c1) fun h' => absurd h'.1 c2⟩

end Mask
end Roaring
