import RoaringModel.Lsb0
import RoaringModel.SpecLsb0
/-!
# Lemmas for C17: `shift_bytes` at the value/bit level

The loop of `shift_bytes` multiplies the little-endian value of the slice by `2^k` (`leVal_shiftLoop`) and keeps
bytes (`shiftLoop_bytes`, `shiftLoop_length`); membership in `Spec.bitsOfBytes` is `testBit` of that value
(`mem_bitsOfBytes`, `mem_bitsOfBytes_iff_testBit`), so shifting moves every set bit up by `k` (`shifted_testBit_iff`).
Last, the cached cardinality of the bitset store built from a piece (`fromUnchecked_len`, `bmFromLsb0_len`).
-/
namespace Roaring.MiscLemmas
open Roaring Roaring.Lsb0

/-- One step of the `shift_bytes` loop in `u8` arithmetic.  With `t = 2^(8-k)` the byte is `t * (b / t) + b % t`;
    shifting it up by `k` moves `b / t` (the new carry, below `2^k`) past bit 8 and leaves `2^k * (b % t)`, a
    multiple of `2^k` with room for the old carry below it, so that `|` is `+`. -/
theorem shift_step (k b c : Nat) (hk : k < 8) (hb : b < 256) (hc : c < 2 ^ k) :
    (((b <<< k) % 256) ||| c) + 256 * (b >>> (8 - k)) = b * 2 ^ k + c
      ∧ b >>> (8 - k) < 2 ^ k
      ∧ (((b <<< k) % 256) ||| c) < 256 := by
  have hst : 2 ^ k * 2 ^ (8 - k) = 256 := by rw [← Nat.pow_add, Nat.add_sub_cancel' (Nat.le_of_lt hk)]
  rw [Nat.shiftLeft_eq, Nat.shiftRight_eq_div_pow]
  generalize 2 ^ (8 - k) = t at hst
  have ht : 0 < t := Nat.pos_of_ne_zero fun h => by rw [h] at hst; cases hst
  have hsplit : b * 2 ^ k = 256 * (b / t) + 2 ^ k * (b % t) := by
    rw [← hst, Nat.mul_assoc, ← Nat.mul_add, Nat.div_add_mod, Nat.mul_comm]
  have hlow : 2 ^ k * (b % t) + 2 ^ k ≤ 256 := by
    rw [← Nat.mul_succ, ← hst]; exact Nat.mul_le_mul_left _ (Nat.mod_lt b ht)
  have hmod : b * 2 ^ k % 256 = 2 ^ k * (b % t) := by
    rw [hsplit, Nat.mul_add_mod,
      Nat.mod_eq_of_lt (Nat.lt_of_lt_of_le (Nat.lt_add_of_pos_right (Nat.two_pow_pos k)) hlow)]
  rw [hmod, ← Nat.two_pow_add_eq_or_of_lt hc, hsplit]
  exact ⟨(Nat.add_comm _ _).trans (Nat.add_assoc _ _ _).symm,
    Nat.div_lt_of_lt_mul (by rw [Nat.mul_comm, hst]; exact hb),
    Nat.lt_of_lt_of_le (Nat.add_lt_add_left hc _) hlow⟩

theorem two_pow_le_128 (k : Nat) (hk : k < 8) : 2 ^ k ≤ 128 := by
  have : 2 ^ k ≤ 2 ^ 7 := Nat.pow_le_pow_right (by decide) (Nat.le_of_lt_succ hk)
  simpa using this

/-- the little-endian value of the shifted stream is the value shifted: nothing is lost, the final
    carry byte included -/
theorem leVal_shiftLoop (k : Nat) (hk : k < 8) : ∀ (bs : List Nat) (carry : Nat),
    (∀ b ∈ bs, b < 256) → carry < 2 ^ k → leVal (shiftLoop k bs carry) = leVal bs * 2 ^ k + carry := by
  intro bs
  induction bs with
  | nil =>
    intro carry _ _
    by_cases hc : carry = 0
    · simp [shiftLoop, hc, leVal]
    · simp [shiftLoop, hc, leVal]
  | cons b bs ih =>
    intro carry hb hc
    have hb256 : b < 256 := hb b (by simp)
    obtain ⟨h1, h2, _⟩ := shift_step k b carry hk hb256 hc
    simp only [shiftLoop, leVal]
    rw [ih (b >>> (8 - k)) (fun x hx => hb x (by simp [hx])) h2]
    rw [Nat.add_mul, Nat.mul_assoc, Nat.mul_add, Nat.add_left_comm, h1, Nat.add_right_comm, Nat.add_comm]

theorem shiftLoop_bytes (k : Nat) (hk : k < 8) : ∀ (bs : List Nat) (carry : Nat),
    (∀ b ∈ bs, b < 256) → carry < 2 ^ k → ∀ x ∈ shiftLoop k bs carry, x < 256 := by
  intro bs
  induction bs with
  | nil =>
    intro carry _ hc x hx
    have h128 := two_pow_le_128 k hk
    by_cases h0 : carry = 0
    · simp [shiftLoop, h0] at hx
    · simp [shiftLoop, h0] at hx; omega
  | cons b bs ih =>
    intro carry hb hc x hx
    have hb256 : b < 256 := hb b (by simp)
    obtain ⟨_, h2, h3⟩ := shift_step k b carry hk hb256 hc
    simp only [shiftLoop, List.mem_cons] at hx
    rcases hx with rfl | hx
    · exact h3
    · exact ih _ (fun y hy => hb y (by simp [hy])) h2 x hx

theorem shiftLoop_length (k : Nat) : ∀ (bs : List Nat) (carry : Nat),
    bs.length ≤ (shiftLoop k bs carry).length ∧ (shiftLoop k bs carry).length ≤ bs.length + 1 := by
  intro bs
  induction bs with
  | nil => intro carry; by_cases h : carry = 0 <;> simp [shiftLoop, h]
  | cons b bs ih => intro carry; have := ih (b >>> (8 - k)); simp only [shiftLoop, List.length_cons]; omega

theorem mem_bitsOfBytes (off : Nat) (bs : List Nat) (x : Nat) :
    x ∈ Spec.bitsOfBytes off bs ↔
      ∃ i j b, bs[i]? = some b ∧ j < 8 ∧ b.testBit j = true ∧ x = off + 8 * i + j := by
  simp only [Spec.bitsOfBytes, List.mem_flatMap, List.mem_map, List.mem_filter, List.mem_range, Prod.exists,
    List.mem_zipIdx_iff_getElem?]
  constructor
  · rintro ⟨b, i, hb, j, ⟨hj, ht⟩, rfl⟩; exact ⟨i, j, b, hb, hj, ht, rfl⟩
  · rintro ⟨i, j, b, hb, hj, ht, rfl⟩; exact ⟨b, i, hb, j, ⟨hj, ht⟩, rfl⟩

theorem leVal_cons_testBit (b : Nat) (bs : List Nat) (hb : b < 256) (n : Nat) :
    (leVal (b :: bs)).testBit n = if n < 8 then b.testBit n else (leVal bs).testBit (n - 8) := by
  have : leVal (b :: bs) = 2 ^ 8 * leVal bs + b := by simp [leVal]; omega
  rw [this, Nat.testBit_two_pow_mul_add _ (by simpa using hb)]

theorem leVal_testBit : ∀ (bs : List Nat), (∀ b ∈ bs, b < 256) → ∀ n,
    (leVal bs).testBit n = (bs.getD (n / 8) 0).testBit (n % 8) := by
  intro bs
  induction bs with
  | nil => intro _ n; simp [leVal]
  | cons b bs ih =>
    intro hb n
    rw [leVal_cons_testBit b bs (hb b (by simp))]
    by_cases hn : n < 8
    · simp [hn, Nat.div_eq_of_lt hn, Nat.mod_eq_of_lt hn]
    · rw [if_neg hn, ih (fun x hx => hb x (by simp [hx])), Nat.div_eq_sub_div (by decide) (Nat.le_of_not_lt hn),
        Nat.mod_eq_sub_mod (Nat.le_of_not_lt hn)]
      simp

/-- the SPEC set of a byte list is the set of set bits of its little-endian value, shifted by `off` -/
theorem mem_bitsOfBytes_iff_testBit (off : Nat) (bs : List Nat) (hb : ∀ b ∈ bs, b < 256) (x : Nat) :
    x ∈ Spec.bitsOfBytes off bs ↔ off ≤ x ∧ (leVal bs).testBit (x - off) = true := by
  rw [mem_bitsOfBytes]
  constructor
  · rintro ⟨i, j, b, hi, hj, ht, rfl⟩
    rw [Nat.add_assoc, Nat.add_sub_cancel_left, leVal_testBit bs hb, Nat.mul_add_div (by decide),
      Nat.div_eq_of_lt hj, Nat.mul_add_mod, Nat.mod_eq_of_lt hj]
    exact ⟨Nat.le_add_right _ _, by simp [List.getD, hi, ht]⟩
  · rintro ⟨hle, ht⟩
    rw [leVal_testBit bs hb] at ht
    cases hg : bs[(x - off) / 8]? with
    | none => simp [List.getD, hg] at ht
    | some b =>
      refine ⟨(x - off) / 8, (x - off) % 8, b, hg, Nat.mod_lt _ (by decide), ?_, ?_⟩
      · simpa [List.getD, hg] using ht
      · rw [Nat.add_assoc, Nat.div_add_mod, Nat.add_sub_cancel' hle]

/-- reading the value shifted up by `k` bits from bit position `a` is reading the value itself from `a + k` -/
theorem shifted_testBit_iff (v a k x : Nat) :
    (a ≤ x ∧ (v * 2 ^ k).testBit (x - a) = true) ↔ (a + k ≤ x ∧ v.testBit (x - (a + k)) = true) := by
  rw [Nat.testBit_mul_two_pow, Bool.and_eq_true, decide_eq_true_eq, Nat.sub_sub]
  constructor
  · rintro ⟨h1, h2, h3⟩
    exact ⟨by omega, h3⟩
  · rintro ⟨h1, h3⟩
    exact ⟨by omega, by omega, h3⟩

theorem fromUnchecked_len (dbg : Bool) (n : Nat) (bits : List Nat) (b : BStore)
    (h : BStore.fromUnchecked dbg n bits = some b) : b.len = n := by
  unfold BStore.fromUnchecked at h
  cases dbg
  · simp at h; rw [← h]
  · simp only [if_true, BStore.tryFrom] at h
    split at h
    · cases h
    · simp at h; rw [← h]

theorem bmFromLsb0_len (dbg : Bool) (bytes : List Nat) (bo n : Nat) (b : BStore)
    (h : bmFromLsb0 dbg bytes bo n = some b) : b.len = n := by
  unfold bmFromLsb0 at h
  split at h
  · cases h
  · exact fromUnchecked_len dbg n _ b h

end Roaring.MiscLemmas
