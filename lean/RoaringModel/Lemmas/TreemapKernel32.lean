import RoaringModel.Lemmas.TreemapDir
/-!
# `Kernel32`: the 32-bit refinement facts the treemap theorems (C10) are lifted from, as the fields of a
  structure; `Treemap.kernel32` (Lemmas/TreemapKernel.lean) proves the bundle for the 32-bit core (C01 / C07).
  Then the step the single-partition mutator proofs go through: one partition is replaced or dropped, the others stay
  (`insertKV_elems`, `removeK_elems`).
-/
namespace Roaring
open TL

/-- 32-bit facts about `RoaringBitmap` (model `Bitmap.*`) assumed by the `C10_*_partial` theorems -/
structure Kernel32 where
  /-- the 32-bit well-formedness invariant (`Bitmap.WF` of DESIGN §4) -/
  WF : Bitmap → Prop
  new_WF : WF Bitmap.new
  elems_sorted : ∀ b, WF b → Sorted (Bitmap.elems b)
  elems_lt : ∀ b, WF b → ∀ x ∈ Bitmap.elems b, x < 4294967296
  isEmpty_spec : ∀ b, WF b → (Bitmap.isEmpty b = true ↔ Bitmap.elems b = [])
  insert_spec : ∀ b v, WF b → v < 4294967296 →
    WF (Bitmap.insert b v).1 ∧ Bitmap.elems (Bitmap.insert b v).1 = (Spec.insert (Bitmap.elems b) v).1 ∧
      (Bitmap.insert b v).2 = (Spec.insert (Bitmap.elems b) v).2
  remove_spec : ∀ b v, WF b → v < 4294967296 →
    WF (Bitmap.remove b v).1 ∧ Bitmap.elems (Bitmap.remove b v).1 = (Spec.remove (Bitmap.elems b) v).1 ∧
      (Bitmap.remove b v).2 = (Spec.remove (Bitmap.elems b) v).2
  insertRange_spec : ∀ b s e, WF b → s ≤ e → e < 4294967296 →
    WF (Bitmap.insertRange b (.incl s) (.incl e)).1 ∧
      Bitmap.elems (Bitmap.insertRange b (.incl s) (.incl e)).1 = (Spec.insertIv (Bitmap.elems b) s e).1 ∧
      (Bitmap.insertRange b (.incl s) (.incl e)).2 = (Spec.insertIv (Bitmap.elems b) s e).2
  removeRange_spec : ∀ b s e, WF b → s ≤ e → e < 4294967296 →
    WF (Bitmap.removeRange b (.incl s) (.incl e)).1 ∧
      Bitmap.elems (Bitmap.removeRange b (.incl s) (.incl e)).1 = (Spec.removeIv (Bitmap.elems b) s e).1 ∧
      (Bitmap.removeRange b (.incl s) (.incl e)).2 = (Spec.removeIv (Bitmap.elems b) s e).2
  push_spec : ∀ b v, WF b → v < 4294967296 →
    WF (Bitmap.push b v).1 ∧ Bitmap.elems (Bitmap.push b v).1 = (Spec.push (Bitmap.elems b) v).1 ∧
      (Bitmap.push b v).2 = (Spec.push (Bitmap.elems b) v).2
  /-- `push_unchecked` of a value above the maximum appends it (no debug assertion fires) -/
  pushUnchecked_spec : ∀ dbg b v, WF b → v < 4294967296 → (∀ x ∈ Bitmap.elems b, x < v) →
    ∃ b', Bitmap.pushUnchecked dbg b v = some b' ∧ WF b' ∧ Bitmap.elems b' = Bitmap.elems b ++ [v]
  contains_spec : ∀ b v, WF b → v < 4294967296 → Bitmap.contains b v = Spec.contains (Bitmap.elems b) v
  len_spec : ∀ b, WF b → Bitmap.len b = (Bitmap.elems b).length
  min_spec : ∀ b, WF b → Bitmap.min? b = Spec.min? (Bitmap.elems b)
  max_spec : ∀ b, WF b → Bitmap.max? b = Spec.max? (Bitmap.elems b)
  rank_spec : ∀ b v, WF b → v < 4294967296 → Bitmap.rank b v = Spec.rank (Bitmap.elems b) v
  select_spec : ∀ b n, WF b → n < 4294967296 → Bitmap.select b n = Spec.select (Bitmap.elems b) n
  /-- `RoaringBitmap::full()` -/
  full_spec : WF Treemap.fullBitmap ∧ Bitmap.elems Treemap.fullBitmap = List.range' 0 4294967296

namespace Treemap

/-- `Treemap.WF` of DESIGN §4, relative to the 32-bit invariant of `K` -/
abbrev WF (K : Kernel32) (t : Treemap) : Prop := WFd K.WF t

variable (K : Kernel32)

/-- the `Elems32` facts of `K` ("kernel elems") -/
theorem kE : Elems32 K.WF := ⟨K.elems_sorted, K.elems_lt⟩

theorem wf_getD {t : Treemap} (h : WF K t) (k : Nat) : K.WF ((get t k).getD Bitmap.new) := by
  cases hg : get t k with
  | none => exact K.new_WF
  | some b => exact (h.get hg).2.1

/-- the values of partition `k` as `entry(k).or_default()` sees them: none if there is no such partition -/
abbrev partElems (t : Treemap) (k : Nat) : List Nat := Bitmap.elems ((get t k).getD Bitmap.new)

theorem partElems_of_get {t : Treemap} {k : Nat} {b : Bitmap} (hg : get t k = some b) :
    partElems t k = Bitmap.elems b := by
  rw [partElems, hg]; rfl

theorem partElems_of_get_none {t : Treemap} {k : Nat} (hg : get t k = none) : partElems t k = [] := by
  rw [partElems, hg]; rfl

theorem mem_elems_getD {t : Treemap} (h : WF K t) (x : Nat) :
    x ∈ elems t ↔ x % P32 ∈ Bitmap.elems ((get t (x / P32)).getD Bitmap.new) := by
  rw [mem_elems (kE K) h]
  cases hg : get t (x / P32) with
  | none => simp [Bitmap.new, Bitmap.elems]
  | some b => simp

/-- the values of `t` in the window of key `k` are `k·2^32 + y` for `y` in partition `k` -/
theorem mem_elems_mul_add {t : Treemap} (h : WF K t) (k : Nat) {y : Nat} (hy : y < P32) :
    k * P32 + y ∈ elems t ↔ y ∈ partElems t k := by
  rw [← join_eq hy, mem_elems_getD K h, join_div hy, join_mod hy]

/-- replacing (or creating) partition `k` by a non-empty well-formed bitmap -/
theorem insertKV_WF {t : Treemap} (h : WF K t) {k : Nat} {b : Bitmap} (hk : k < P32) (hb : K.WF b)
    (hne : Bitmap.elems b ≠ []) : WF K (insertKV t k b) :=
  ⟨keysSorted_insertKV k b h.sorted, fun p hp => (mem_insertKV hp).elim (fun e => e ▸ ⟨hk, hb, hne⟩) (h.parts p)⟩

theorem removeK_WF {t : Treemap} (h : WF K t) (k : Nat) : WF K (removeK t k) :=
  ⟨keysSorted_removeK k h.sorted, fun p hp => h.parts p (mem_removeK hp).1⟩

/-- **One partition changes, the others stay.**  When partition `k` is replaced by the non-empty `nb`, the new
    value set is the ascending list that agrees with `nb` on the window `[k·2^32, (k+1)·2^32)` of `k` and with `t`
    off it.  `s` is what the set operation returns. -/
theorem insertKV_elems {t : Treemap} (h : WF K t) {k : Nat} {nb : Bitmap} (hk : k < P32) (hnb : K.WF nb)
    (hne : Bitmap.elems nb ≠ []) {s : List Nat} (hs : Sorted s)
    (hin : ∀ y, y < P32 → (k * P32 + y ∈ s ↔ y ∈ Bitmap.elems nb))
    (hout : ∀ x, x / P32 ≠ k → (x ∈ s ↔ x ∈ elems t)) :
    WF K (insertKV t k nb) ∧ elems (insertKV t k nb) = s := by
  have hw := insertKV_WF K h hk hnb hne
  refine ⟨hw, sorted_ext (sorted_elems (kE K) hw) hs fun x => ?_⟩
  rw [mem_elems_getD K hw, get_insertKV]
  by_cases hx : x / P32 = k
  · rw [if_pos hx, Option.getD_some, ← hin _ (Nat.mod_lt x (by decide)), ← hx, Nat.div_add_mod']
  · rw [if_neg hx, hout x hx, mem_elems_getD K h]

/-- the same when partition `k` is dropped: `s` has nothing in the window of `k` -/
theorem removeK_elems {t : Treemap} (h : WF K t) (k : Nat) {s : List Nat} (hs : Sorted s)
    (hin : ∀ y, y < P32 → k * P32 + y ∉ s) (hout : ∀ x, x / P32 ≠ k → (x ∈ s ↔ x ∈ elems t)) :
    WF K (removeK t k) ∧ elems (removeK t k) = s := by
  have hw := removeK_WF K h k
  refine ⟨hw, sorted_ext (sorted_elems (kE K) hw) hs fun x => ?_⟩
  rw [mem_elems_getD K hw, get_removeK]
  by_cases hx : x / P32 = k
  · have := hin _ (Nat.mod_lt x (by decide))
    rw [← hx, Nat.div_add_mod'] at this
    rw [if_pos hx]
    exact ⟨fun h' => (nomatch h'), fun h' => absurd h' this⟩
  · rw [if_neg hx, hout x hx, mem_elems_getD K h]

end Treemap
end Roaring
