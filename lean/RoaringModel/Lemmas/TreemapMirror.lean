import RoaringModel.TreemapOps
import RoaringModel.Lemmas.TreemapDir
/-!
# Mirror equalities for treemap/cmp.rs and treemap/multiops.rs (model-fidelity audit)

* `isDisjointMirror_eq`: `is_disjoint` written as the Rust writes it (`.filter(both Some).all(unwrap … is_disjoint)`)
  equals the fused `all` of `Treemap.isDisjoint` — unconditionally.
* `orderedMultiOwnedMirror_eq`: `try_ordered_multi_op_owned` with the `remove(&k)` it performs on the *other*
  operands equals `Treemap.orderedMultiOwned` (which looks `k` up in the untouched operands), provided the keys of
  the first operand are distinct — a `BTreeMap` invariant, implied by `KeysSorted` / `TWF` (`keys_nodup`).
* `multiMirror_eq`, `multiTryMirror_eq`: the same for the dispatcher over the four operations and for its `Result`
  form, which the driver runs; `firstErr_ok_mem` relates the `Ok` list of `firstErr` to the operands.
-/
namespace Roaring
namespace Treemap
open TL

/-! ### `is_disjoint` -/

/-- cmp.rs:37 `is_disjoint` as written = the fused form -/
theorem isDisjointMirror_eq (o : Ops32) (a b : Treemap) : isDisjointMirror o a b = isDisjoint o a b := by
  unfold isDisjointMirror isDisjoint
  rw [List.all_filter]
  congr 1; funext p
  rcases p with ⟨_ | _, _ | _⟩ <;> rfl

/-! ### `try_ordered_multi_op_owned` -/

theorem getD_removeK_ne (t : Treemap) {k k' : Nat} (h : k' ≠ k) :
    (get (removeK t k) k').getD Bitmap.new = (get t k').getD Bitmap.new := by
  rw [get_removeK, if_neg h]

/-- the loop over the keys of the first operand: threading the shrinking other operands through the loop gives
    the same result as looking every key up in the original ones, as long as no key is visited twice -/
theorem orderedFold_eq (op : List Bitmap → Bitmap) (others0 : List Treemap) (ks : List Nat) (acc : Treemap)
    (oth : List Treemap) (hnd : ks.Nodup)
    (h : ∀ k ∈ ks, (oth.map fun t => (get t k).getD Bitmap.new) = others0.map fun t => (get t k).getD Bitmap.new) :
    (ks.foldl (fun (st : Treemap × List Treemap) k =>
      let cur := (get st.1 k).getD Bitmap.new
      let acc := removeK st.1 k
      let nb := op (cur :: st.2.map fun t => (get t k).getD Bitmap.new)
      let others' := st.2.map fun t => removeK t k
      (if !Bitmap.isEmpty nb then insertKV acc k nb else acc, others')) (acc, oth)).1 =
    ks.foldl (fun acc k =>
      let cur := (get acc k).getD Bitmap.new
      let acc := removeK acc k
      let nb := op (cur :: others0.map fun t => (get t k).getD Bitmap.new)
      if !Bitmap.isEmpty nb then insertKV acc k nb else acc) acc := by
  induction ks generalizing acc oth with
  | nil => rfl
  | cons k ks ih =>
    obtain ⟨hk, hnd'⟩ := List.nodup_cons.mp hnd
    rw [List.foldl_cons, List.foldl_cons]
    dsimp only
    rw [h k List.mem_cons_self]
    refine ih _ _ hnd' fun k' hk' => ?_
    have hne : k' ≠ k := fun e => hk (e ▸ hk')
    rw [List.map_map]
    exact (List.map_congr_left fun t _ => getD_removeK_ne t hne).trans (h k' (List.mem_cons_of_mem _ hk'))

/-- multiops.rs:124 `try_ordered_multi_op_owned` with the removal from the other operands =
    `orderedMultiOwned`, when the keys of the first operand are distinct -/
theorem orderedMultiOwnedMirror_eq (op : List Bitmap → Bitmap) (ts : List Treemap)
    (h : ∀ first rest, ts = first :: rest → (keys first).Nodup) :
    orderedMultiOwnedMirror op ts = orderedMultiOwned op ts := by
  cases ts with
  | nil => rfl
  | cons first others =>
    unfold orderedMultiOwnedMirror orderedMultiOwned
    exact orderedFold_eq op others (keys first) first others (h first others rfl) (fun _ _ => rfl)

theorem keys_nodup {t : Treemap} (h : KeysSorted t) : (keys t).Nodup :=
  List.Pairwise.imp (fun hab => Nat.ne_of_lt hab) h

theorem multiMirror_eq (o : Ops32) (op : MultiOp) (owned : Bool) (ts : List Treemap)
    (h : ∀ t ∈ ts, KeysSorted t) : multiMirror o op owned ts = multi o op owned ts := by
  have hk : ∀ first rest, ts = first :: rest → (keys first).Nodup :=
    fun first rest e => keys_nodup (h first (e ▸ List.mem_cons_self ..))
  unfold multiMirror multi
  cases op <;> simp only [orderedMultiOwnedMirror_eq _ ts hk]

theorem firstErr_map_ok {ε α} (l : List α) : firstErr (l.map (Except.ok (ε := ε))) = .ok l := by
  induction l with
  | nil => rfl
  | cons x l ih => rw [List.map_cons, firstErr, ih]

theorem firstErr_append_error {ε α} (pre : List α) (e : ε) (rest : List (Except ε α)) :
    firstErr (pre.map .ok ++ .error e :: rest) = .error e := by
  induction pre with
  | nil => rfl
  | cons x l ih => rw [List.map_cons, List.cons_append, firstErr, ih]

/-- every payload `firstErr` returns was an `Ok` operand -/
theorem firstErr_ok_mem {ε α : Type} {items : List (Except ε α)} {l : List α} (h : firstErr items = .ok l) :
    ∀ x ∈ l, Except.ok x ∈ items := by
  induction items generalizing l with
  | nil => cases h; exact fun _ hx => nomatch hx
  | cons it items ih =>
    cases it with
    | error e => cases h
    | ok y =>
      rw [firstErr] at h
      cases hr : firstErr items with
      | error e => rw [hr] at h; cases h
      | ok l' =>
        rw [hr] at h
        cases h
        exact List.forall_mem_cons.2 ⟨List.mem_cons_self, fun x hx => List.mem_cons_of_mem _ (ih hr x hx)⟩

theorem multiTryMirror_eq {ε : Type} (o : Ops32) (op : MultiOp) (owned : Bool) (items : List (Except ε Treemap))
    (h : ∀ t, Except.ok t ∈ items → KeysSorted t) :
    multiTryMirror o op owned items = multiTry o op owned items := by
  unfold multiTryMirror multiTry
  cases hf : firstErr items with
  | error e => rfl
  | ok ts =>
    simp only []
    rw [multiMirror_eq o op owned ts (fun t ht => h t (firstErr_ok_mem hf t ht))]

end Treemap
end Roaring
