import RoaringModel.Lemmas.MultiKernel
/-!
# C09: `merge_container_owned/ref` over whole bitmaps — both are the insert-or-merge loop of `Lemmas/BitmapMerge.lean` on
the underlying containers, with their own arm for two chunks of equal key — and the clean-up phase
-/
namespace Roaring.Multi
open Roaring Roaring.Spec Roaring.Multi.SpecL
open Roaring.Bitmap (BlockOp orStep)

@[simp] theorem get_borrowed (c : Container) : (Cow.borrowed c).get = c := rfl
@[simp] theorem get_owned (c : Container) : (Cow.owned c).get = c := rfl

/-- `Store::to_bitmap` keeps the values -/
theorem toBitmap_spec (s : Store) (hs : StoreValid s) :
    StoreValid (storeToBitmap s) ∧ (storeToBitmap s).elems = s.elems := by
  cases s with
  | array v => exact ⟨(storeValid_iff _).2 (BStore.arrToBitmap_spec v hs).1, (BStore.arrToBitmap_spec v hs).2⟩
  | bitmap b => exact ⟨hs, rfl⟩

/-- the owned form of the `Ok(loc)` arm of `merge_container_ref` -/
def combineRefAsOwned (op : Store → Store → Store) (c r : Container) : Container :=
  (mergeCombineRef op (.owned c) r).get

theorem mergeCombineRef_get (op : Store → Store → Store) (l : Cow) (r : Container) :
    (mergeCombineRef op l r).get = combineRefAsOwned op l.get r := by
  cases l <;> rfl

/-- the three arms of the kind `match`: promotion of the left array, the swap onto the right bitset (by the symmetry of
    the operation), the plain in-place operator -/
theorem blockOp_combineRef {P : Prop → Prop → Prop} {sop : List Nat → List Nat → List Nat} (L : MergeLaw P sop)
    {op : Store → Store → Store} (hop : OpLaw P op) : BlockOp StoreValid sop (combineRefAsOwned op) := by
  intro c r hc hr _
  unfold combineRefAsOwned mergeCombineRef
  simp only [get_owned]
  split
  · have ht := toBitmap_spec c.store hc
    have := hop.elems L ht.1 hr
    exact ⟨rfl, this.1, this.2.trans (by rw [ht.2])⟩
  · have := hop.elems L hr hc
    exact ⟨rfl, this.1, this.2.trans
      (L.toSetOp.comm L.comm _ _ (Store.sorted_elems _ hr.inv) (Store.sorted_elems _ hc.inv))⟩
  · exact ⟨rfl, hop.elems L hc hr⟩

/-- when the keys agree the `Ok(loc)` arm of the owned merge computes what that of the copy-on-write merge does
    (they differ in which of the two equal keys they keep) -/
theorem mergeCombineOwned_eq (op : Store → Store → Store) {c r : Container} (hk : c.key = r.key) :
    mergeCombineOwned op c r = combineRefAsOwned op c r := by
  obtain ⟨_, cstore⟩ := c
  obtain ⟨_, rstore⟩ := r
  cases hk
  cases cstore <;> cases rstore <;> rfl

theorem blockOp_combineOwned {P : Prop → Prop → Prop} {sop : List Nat → List Nat → List Nat} (L : MergeLaw P sop)
    {op : Store → Store → Store} (hop : OpLaw P op) : BlockOp StoreValid sop (mergeCombineOwned op) :=
  fun c r hc hr hk => by
    rw [mergeCombineOwned_eq op hk]
    exact blockOp_combineRef L hop c r hc hr hk

theorem mergeStepOwned_eq (op : Store → Store → Store) : mergeStepOwned op = orStep (mergeCombineOwned op) := by
  funext cs r
  unfold mergeStepOwned orStep
  rcases Bitmap.search cs r.key with ⟨_ | _, loc⟩
  · rfl
  · dsimp only
    cases cs[loc]? <;> rfl

theorem searchCow_eq (cs : List Cow) (k : Nat) : searchCow cs k = Bitmap.search (cs.map Cow.get) k := by
  have hp : ((fun c : Container => decide (c.key < k)) ∘ Cow.get) = fun c => decide (c.get.key < k) := rfl
  unfold searchCow Bitmap.search
  dsimp only
  rw [List.takeWhile_map, List.length_map, hp, List.getElem?_map]
  cases cs[(cs.takeWhile fun c => decide (c.get.key < k)).length]? <;> rfl

theorem mergeStepRef_map_get (op : Store → Store → Store) (r : Container) (cs : List Cow) :
    (mergeStepRef op cs r).map Cow.get = orStep (combineRefAsOwned op) (cs.map Cow.get) r := by
  unfold mergeStepRef orStep
  rw [searchCow_eq]
  rcases Bitmap.search (cs.map Cow.get) r.key with ⟨_ | _, loc⟩
  · simp only [List.map_append, List.map_take, List.map_drop, List.map_cons, get_borrowed]
  · simp only [List.getElem?_map]
    cases cs[loc]? with
    | none => rfl
    | some l => simp only [Option.map_some, List.map_set, mergeCombineRef_get]

theorem mergeContainerRef_map_get (op : Store → Store → Store) (rhs : List Container) :
    ∀ cs : List Cow, (mergeContainerRef op cs rhs).map Cow.get
      = rhs.foldl (orStep (combineRefAsOwned op)) (cs.map Cow.get) := by
  induction rhs with
  | nil => intro cs; rfl
  | cons r rs ih =>
    intro cs
    simp only [mergeContainerRef, List.foldl_cons] at *
    rw [ih, mergeStepRef_map_get]

/-- **`merge_container_owned` is correct**: the accumulator stays valid and its elements are those of the spec
    operation that the membership connective of `op` stands for -/
theorem mergeContainerOwned_elems {P : Prop → Prop → Prop} {sop : List Nat → List Nat → List Nat} (L : MergeLaw P sop)
    {op : Store → Store → Store} (hop : OpLaw P op) {cs rhs : List Container} (hcs : Acc cs) (hrhs : Acc rhs) :
    Acc (mergeContainerOwned op cs rhs) ∧
    Bitmap.elems (mergeContainerOwned op cs rhs) = sop (Bitmap.elems cs) (Bitmap.elems rhs) := by
  rw [mergeContainerOwned, mergeStepOwned_eq]
  exact Bitmap.foldl_orStep_spec (fun _ => StoreValid.inv) L.toSetOp L.nilL L.nilR (blockOp_combineOwned L hop) hcs hrhs

/-- **`merge_container_ref` is correct** (stated on the underlying containers, `Cow::deref`) -/
theorem mergeContainerRef_elems {P : Prop → Prop → Prop} {sop : List Nat → List Nat → List Nat} (L : MergeLaw P sop)
    {op : Store → Store → Store} (hop : OpLaw P op) {cs : List Cow} {rhs : List Container}
    (hcs : Acc (cs.map Cow.get)) (hrhs : Acc rhs) :
    Acc ((mergeContainerRef op cs rhs).map Cow.get) ∧
    Bitmap.elems ((mergeContainerRef op cs rhs).map Cow.get) = sop (Bitmap.elems (cs.map Cow.get)) (Bitmap.elems rhs) := by
  rw [mergeContainerRef_map_get]
  exact Bitmap.foldl_orStep_spec (fun _ => StoreValid.inv) L.toSetOp L.nilL L.nilR (blockOp_combineRef L hop) hcs hrhs

-- the record is not needed: the store facts it lists are used as proved (`OpLaw.elems`)
set_option linter.unusedVariables false in
theorem mergeOr_elems (K : Kernel) {op : Store → Store → Store} (hop : OpLaw POr op)
    {cs rhs : List Container} (hcs : Acc cs) (hrhs : Acc rhs) :
    Acc (mergeContainerOwned op cs rhs) ∧
    Bitmap.elems (mergeContainerOwned op cs rhs) = sOr (Bitmap.elems cs) (Bitmap.elems rhs) :=
  mergeContainerOwned_elems mergeLaw_or hop hcs hrhs

set_option linter.unusedVariables false in
theorem mergeXor_elems (K : Kernel) {op : Store → Store → Store} (hop : OpLaw PXor op)
    {cs rhs : List Container} (hcs : Acc cs) (hrhs : Acc rhs) :
    Acc (mergeContainerOwned op cs rhs) ∧
    Bitmap.elems (mergeContainerOwned op cs rhs) = sXor (Bitmap.elems cs) (Bitmap.elems rhs) :=
  mergeContainerOwned_elems mergeLaw_xor hop hcs hrhs

/-- A loop over the remaining bitmaps whose body keeps an invariant `I` of the accumulator and acts on the
    elements (seen through `π`) as the spec operation computes the left fold of that operation. -/
theorem foldl_inv_elems {β : Type} {I : β → Prop} {π : β → List Container} {m : β → Bitmap → β}
    {sop : List Nat → List Nat → List Nat}
    (hm : ∀ a b, I a → WF b → I (m a b) ∧ Bitmap.elems (π (m a b)) = sop (Bitmap.elems (π a)) (Bitmap.elems b))
    (l : List Bitmap) (a : β) (ha : I a) (hl : ∀ b ∈ l, WF b) :
    I (l.foldl m a) ∧ Bitmap.elems (π (l.foldl m a)) = (l.map Bitmap.elems).foldl sop (Bitmap.elems (π a)) := by
  induction l generalizing a with
  | nil => exact ⟨ha, rfl⟩
  | cons b l ih =>
    obtain ⟨hb, hl⟩ := List.forall_mem_cons.1 hl
    have h1 := hm a b ha hb
    rw [List.foldl_cons, List.map_cons, List.foldl_cons, ← h1.2]
    exact ih (m a b) h1.1 hl

theorem foldl_merge_elems {sop : List Nat → List Nat → List Nat} {m : List Container → List Container → List Container}
    (hm : ∀ {cs rhs}, Acc cs → Acc rhs → Acc (m cs rhs) ∧ Bitmap.elems (m cs rhs) = sop (Bitmap.elems cs) (Bitmap.elems rhs)) :
    ∀ (l : List Bitmap) (cs : List Container), Acc cs → (∀ b ∈ l, WF b) →
      Acc (l.foldl m cs) ∧ Bitmap.elems (l.foldl m cs) = (l.map Bitmap.elems).foldl sop (Bitmap.elems cs) :=
  foldl_inv_elems (π := id) fun _ _ hcs hb => hm hcs hb.acc

/-! ## clean-up (`retain_mut` + `ensure_correct_store`) -/

theorem cleanupOwned_eq (cs : List Container) :
    cleanupOwned cs = (cs.filter fun c => !c.isEmpty).map Container.ensureCorrectStore := by
  induction cs with
  | nil => rfl
  | cons c cs ih =>
    rw [cleanupOwned, List.filterMap_cons, List.filter_cons]
    cases c.isEmpty
    · exact congrArg (_ :: ·) ih
    · exact ih

theorem cleanupRef_eq (cs : List Cow) : cleanupRef cs = cleanupOwned (cs.map Cow.get) := by
  rw [cleanupOwned_eq, cleanupRef, List.filter_map, List.map_map]
  rfl

theorem cleanupOwned_spec {cs : List Container} (h : Acc cs) :
    WF (cleanupOwned cs) ∧ Bitmap.elems (cleanupOwned cs) = Bitmap.elems cs := by
  rw [cleanupOwned_eq]
  have hsub : (cs.filter fun c => !c.isEmpty).Sublist cs := List.filter_sublist
  have hkeys : ((cs.filter fun c => !c.isEmpty).map Container.ensureCorrectStore).map Container.key =
      (cs.filter fun c => !c.isEmpty).map Container.key := by
    rw [List.map_map]
    exact List.map_congr_left fun c _ => Container.ecs_key c
  refine ⟨⟨hkeys ▸ h.1.sublist (hsub.map _), fun d hd => ?_⟩, ?_⟩
  · obtain ⟨c, hc, rfl⟩ := List.mem_map.mp hd
    obtain ⟨hcs, hne⟩ := List.mem_filter.mp hc
    have hv := h.2 c hcs
    obtain ⟨h1, h2, hkey⟩ := Container.ensureCorrectStore_spec c hv.2.inv
    refine ⟨hkey ▸ hv.1, (storeWF_iff _).2 (Store.wf_of_canon _ h1 fun hnil => ?_)⟩
    have : c.isEmpty = true := (Store.isEmpty_spec c.store hv.2.inv).trans (List.isEmpty_iff.2 (h2 ▸ hnil))
    rw [this] at hne
    cases hne
  · -- `ensure_correct_store` keeps key and values, and the chunks dropped hold no value
    have hecs : Bitmap.elems ((cs.filter fun c => !c.isEmpty).map Container.ensureCorrectStore) =
        Bitmap.elems (cs.filter fun c => !c.isEmpty) := by
      unfold Bitmap.elems
      rw [List.flatMap_def, List.flatMap_def, List.map_map]
      refine congrArg List.flatten (List.map_congr_left fun c hc => ?_)
      obtain ⟨_, h2, hkey⟩ := Container.ensureCorrectStore_spec c (h.2 c (hsub.subset hc)).2.inv
      show Container.elems _ = Container.elems c
      rw [Container.elems, Container.elems, h2, hkey]
    rw [hecs]
    refine Blk.elems_filter (key := Container.key) (low := Bitmap.cLow) (B := 65536) _ cs fun c hc he => ?_
    have he' : c.isEmpty = true := by simpa using he
    exact List.isEmpty_iff.1 ((Store.isEmpty_spec c.store (h.2 c hc).2.inv).symm.trans he')

theorem map_get_map_borrowed (b : Bitmap) : (b.map Cow.borrowed).map Cow.get = b := by
  induction b with
  | nil => rfl
  | cons c cs ih => simp only [List.map_cons, get_borrowed, ih]

end Roaring.Multi
