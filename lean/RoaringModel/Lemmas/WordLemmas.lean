import RoaringModel.Lemmas.MaskLemmas
import RoaringModel.Lemmas.ArrFacts
/-!
# Single-bit set/clear, `popcount` of combined words, `BStore.word`/`BStore.popSum` of `List.set`, the drain loop

On top of `WordCore.lean`: `Nat` words below `2^64` through `testBit`, inclusion–exclusion for `popcount`,
what replacing one word does to `BStore.word` and `BStore.popSum`, and what the
`while word != 0 { push(tz); word &= word - 1 }` loop of `to_array_store` (`drainWord`, `BStore.toArrayFrom`) pushes.
-/
namespace Roaring
namespace Word

theorem sorted_getLast? (l : List Nat) (hl : Sorted l) (m : Nat) (hm : m ∈ l) (hmax : ∀ x ∈ l, x ≤ m) :
    l.getLast? = some m := by
  cases hg : l.getLast? with
  | none => rw [List.getLast?_eq_none_iff] at hg; subst hg; simp at hm
  | some m' =>
    have ⟨h1, h2⟩ := Arr.getLast?_sorted l hl m' hg
    have := h2 m hm
    have := hmax m' h1
    congr 1; omega

theorem W_eq : W = 2^64 := Roaring.W_eq

/-! ### `testBit` of single-bit masks, `not64` -/

theorem testBit_one_shiftLeft (i j : Nat) : (1 <<< i).testBit j = decide (i = j) := by
  rw [Nat.one_shiftLeft, Nat.testBit_two_pow]

theorem one_shiftLeft_lt {i : Nat} (hi : i < 64) : 1 <<< i < 2^64 := by
  rw [Nat.one_shiftLeft]; exact Nat.pow_lt_pow_right Nat.one_lt_two hi

theorem not64_lt {w : Nat} (h : w < 2^64) : not64 w < 2^64 := Roaring.not64_lt h

theorem testBit_setBit (w i j : Nat) : (w ||| (1 <<< i)).testBit j = (w.testBit j || decide (i = j)) := by
  rw [Nat.testBit_or, testBit_one_shiftLeft]

theorem setBit_lt {w i : Nat} (h : w < 2^64) (hi : i < 64) : w ||| (1 <<< i) < 2^64 :=
  Nat.or_lt_two_pow h (one_shiftLeft_lt hi)

theorem testBit_clearBit (w i j : Nat) (hj : j < 64) :
    (w &&& not64 (1 <<< i)).testBit j = (w.testBit j && !decide (i = j)) := by
  rw [Nat.testBit_and, not64_testBit, testBit_one_shiftLeft]; simp [hj]

theorem and_one_shiftLeft (w i : Nat) : w &&& (1 <<< i) = if w.testBit i then 1 <<< i else 0 := by
  apply Nat.eq_of_testBit_eq; intro j
  rw [Nat.testBit_and, apply_ite (Nat.testBit · j), testBit_one_shiftLeft, Nat.zero_testBit]
  by_cases hc : i = j
  · subst hc; cases w.testBit i <;> simp
  · simp [hc]

theorem and_one_shiftLeft_ne_zero (w i : Nat) : (w &&& (1 <<< i) != 0) = w.testBit i := by
  rw [and_one_shiftLeft, Nat.one_shiftLeft]
  cases w.testBit i <;> simp

/-- the `inserted` flag of `insert`: `(old ^ (old | 1<<bit)) >> bit` -/
theorem xor_setBit_shiftRight (w i : Nat) :
    (w ^^^ (w ||| (1 <<< i))) >>> i = if w.testBit i then 0 else 1 := by
  apply Nat.eq_of_testBit_eq; intro j
  rw [Nat.testBit_shiftRight, Nat.testBit_xor, testBit_setBit]
  cases j with
  | zero =>
    cases h : w.testBit i <;> simp
  | succ j =>
    cases h : w.testBit i <;> simp [Nat.testBit_succ]

theorem and_shl_shr_eq (w i : Nat) : (w &&& (1 <<< i)) >>> i = (w.testBit i).toNat := by
  rw [and_one_shiftLeft]
  cases w.testBit i
  · exact Nat.zero_shiftRight i
  · exact Nat.shiftLeft_shiftRight 1 i

theorem xor_and_not64 {w : Nat} (m : Nat) (hw : w < 2^64) : w ^^^ (w &&& not64 m) = w &&& m := by
  apply word_ext (Nat.xor_lt_two_pow hw (and_lt w _ hw)) (and_lt w m hw)
  intro i hi
  rw [Nat.testBit_xor, Nat.testBit_and, Nat.testBit_and, not64_testBit]
  cases w.testBit i <;> cases m.testBit i <;> simp [hi]

/-- the `removed` flag of `remove`: `(old ^ (old & !(1<<bit))) >> bit` -/
theorem xor_clearBit_shiftRight (w i : Nat) (hw : w < 2^64) :
    (w ^^^ (w &&& not64 (1 <<< i))) >>> i = if w.testBit i then 1 else 0 := by
  rw [xor_and_not64 _ hw, and_shl_shr_eq]
  cases w.testBit i <;> rfl

theorem popHigh_lt (w : Nat) (h : w < 2^64) : popHigh w < 2^64 := Roaring.popHigh_lt w h

theorem bitPos_eq_nil_iff (w : Nat) (h : w < 2^64) : bitPos w = [] ↔ w = 0 := by
  rw [word_ext_iff h (Nat.two_pow_pos 64), bitPos, List.filter_eq_nil_iff]
  refine forall_congr' fun i => ?_
  rw [List.mem_range, Bool.not_eq_true, Nat.zero_testBit]

theorem bitPos_and (w m : Nat) : bitPos (w &&& m) = (bitPos w).filter (fun i => m.testBit i) :=
  Roaring.bitPos_and w m

theorem head?_bitPos (w : Nat) (hw : w ≠ 0) (hlt : w < 2^64) : (bitPos w).head? = some (tz w) := by
  rw [bitPos_step w hw hlt]; rfl

theorem getLast?_bitPos (w : Nat) (hw : w ≠ 0) (hlt : w < 2^64) : (bitPos w).getLast? = some (hiBit w) := by
  rw [bitPos_step_back w hw hlt]; simp

theorem mem_bitsOf (k w x : Nat) : x ∈ bitsOf k w ↔ x / 64 = k ∧ w.testBit (x % 64) = true := by
  rw [Roaring.mem_bitsOf]
  constructor
  · rintro ⟨i, hi, hb, rfl⟩
    rw [pos_div k hi, pos_mod k hi]; exact ⟨rfl, hb⟩
  · rintro ⟨rfl, hb⟩
    exact ⟨x % 64, Nat.mod_lt x (by decide), hb, (Nat.div_add_mod x 64).symm⟩

theorem popcount_eq_countP (w : Nat) (h : w < 2^64) :
    popcount w = (List.range 64).countP (fun i => w.testBit i) := by
  rw [popcount_eq_length_bitPos w h, bitPos, List.countP_eq_length_filter]

theorem popcount_le (k w : Nat) (h : w < 2^k) : popcount w ≤ k := by
  rw [popcount_eq_length_filter_range k w h]
  exact Nat.le_trans (List.length_filter_le _ _) (Nat.le_of_eq List.length_range)

theorem popcount_le_64 (w : Nat) (h : w < 2^64) : popcount w ≤ 64 := popcount_le 64 w h

theorem popcount_eq_zero_iff (w : Nat) (h : w < 2^64) : popcount w = 0 ↔ w = 0 := by
  rw [popcount_eq_length_bitPos w h, ← bitPos_eq_nil_iff w h]
  exact List.length_eq_zero_iff

theorem popcount_two_pow_sub_one (n : Nat) : popcount (2^n - 1) = n := by
  rw [popcount_eq_length_filter_range n _ (Nat.sub_one_lt (Nat.pos_iff_ne_zero.1 (Nat.two_pow_pos n))),
    List.filter_eq_self.2, List.length_range]
  intro i hi
  rw [Nat.testBit_two_pow_sub_one]
  simpa using hi

theorem popcount_wMax : popcount wMax = 64 := by rw [wMax_eq]; exact popcount_two_pow_sub_one 64

theorem popcount_two_pow (n : Nat) : popcount (2^n) = 1 := by
  rw [← Nat.one_mul (2^n), popcount_mul_two_pow, popcount_step]
  simp [popcount_zero]

/-- inclusion–exclusion for `count_ones` -/
theorem popcount_or_and (w m : Nat) (hw : w < 2^64) (hm : m < 2^64) :
    popcount (w ||| m) + popcount (w &&& m) = popcount w + popcount m := by
  rw [popcount_eq_countP _ (Nat.or_lt_two_pow hw hm), popcount_eq_countP _ (Nat.and_lt_two_pow w hm),
    popcount_eq_countP _ hw, popcount_eq_countP _ hm]
  have := countP_or_and (List.range 64) (fun i => w.testBit i) (fun i => m.testBit i)
  simpa [Nat.testBit_or, Nat.testBit_and] using this

theorem popcount_and_le (w m : Nat) (hm : m < 2^64) : popcount (w &&& m) ≤ popcount m := by
  rw [popcount_eq_countP _ (Nat.and_lt_two_pow w hm), popcount_eq_countP _ hm]
  apply List.countP_mono_left
  intro i _ hi
  simp [Nat.testBit_and] at hi
  exact hi.2

theorem popcount_and_not64 (w m : Nat) (hw : w < 2^64) :
    popcount w = popcount (w &&& m) + popcount (w &&& not64 m) := by
  have ha : w &&& m < 2^64 := and_lt w _ hw
  have hb : w &&& not64 m < 2^64 := and_lt w _ hw
  have h := popcount_or_and _ _ ha hb
  have h1 : (w &&& m) ||| (w &&& not64 m) = w := by
    apply word_ext (Nat.or_lt_two_pow ha hb) hw
    intro i hi
    rw [Nat.testBit_or, Nat.testBit_and, Nat.testBit_and, not64_testBit]
    cases w.testBit i <;> cases m.testBit i <;> simp [hi]
  have h2 : (w &&& m) &&& (w &&& not64 m) = 0 := by
    apply word_ext (and_lt _ _ ha) (Nat.two_pow_pos 64)
    intro i hi
    rw [Nat.testBit_and, Nat.testBit_and, Nat.testBit_and, not64_testBit, Nat.zero_testBit]
    cases w.testBit i <;> cases m.testBit i <;> simp [hi]
  rw [h1, h2, popcount_zero] at h
  omega

theorem popcount_one_shiftLeft (i : Nat) : popcount (1 <<< i) = 1 := by
  rw [Nat.one_shiftLeft]; exact popcount_two_pow i

theorem popcount_and_one_shiftLeft (w i : Nat) : popcount (w &&& (1 <<< i)) = if w.testBit i then 1 else 0 := by
  rw [and_one_shiftLeft, apply_ite popcount, popcount_zero, popcount_one_shiftLeft]

theorem popcount_setBit (w i : Nat) (hw : w < 2^64) (hi : i < 64) :
    popcount (w ||| (1 <<< i)) = popcount w + (if w.testBit i then 0 else 1) := by
  have h := popcount_or_and w (1 <<< i) hw (one_shiftLeft_lt hi)
  rw [popcount_and_one_shiftLeft, popcount_one_shiftLeft] at h
  revert h
  cases w.testBit i <;> simp <;> omega

theorem popcount_clearBit (w i : Nat) (hw : w < 2^64) :
    popcount (w &&& not64 (1 <<< i)) + (if w.testBit i then 1 else 0) = popcount w := by
  have h := popcount_and_not64 w (1 <<< i) hw
  rw [popcount_and_one_shiftLeft] at h
  revert h
  cases w.testBit i <;> simp <;> omega

/-! ### `BStore.word`, `BStore.popSum` -/
open BStore (word popSum popSum_cons)

theorem word_set_self (l : List Nat) (k v : Nat) (h : k < l.length) : word (l.set k v) k = v := by
  rw [Mask.word_set_eq]; simp [h]

theorem word_set_ne (l : List Nat) (k v j : Nat) (h : j ≠ k) : word (l.set k v) j = word l j := by
  rw [Mask.word_set_eq]; simp [h]

theorem word_cons_zero (w : Nat) (ws : List Nat) : word (w :: ws) 0 = w := by simp [word]
theorem word_cons_succ (w : Nat) (ws : List Nat) (k : Nat) : word (w :: ws) (k+1) = word ws k := by
  simp [word]

theorem word_replicate (n v k : Nat) (h : k < n) : word (List.replicate n v) k = v := by
  rw [Mask.word_eq_getElem (by simpa using h)]; simp

theorem mem_set_lt (l : List Nat) (k v : Nat) (hl : ∀ w ∈ l, w < 2^64) (hv : v < 2^64) :
    ∀ w ∈ l.set k v, w < 2^64 := by
  intro w hw
  rcases List.mem_or_eq_of_mem_set hw with h | h
  · exact hl w h
  · subst h; exact hv

theorem popSum_nil : popSum [] = 0 := rfl
theorem popSum_append (l r : List Nat) : popSum (l ++ r) = popSum l + popSum r := BStore.popSum_append l r

theorem popSum_replicate (n v : Nat) : popSum (List.replicate n v) = n * popcount v := by
  induction n with
  | zero => simp [popSum_nil]
  | succ n ih => rw [List.replicate_succ, popSum_cons, ih, Nat.succ_mul]; omega

theorem popSum_set (l : List Nat) (k v : Nat) (h : k < l.length) :
    popSum (l.set k v) + popcount (word l k) = popSum l + popcount v := by
  induction l generalizing k with
  | nil => simp at h
  | cons w ws ih =>
    cases k with
    | zero => simp only [List.set_cons_zero, popSum_cons, word_cons_zero]; omega
    | succ k =>
      simp only [List.set_cons_succ, popSum_cons, word_cons_succ]
      have := ih k (by simpa using h)
      omega

theorem popcount_word_le_popSum (l : List Nat) (k : Nat) : popcount (word l k) ≤ popSum l := by
  induction l generalizing k with
  | nil => simp [word, popcount_zero]
  | cons w ws ih =>
    cases k with
    | zero => rw [word_cons_zero, popSum_cons]; omega
    | succ k => rw [word_cons_succ, popSum_cons]; have := ih k; omega

theorem bits_ext (a b : List Nat) (hl : a.length = b.length)
    (ha : ∀ x ∈ a, x < 2^64) (hb : ∀ x ∈ b, x < 2^64)
    (h : ∀ i, i < 64 * a.length → (word a (i / 64)).testBit (i % 64) = (word b (i / 64)).testBit (i % 64)) :
    a = b := by
  apply List.ext_getElem hl
  intro k hk1 hk2
  apply word_ext (ha _ (List.getElem_mem hk1)) (hb _ (List.getElem_mem hk2))
  intro j hj
  have := h (64 * k + j) (Nat.lt_of_lt_of_le (Nat.add_lt_add_left hj _) (Nat.mul_le_mul_left 64 hk1))
  rwa [pos_div k hj, pos_mod k hj, Mask.word_eq_getElem hk1, Mask.word_eq_getElem hk2] at this

end Word

/-! ### the drain loop of `to_array_store` over one word and over a list of words -/

namespace MiscLemmas

theorem bitPos_and (w m : Nat) : bitPos (w &&& m) = (bitPos w).filter (fun i => m.testBit i) :=
  Roaring.bitPos_and w m

theorem drainWord_length (base w : Nat) (hw : w < 2 ^ 64) : (drainWord base 64 w).length = popcount w := by
  rw [drainWord_eq base w hw, List.length_map, popcount_eq_length_bitPos w hw]

theorem mem_drainWord (base w x : Nat) (hw : w < 2 ^ 64) :
    x ∈ drainWord base 64 w ↔ ∃ i, i < 64 ∧ w.testBit i = true ∧ x = base + i := by
  rw [drainWord_eq base w hw]
  exact mem_map_bitPos base w x

theorem popSum_nil : BStore.popSum [] = 0 := rfl

end MiscLemmas

namespace BStore

theorem length_toArrayFrom (ws : List Nat) (h : ∀ w ∈ ws, w < 2^64) (k : Nat) :
    (toArrayFrom k ws).length = popSum ws := by
  induction ws generalizing k with
  | nil => rfl
  | cons w ws ih =>
    rw [toArrayFrom, List.length_append, MiscLemmas.drainWord_length _ w (h w List.mem_cons_self),
      ih (fun x hx => h x (List.mem_cons_of_mem w hx)), popSum_cons]

end BStore
end Roaring
