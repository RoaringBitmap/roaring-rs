import RoaringModel.Ser
import RoaringModel.IO
import RoaringModel.TreemapSer
import RoaringModel.Lemmas.BitmapQuery
/-!
# Fidelity audit, area "codecs and reporting": the mirrored definitions equal the proof-carrying ones

* `Bitmap.statisticsM` (the single accumulating loop of statistics.rs:73-89) `= Bitmap.statistics`, for every value;
* `Bitmap.serializeM ovf` (serialization.rs:66 with the `u64` arithmetic of `(container.len() - 1) as u16`)
  `= some (Bitmap.serialize b)` whenever no container is empty — in particular for `Bitmap.WF` values
  (`serializeM_eq`: no panic in either build configuration);
* the same on a faulty writer: `Bitmap.serializeIntoM ovf b w = some (Bitmap.serializeInto b w)`
  (`serializeIntoM_eq`, through `serializeFieldsM_eq`);
* the treemap encoder over these: `tserializeM_eq`, `tserializeIntoM_eq`, when no container of any partition is
  empty.
-/
namespace Roaring
namespace Fidelity

/-- array chunks / bitset chunks, the two filters of `Bitmap.statistics` -/
def isArr (c : Container) : Bool := match c.store with | .array _ => true | .bitmap _ => false
def isBm (c : Container) : Bool := match c.store with | .array _ => false | .bitmap _ => true

/-- the loop invariant of statistics.rs:73-89: every counter is its start value plus the corresponding
    traversal of the containers visited -/
theorem stats_loop (cs : List Container) : ∀ a : StatsAcc,
    cs.foldl StatsAcc.step a =
      { nContainers := a.nContainers + cs.length
        nArray := a.nArray + (cs.filter isArr).length
        nBitset := a.nBitset + (cs.filter isBm).length
        valuesArray := a.valuesArray + Bitmap.len (cs.filter isArr)
        valuesBitset := a.valuesBitset + Bitmap.len (cs.filter isBm)
        cardinality := a.cardinality + Bitmap.len cs } := by
  induction cs with
  | nil => intro a; rfl
  | cons c cs ih =>
    intro a
    rw [List.foldl_cons, ih, Bitmap.len_cons]
    obtain ⟨key, st⟩ := c
    cases st with
    | array v =>
      rw [List.filter_cons_of_pos (rfl : isArr _ = true),
        List.filter_cons_of_neg (Bool.false_ne_true : ¬ isBm ⟨key, .array v⟩ = true), Bitmap.len_cons]
      simp only [StatsAcc.step, Container.len, Store.len, List.length_cons, Nat.add_assoc, Nat.add_comm 1]
    | bitmap bs =>
      rw [List.filter_cons_of_neg (Bool.false_ne_true : ¬ isArr ⟨key, .bitmap bs⟩ = true),
        List.filter_cons_of_pos (rfl : isBm _ = true), Bitmap.len_cons]
      simp only [StatsAcc.step, Container.len, Store.len, List.length_cons, Nat.add_assoc, Nat.add_comm 1]
theorem statisticsM_eq (b : Bitmap) : Bitmap.statisticsM b = Bitmap.statistics b := by
  unfold Bitmap.statisticsM Bitmap.statistics
  rw [stats_loop]
  simp only [Nat.zero_add]
  rfl

/-- a well-formed value has no empty container -/
theorem wf_len_pos (b : Bitmap) (h : b.WF) : ∀ c ∈ b, 1 ≤ c.len := fun c hc =>
  have hw := (h.2 c hc).2
  Nat.lt_of_lt_of_eq (List.length_pos_iff.mpr (Store.wf_elems_ne _ hw)) (Store.len_eq _ (Store.wf_inv _ hw)).symm

theorem cardField_pos (ovf : Bool) (len : Nat) (h : 1 ≤ len) : cardField ovf len = some ((len - 1) % 65536) := by
  unfold cardField
  rw [if_neg (by omega)]

theorem descrBytesM_eq (ovf : Bool) : ∀ (b : Bitmap), (∀ c ∈ b, 1 ≤ c.len) →
    Bitmap.descrBytesM ovf b = some (Bitmap.descrBytes b) := by
  intro b
  induction b with
  | nil => intro _; rfl
  | cons c cs ih =>
    intro h
    have hc := h c (by simp)
    have hcs := ih (fun c' hc' => h c' (by simp [hc']))
    simp only [Bitmap.descrBytesM, cardField_pos ovf c.len hc, hcs, Bitmap.descrBytes, List.flatMap_cons,
      List.append_assoc]

theorem serializeM_eq (ovf : Bool) (b : Bitmap) (h : ∀ c ∈ b, 1 ≤ c.len) :
    Bitmap.serializeM ovf b = some (Bitmap.serialize b) := by
  unfold Bitmap.serializeM Bitmap.serialize
  rw [descrBytesM_eq ovf b h]

/-- the empty container is where they differ: overflow checks on = panic, off = `0xFFFF`; `serialize` writes `0` -/
example : Bitmap.serializeM true [⟨0, .array []⟩] = none
    ∧ Bitmap.serializeM false [⟨0, .array []⟩] = some [58, 48, 0, 0, 1, 0, 0, 0, 0, 0, 255, 255, 16, 0, 0, 0]
    ∧ Bitmap.serialize [⟨0, .array []⟩] = [58, 48, 0, 0, 1, 0, 0, 0, 0, 0, 0, 0, 16, 0, 0, 0] := by decide +kernel

theorem writeFieldsM_map_some : ∀ (fs : List (List Nat)) (w : SWriter),
    w.writeFieldsM (fs.map some) = some (w.writeFields fs)
  | [], w => rfl
  | f :: fs, w => by
    simp only [List.map_cons, SWriter.writeFieldsM, SWriter.writeFields]
    cases hw : w.writeAll f with
    | mk ok w' =>
      cases ok with
      | true => exact writeFieldsM_map_some fs w'
      | false => rfl

theorem descrFieldsM_eq (ovf : Bool) : ∀ (b : Bitmap), (∀ c ∈ b, 1 ≤ c.len) →
    Bitmap.descrFieldsM ovf b = (Bitmap.descrFields b).map some := by
  intro b
  induction b with
  | nil => intro _; rfl
  | cons c cs ih =>
    intro h
    have hc := h c (by simp)
    have hcs := ih (fun c' hc' => h c' (by simp [hc']))
    unfold Bitmap.descrFieldsM Bitmap.descrFields at hcs ⊢
    simp only [List.flatMap_cons, List.map_append, hcs, cardField_pos ovf c.len hc, Option.map_some,
      List.map_cons, List.map_nil]

theorem serializeFieldsM_eq (ovf : Bool) (b : Bitmap) (h : ∀ c ∈ b, 1 ≤ c.len) :
    Bitmap.serializeFieldsM ovf b = (Bitmap.serializeFields b).map some := by
  unfold Bitmap.serializeFieldsM Bitmap.serializeFields
  rw [descrFieldsM_eq ovf b h]
  simp only [List.map_append, List.map_cons, List.map_nil]

theorem serializeIntoM_eq (ovf : Bool) (b : Bitmap) (h : ∀ c ∈ b, 1 ≤ c.len) (w : SWriter) :
    Bitmap.serializeIntoM ovf b w = some (Bitmap.serializeInto b w) := by
  unfold Bitmap.serializeIntoM Bitmap.serializeInto
  rw [serializeFieldsM_eq ovf b h, writeFieldsM_map_some]

theorem partsM_eq (ovf : Bool) : ∀ (t : Treemap), (∀ p ∈ t, ∀ c ∈ p.2, 1 ≤ c.len) →
    Treemap.partsM ovf t = some (t.flatMap fun p => u32le p.1 ++ Bitmap.serialize p.2) := by
  intro t
  induction t with
  | nil => intro _; rfl
  | cons p ps ih =>
    intro h
    have hp := serializeM_eq ovf p.2 (h p (by simp))
    have hps := ih (fun q hq => h q (by simp [hq]))
    simp only [Treemap.partsM, hp, hps, List.flatMap_cons, List.append_assoc]

theorem tserializeM_eq (ovf : Bool) (t : Treemap) (h : ∀ p ∈ t, ∀ c ∈ p.2, 1 ≤ c.len) :
    Treemap.serializeM ovf t = some (Treemap.serialize t) := by
  unfold Treemap.serializeM Treemap.serialize
  rw [partsM_eq ovf t h]; rfl

theorem tserializeFieldsM_eq (ovf : Bool) : ∀ (t : Treemap), (∀ p ∈ t, ∀ c ∈ p.2, 1 ≤ c.len) →
    (t.flatMap fun p => some (u32le p.1) :: Bitmap.serializeFieldsM ovf p.2)
      = (t.flatMap fun p => u32le p.1 :: Bitmap.serializeFields p.2).map some := by
  intro t
  induction t with
  | nil => intro _; rfl
  | cons p ps ih =>
    intro h
    have hp := serializeFieldsM_eq ovf p.2 (h p (by simp))
    have hps := ih (fun q hq => h q (by simp [hq]))
    simp only [List.flatMap_cons, hp, hps, List.map_append, List.map_cons, List.cons_append]

theorem tserializeIntoM_eq (ovf : Bool) (t : Treemap) (h : ∀ p ∈ t, ∀ c ∈ p.2, 1 ≤ c.len) (w : SWriter) :
    Treemap.serializeIntoM ovf t w = some (Treemap.serializeInto t w) := by
  unfold Treemap.serializeIntoM Treemap.serializeInto Treemap.serializeFieldsM Treemap.serializeFields
  rw [tserializeFieldsM_eq ovf t h, ← List.map_cons, writeFieldsM_map_some]

end Fidelity
end Roaring
