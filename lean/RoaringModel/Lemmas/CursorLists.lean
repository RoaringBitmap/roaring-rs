import RoaringModel.Lemmas.Radix
/-!
# The values a double-ended iterator has not yet yielded, as a list of blocks

Both iterators keep `front ++ middle ++ back`: what is left of an opened block (a chunk of `2^16` values, a partition
of `2^32`), the untouched blocks, what is left of another opened block, block numbers ascending.  Popping an end, and
what the block numbers decide about `advance_to` / `advance_back_to`, are stated here for lists and a variable block size.
-/
namespace Roaring

theorem eq_cons_of_head? {α : Type} {l : List α} {x : α} (h : l.head? = some x) : l = x :: l.tail := by
  cases l with
  | nil => cases h
  | cons a l => cases h; rfl

theorem eq_concat_of_getLast? {α : Type} {l : List α} {x : α} (h : l.getLast? = some x) : l = l.dropLast ++ [x] := by
  obtain ⟨ys, rfl⟩ := List.getLast?_eq_some_iff.mp h
  rw [List.dropLast_concat]

theorem eq_nil_or_snoc {α} (l : List α) : l = [] ∨ ∃ l' a, l = l' ++ [a] :=
  (List.eq_nil_or_concat l).imp_right fun ⟨l', a, h⟩ => ⟨l', a, h.trans List.concat_eq_append⟩

/-- `Iterator::next` until `None`, with more fuel than there are values left, yields what the cursor has left; `hstep` is
    the defining equation of the loop, `hnext` what one `next` does to the cursor -/
theorem collect_eq_rem {σ : Type} {next : σ → σ × Option Nat} {rem : σ → List Nat} {Inv : σ → Prop}
    {collect : Nat → σ → List Nat}
    (hstep : ∀ f s, collect (f + 1) s = match (next s).2 with | none => [] | some x => x :: collect f (next s).1)
    (hnext : ∀ s, Inv s → (next s).2 = (rem s).head? ∧ rem (next s).1 = (rem s).tail ∧ Inv (next s).1) :
    ∀ f s, Inv s → (rem s).length < f → collect f s = rem s
  | 0, _, _, hl => absurd hl (Nat.not_lt_zero _)
  | f + 1, s, hi, hl => by
    obtain ⟨h1, h2, h3⟩ := hnext s hi
    rw [hstep, h1]
    cases hr : rem s with
    | nil => rfl
    | cons x xs =>
      rw [hr] at h2 hl
      exact congrArg (x :: ·) ((collect_eq_rem hstep hnext f _ h3 (h2 ▸ Nat.lt_of_succ_lt_succ hl)).trans h2)

namespace Radix

/-- what holds of the number of every block holds of `x / B` for every value in the blocks -/
theorem forall_flatMap_div {α : Type} {B : Nat} {key : α → Nat} {f : α → List Nat} {l : List α}
    (hf : ∀ a ∈ l, ∀ x ∈ f a, x / B = key a) {Q : Nat → Prop} (hq : ∀ a ∈ l, Q (key a)) :
    ∀ x ∈ l.flatMap f, Q (x / B) := by
  intro x hx
  obtain ⟨a, ha, hx⟩ := List.mem_flatMap.mp hx
  exact hf a ha x hx ▸ hq a ha

/-- `advance_to(n)` when block `k` is open in front and everything behind it lies in later blocks: nothing goes,
    or block `k` is trimmed, or block `k` goes and the search continues behind it -/
theorem filterGE_block_append (B n : Nat) {k : Nat} {F R : List Nat} (hF : ∀ x ∈ F, x / B = k)
    (hR : ∀ x ∈ R, k < x / B) :
    (F ++ R).filter (fun x => decide (n ≤ x)) =
      if n / B < k then F ++ R
      else if n / B = k then F.filter (fun x => decide (n ≤ x)) ++ R
      else R.filter (fun x => decide (n ≤ x)) := by
  rw [List.filter_append]
  by_cases h1 : n / B < k
  · rw [if_pos h1, filterGE_keep_of_div_gt B (l := F) fun x hx => (hF x hx).symm ▸ h1,
      filterGE_keep_of_div_gt B (l := R) fun x hx => Nat.lt_trans h1 (hR x hx)]
  by_cases h2 : n / B = k
  · rw [if_neg h1, if_pos h2, filterGE_keep_of_div_gt B (l := R) fun x hx => h2 ▸ hR x hx]
  · rw [if_neg h1, if_neg h2, filterGE_drop_of_div_lt B (l := F) fun x hx =>
      (hF x hx).symm ▸ Nat.lt_of_le_of_ne (Nat.le_of_not_lt h1) (Ne.symm h2), List.nil_append]

/-- `advance_back_to(n)` when block `k` is open at the back and everything before it lies in earlier blocks -/
theorem filterLE_append_block (B n : Nat) {k : Nat} {R F : List Nat} (hR : ∀ x ∈ R, x / B < k)
    (hF : ∀ x ∈ F, x / B = k) :
    (R ++ F).filter (fun x => decide (x ≤ n)) =
      if k < n / B then R ++ F
      else if n / B = k then R ++ F.filter (fun x => decide (x ≤ n))
      else R.filter (fun x => decide (x ≤ n)) := by
  rw [List.filter_append]
  by_cases h1 : k < n / B
  · rw [if_pos h1, filterLE_keep_of_div_lt B (l := F) fun x hx => (hF x hx).symm ▸ h1,
      filterLE_keep_of_div_lt B (l := R) fun x hx => Nat.lt_trans (hR x hx) h1]
  by_cases h2 : n / B = k
  · rw [if_neg h1, if_pos h2, filterLE_keep_of_div_lt B (l := R) fun x hx => h2 ▸ hR x hx]
  · rw [if_neg h1, if_neg h2, filterLE_drop_of_div_gt B (l := F) fun x hx =>
      (hF x hx).symm ▸ Nat.lt_of_le_of_ne (Nat.le_of_not_lt h1) h2, List.append_nil]

end Radix
end Roaring
