import RoaringModel.TreemapOps
import RoaringModel.Lemmas.TreemapKernel
import RoaringModel.Lemmas.AlgebraSpec
import RoaringModel.Lemmas.BitmapLen
import RoaringModel.Lemmas.MultiSpec
import RoaringModel.Lemmas.TreemapQuery
/-!
# The 64-bit set algebra, relations and cardinalities of `RoaringTreemap` (treemap/ops.rs, cmp.rs), lifted through
  the partition directory from the 32-bit laws `BinLaws o`

For `TWF` operands every operand form of `| & - ^` is `Exact64`; `is_subset / is_superset / is_disjoint` decide the
SPEC relations; `union_len / symmetric_difference_len` are the true cardinalities modulo 2^64.  Membership goes
through the directory: `x ∈ elems t ↔ x % 2^32 ∈ part t (x / 2^32)`.
The helper lemmas are in `namespace TA` ("treemap algebra": `part`, the loop invariants, `Pairs`, the modular sums);
the results per operator (`| & - ^`, the relations, the cardinalities) follow each group of them, for an arbitrary
`BinLaws o`; `Lemmas/TreemapModel32.lean` instantiates them at the mirrored 32-bit operations.
-/
namespace Roaring
namespace Treemap

/-- the 32-bit laws the treemap code relies on, for an arbitrary bundle `o` of 32-bit operations -/
structure BinLaws (o : Ops32) : Prop where
  orAO : ∀ a b : Bitmap, a.WF → b.WF →
    (o.orAO a b).WF ∧ Bitmap.elems (o.orAO a b) = Spec.sOr (Bitmap.elems a) (Bitmap.elems b)
  orAR : ∀ a b : Bitmap, a.WF → b.WF →
    (o.orAR a b).WF ∧ Bitmap.elems (o.orAR a b) = Spec.sOr (Bitmap.elems a) (Bitmap.elems b)
  andAR : ∀ a b : Bitmap, a.WF → b.WF →
    (o.andAR a b).WF ∧ Bitmap.elems (o.andAR a b) = Spec.sAnd (Bitmap.elems a) (Bitmap.elems b)
  subAR : ∀ a b : Bitmap, a.WF → b.WF →
    (o.subAR a b).WF ∧ Bitmap.elems (o.subAR a b) = Spec.sSub (Bitmap.elems a) (Bitmap.elems b)
  xorAO : ∀ a b : Bitmap, a.WF → b.WF →
    (o.xorAO a b).WF ∧ Bitmap.elems (o.xorAO a b) = Spec.sXor (Bitmap.elems a) (Bitmap.elems b)
  xorAR : ∀ a b : Bitmap, a.WF → b.WF →
    (o.xorAR a b).WF ∧ Bitmap.elems (o.xorAR a b) = Spec.sXor (Bitmap.elems a) (Bitmap.elems b)
  interLen : ∀ a b : Bitmap, a.WF → b.WF →
    o.interLen a b = (Spec.sAnd (Bitmap.elems a) (Bitmap.elems b)).length
  isSubset : ∀ a b : Bitmap, a.WF → b.WF →
    (o.isSubset a b = true ↔ ∀ y, y ∈ Bitmap.elems a → y ∈ Bitmap.elems b)
  isDisjoint : ∀ a b : Bitmap, a.WF → b.WF →
    (o.isDisjoint a b = true ↔ ∀ y, y ∈ Bitmap.elems a → ¬ y ∈ Bitmap.elems b)

/-- the statement for one operand form -/
def Exact64 (op : Treemap → Treemap → Treemap) (sop : List Nat → List Nat → List Nat) : Prop :=
  ∀ a b : Treemap, TWF a → TWF b → TWF (op a b) ∧ elems (op a b) = sop (elems a) (elems b)

namespace TA

/-- the values of partition `k` (empty when the partition is absent) -/
def part (t : Treemap) (k : Nat) : List Nat := Bitmap.elems ((get t k).getD Bitmap.new)

theorem elems_new : Bitmap.elems Bitmap.new = [] := rfl

theorem part_of_none {t : Treemap} {k : Nat} (h : get t k = none) : part t k = [] := partElems_of_get_none h
theorem part_of_some {t : Treemap} {k : Nat} {b : Bitmap} (h : get t k = some b) : part t k = Bitmap.elems b :=
  partElems_of_get h

theorem part_cons (k : Nat) (b : Bitmap) (t : Treemap) (k' : Nat) :
    part ((k, b) :: t) k' = if k = k' then Bitmap.elems b else part t k' := by
  unfold part
  rw [get]
  split <;> rfl

theorem mem_elems_part {t : Treemap} (h : TWF t) (x : Nat) : x ∈ elems t ↔ x % P32 ∈ part t (x / P32) :=
  mem_elems_getD kernel32 h x

theorem sortedT {t : Treemap} (h : TWF t) : TL.Sorted (elems t) := sorted_elems (kE kernel32) h

theorem sorted_part {t : Treemap} (h : TWF t) (k : Nat) : TL.Sorted (part t k) :=
  kernel32.elems_sorted _ (wf_getD kernel32 h k)

theorem part_insertKV (t : Treemap) (k : Nat) (b : Bitmap) (k' : Nat) :
    part (insertKV t k b) k' = if k' = k then Bitmap.elems b else part t k' := by
  unfold part; rw [get_insertKV]
  by_cases h : k' = k <;> simp [h]

theorem part_removeK (t : Treemap) (k k' : Nat) :
    part (removeK t k) k' = if k' = k then [] else part t k' := by
  unfold part; rw [get_removeK]
  by_cases h : k' = k <;> simp [h, elems_new]

theorem TWF_of_get {t : Treemap} (hs : KeysSorted t)
    (h : ∀ k b, get t k = some b → k < P32 ∧ b.WF ∧ Bitmap.elems b ≠ []) : TWF t :=
  ⟨hs, fun p hp => h p.1 p.2 (get_eq_some_of_mem hs hp)⟩

/-- `if n.is_empty() { remove(k) } else { insert(k, n) }` -/
def put (t : Treemap) (k : Nat) (n : Bitmap) : Treemap :=
  if Bitmap.isEmpty n then removeK t k else insertKV t k n

theorem put_spec {t : Treemap} (h : TWF t) {k : Nat} {n : Bitmap} (hk : k < P32) (hn : n.WF) :
    TWF (put t k n) ∧ ∀ k', part (put t k n) k' = if k' = k then Bitmap.elems n else part t k' := by
  unfold put
  by_cases he : Bitmap.isEmpty n = true
  · rw [if_pos he]
    exact ⟨removeK_WF kernel32 h k, fun k' => by rw [part_removeK, (kernel32.isEmpty_spec _ hn).1 he]⟩
  · rw [if_neg he]
    exact ⟨insertKV_WF kernel32 h hk hn (mt (kernel32.isEmpty_spec _ hn).2 he), part_insertKV t k n⟩

/-- `if !n.is_empty() { insert(k, n) }` where partition `k` is absent -/
theorem insertUnlessEmpty_spec {t : Treemap} (h : TWF t) {k : Nat} (hk : k < P32) {n : Bitmap} (hn : n.WF)
    (hnone : part t k = []) :
    TWF (if !Bitmap.isEmpty n then insertKV t k n else t) ∧
    ∀ k', part (if !Bitmap.isEmpty n then insertKV t k n else t) k' =
      if k' = k then Bitmap.elems n else part t k' := by
  cases he : Bitmap.isEmpty n with
  | true =>
    refine ⟨h, fun k' => ?_⟩
    show part t k' = _
    by_cases hk' : k' = k
    · rw [if_pos hk', hk', hnone, (kernel32.isEmpty_spec _ hn).1 he]
    · rw [if_neg hk']
  | false =>
    exact ⟨insertKV_WF kernel32 h hk hn fun h' => Bool.false_ne_true (he.symm.trans ((kernel32.isEmpty_spec _ hn).2 h')),
      part_insertKV t k n⟩

/-- the partition directory seen partition by partition -/
theorem view {t : Treemap} (h : TWF t) : View P32 (elems t) (part t) :=
  ⟨sortedT h, mem_elems_part h, sorted_part h⟩

/-- **lifting**: a well-formed treemap whose every partition is the `sop`-fold of the operands' partitions is
    the `sop`-fold of the operands -/
theorem lift_foldl {sop : List Nat → List Nat → List Nat} {φ : Prop → Prop → Prop} (S : SetOp sop φ)
    {a r : Treemap} {bs : List Treemap} (ha : TWF a) (hbs : ∀ b ∈ bs, TWF b) (hr : TWF r)
    (h : ∀ k, part r k = (bs.map (part · k)).foldl sop (part a k)) :
    elems r = (bs.map elems).foldl sop (elems a) :=
  View.foldl S (view ha) (fun b hb => view (hbs b hb)) (view hr) h

theorem lift_elems {sop : List Nat → List Nat → List Nat} {φ : Prop → Prop → Prop} (S : SetOp sop φ)
    {a b r : Treemap} (ha : TWF a) (hb : TWF b) (hr : TWF r)
    (h : ∀ k, part r k = sop (part a k) (part b k)) : elems r = sop (elems a) (elems b) :=
  View.op S (view ha) (view hb) (view hr) h

theorem exact_swap {op : Treemap → Treemap → Treemap} {sop : List Nat → List Nat → List Nat}
    (h : Exact64 op sop) (hc : ∀ l r, TL.Sorted l → TL.Sorted r → sop l r = sop r l) :
    Exact64 (fun a b => op b a) sop := by
  intro a b ha hb
  rw [hc _ _ (sortedT ha) (sortedT hb)]
  exact h b a hb ha

/-- invariant of a loop over the partitions of `rhs` whose body replaces partition `p.1` of the accumulator by
    `g p.1 (its old value) (p.2)`; the keys of `rhs` being distinct, the body finds that partition as it was
    in `self` -/
theorem fold_spec (g : Nat → List Nat → List Nat → List Nat) (step : Treemap → Nat × Bitmap → Treemap) :
    ∀ (rhs : Treemap), KeysSorted rhs → ∀ self : Treemap, TWF self →
      (∀ (acc : Treemap) (p : Nat × Bitmap), p ∈ rhs → TWF acc → part acc p.1 = part self p.1 →
        TWF (step acc p) ∧
        ∀ k', part (step acc p) k' =
          if k' = p.1 then g p.1 (part acc p.1) (Bitmap.elems p.2) else part acc k') →
      TWF (rhs.foldl step self) ∧
      ∀ k', part (rhs.foldl step self) k' =
        if k' ∈ keys rhs then g k' (part self k') (part rhs k') else part self k' := by
  intro rhs hr self hs hstep
  obtain ⟨h1, h2, h3⟩ := foldl_view (I := TWF) (view := part) (key := Prod.fst)
    (fun p l => g p.1 l (Bitmap.elems p.2)) step rhs hr self hs hstep
  refine ⟨h1, fun k' => ?_⟩
  by_cases hk : k' ∈ keys rhs
  · obtain ⟨p, hp, rfl⟩ := List.mem_map.mp hk
    rw [if_pos hk, h2 p hp, part_of_some (get_eq_some_of_mem hr hp)]
  · rw [if_neg hk, h3 k' hk]

/-- a loop over the partitions of the right operand whose body combines equal-keyed partitions by `sop` is
    exact for `sop`, provided `sop l [] = l` (partitions absent on the right are left alone) -/
theorem exact_of_fold {sop : List Nat → List Nat → List Nat} {φ : Prop → Prop → Prop} (S : SetOp sop φ)
    (hnil : ∀ l, sop l [] = l) {step : Treemap → Nat × Bitmap → Treemap}
    (hstep : ∀ (acc : Treemap) (p : Nat × Bitmap), TWF acc → p.1 < P32 → p.2.WF → Bitmap.elems p.2 ≠ [] →
      TWF (step acc p) ∧
      ∀ k', part (step acc p) k' = if k' = p.1 then sop (part acc p.1) (Bitmap.elems p.2) else part acc k') :
    Exact64 (fun self rhs => rhs.foldl step self) sop := by
  intro a b ha hb
  obtain ⟨h1, h2⟩ := fold_spec (fun _ => sop) step b hb.sorted a ha fun acc p hp hacc _ =>
    hstep acc p hacc (hb.parts p hp).1 (hb.parts p hp).2.1 (hb.parts p hp).2.2
  refine ⟨h1, lift_elems S ha hb h1 fun k => ?_⟩
  rw [h2 k]
  by_cases hk : k ∈ keys b
  · rw [if_pos hk]
  · rw [if_neg hk, part_of_none (get_eq_none_iff.mpr hk), hnil]

theorem mergeInto_exact {f : Bitmap → Bitmap → Bitmap}
    (hf : ∀ a b : Bitmap, a.WF → b.WF →
      (f a b).WF ∧ Bitmap.elems (f a b) = Spec.sOr (Bitmap.elems a) (Bitmap.elems b)) :
    Exact64 (mergeInto f) Spec.sOr := by
  refine exact_of_fold Bitmap.oper_or.toSetOp Spec.sOr_nil_right fun acc p hacc hk hp hne => ?_
  cases hg : get acc p.1 with
  | none =>
    refine ⟨insertKV_WF kernel32 hacc hk hp hne, fun k' => ?_⟩
    rw [part_insertKV, part_of_none hg, Spec.sOr_nil_left]
  | some cur =>
    obtain ⟨f1, f2⟩ := hf cur p.2 (hacc.get hg).2.1 hp
    refine ⟨insertKV_WF kernel32 hacc hk f1 (by rw [f2]; exact Spec.sOr_ne_nil hne), fun k' => ?_⟩
    rw [part_insertKV, part_of_some hg, f2]

end TA
open TA

section
variable {o : Ops32} (L : BinLaws o)
include L

/-- `a |= b` (ops.rs:152), including the operand swap on `len()` -/
theorem orAO_exact : Exact64 (orAO o) Spec.sOr := by
  intro a b ha hb
  unfold orAO
  split
  · exact exact_swap (mergeInto_exact L.orAO) Spec.sOr_comm a b ha hb
  · exact mergeInto_exact L.orAO a b ha hb
/-- `a |= &b` (ops.rs:173) -/
theorem orAR_exact : Exact64 (orAR o) Spec.sOr := mergeInto_exact L.orAR
/-- `&a | b` (ops.rs:132): the operands are exchanged -/
theorem orRO_exact : Exact64 (orRO o) Spec.sOr := exact_swap (orAR_exact L) Spec.sOr_comm
/-- `&a | &b` (ops.rs:141): the bigger operand is cloned -/
theorem orRR_exact : Exact64 (orRR o) Spec.sOr := by
  intro a b ha hb
  unfold orRR
  split
  · exact exact_swap (orAR_exact L) Spec.sOr_comm a b ha hb
  · exact orAR_exact L a b ha hb

end

namespace TA

theorem get_foldl_removeK (ks : List Nat) (t : Treemap) (k' : Nat) :
    get (ks.foldl removeK t) k' = if k' ∈ ks then none else get t k' := by
  induction ks generalizing t with
  | nil => simp
  | cons k ks ih =>
    rw [List.foldl_cons, ih, get_removeK]
    by_cases h1 : k' ∈ ks
    · simp [h1]
    · by_cases h2 : k' = k <;> simp [h1, h2]

theorem keysSorted_foldl_removeK (ks : List Nat) {t : Treemap} (h : KeysSorted t) : KeysSorted (ks.foldl removeK t) := by
  induction ks generalizing t with
  | nil => exact h
  | cons k ks ih => exact ih (keysSorted_removeK k h)

/-- the new value of partition `k` of `self` in `a &= &b` -/
def andVal (o : Ops32) (b : Treemap) (k : Nat) (sb : Bitmap) : Bitmap :=
  (get b k).elim sb (o.andAR sb)
/-- partition `k` of `self` is pushed on `keys_to_remove` -/
def andDrop (o : Ops32) (b : Treemap) (k : Nat) (sb : Bitmap) : Bool :=
  (get b k).elim true fun other => Bitmap.isEmpty (o.andAR sb other)

/-- the first loop of `a &= &b`: every partition gets its new value, the emptied and unmatched ones are noted -/
theorem andLoop_eq (o : Ops32) (b a : Treemap) : andLoop o b a =
    (a.map fun p => (p.1, andVal o b p.1 p.2), (a.filter fun p => andDrop o b p.1 p.2).map (·.1)) := by
  induction a with
  | nil => rfl
  | cons p t ih =>
    obtain ⟨key, sb⟩ := p
    rw [andLoop, ih, List.map_cons, List.filter_cons, andVal, andDrop]
    cases get b key with
    | none => rfl
    | some other => cases he : Bitmap.isEmpty (o.andAR sb other) <;> simp [he]

theorem get_mapVal (f : Nat → Bitmap → Bitmap) (k : Nat) (t : Treemap) :
    get (t.map fun p => (p.1, f p.1 p.2)) k = (get t k).map (f k) := by
  induction t with
  | nil => rfl
  | cons p t ih =>
    simp only [List.map_cons, get]
    by_cases h : p.1 = k
    · subst h; simp
    · simp [h, ih]

/-- partition `k` of `a &= &b`: present iff present on both sides with a non-empty 32-bit intersection -/
theorem get_andAR (o : Ops32) {a : Treemap} (hs : KeysSorted a) (b : Treemap) (k : Nat) :
    get (andAR o a b) k = match get a k, get b k with
      | some sb, some other => if Bitmap.isEmpty (o.andAR sb other) then none else some (o.andAR sb other)
      | _, _ => none := by
  unfold andAR
  rw [andLoop_eq]
  dsimp only
  rw [get_foldl_removeK, get_mapVal]
  cases hg : get a k with
  | none => simp
  | some sb =>
    have hiff : k ∈ (a.filter fun p => andDrop o b p.1 p.2).map (·.1) ↔ andDrop o b k sb = true := by
      constructor
      · intro hm
        obtain ⟨p, hp, rfl⟩ := List.mem_map.mp hm
        obtain ⟨hpa, hd⟩ := List.mem_filter.mp hp
        exact Option.some.inj ((get_eq_some_of_mem hs hpa).symm.trans hg) ▸ hd
      · intro h
        exact List.mem_map.mpr ⟨(k, sb), List.mem_filter.mpr ⟨mem_of_get_eq_some hg, h⟩, rfl⟩
    simp only [Option.map_some, hiff]
    unfold andDrop andVal
    cases get b k <;> rfl

end TA

section
variable {o : Ops32} (L : BinLaws o)
include L

/-- `a &= &b` (ops.rs:243): the `retain`-style loop and the removal of `keys_to_remove` -/
theorem andAR_exact : Exact64 (andAR o) Spec.sAnd := by
  intro a b ha hb
  have key : ∀ k, (∀ bm, get (andAR o a b) k = some bm → k < P32 ∧ bm.WF ∧ Bitmap.elems bm ≠ []) ∧
      part (andAR o a b) k = Spec.sAnd (part a k) (part b k) := by
    intro k
    have hp : part (andAR o a b) k = Bitmap.elems ((get (andAR o a b) k).getD Bitmap.new) := rfl
    rw [hp, get_andAR o ha.sorted b k]
    cases hg : get a k with
    | none =>
      rw [part_of_none hg, Spec.sAnd_nil_left]
      cases get b k <;> exact ⟨fun _ h => (nomatch h), rfl⟩
    | some sb =>
      cases hgb : get b k with
      | none => exact ⟨fun _ h => (nomatch h), by rw [part_of_none hgb, Spec.sAnd_nil_right]; rfl⟩
      | some other =>
        obtain ⟨hk32, hsb, _⟩ := ha.get hg
        obtain ⟨l1, l2⟩ := L.andAR sb other hsb (hb.get hgb).2.1
        rw [part_of_some hg, part_of_some hgb, ← l2]
        dsimp only
        by_cases he : Bitmap.isEmpty (o.andAR sb other) = true
        · rw [if_pos he]
          exact ⟨fun _ h => (nomatch h), ((kernel32.isEmpty_spec _ l1).1 he).symm⟩
        · rw [if_neg he]
          exact ⟨fun bm h => by cases h; exact ⟨hk32, l1, fun h' => he ((kernel32.isEmpty_spec _ l1).2 h')⟩, rfl⟩
  have hw : TWF (andAR o a b) := by
    refine TWF_of_get ?_ fun k bm h => (key k).1 bm h
    unfold andAR
    rw [andLoop_eq]
    refine keysSorted_foldl_removeK _ ?_
    unfold KeysSorted keys
    rw [List.map_map]
    exact ha.sorted
  exact ⟨hw, lift_elems Bitmap.oper_and.toSetOp ha hb hw fun k => (key k).2⟩

/-- `a &= b` (ops.rs:231), including the operand swap on `len()` -/
theorem andAO_exact : Exact64 (andAO o) Spec.sAnd := by
  intro a b ha hb
  unfold andAO
  split
  · exact exact_swap (andAR_exact L) Spec.sAnd_comm a b ha hb
  · exact andAR_exact L a b ha hb
/-- `&a & b` (ops.rs:211): the operands are exchanged -/
theorem andRO_exact : Exact64 (andRO o) Spec.sAnd := exact_swap (andAR_exact L) Spec.sAnd_comm
/-- `&a & &b` (ops.rs:220): the bigger operand is cloned and intersected with the smaller in place -/
theorem andRR_exact : Exact64 (andRR o) Spec.sAnd := by
  intro a b ha hb
  unfold andRR
  split
  · exact andAR_exact L a b ha hb
  · exact exact_swap (andAR_exact L) Spec.sAnd_comm a b ha hb

/-- `a -= &b` (ops.rs:310) -/
theorem subAR_exact : Exact64 (subAR o) Spec.sSub := by
  refine exact_of_fold Bitmap.oper_sub.toSetOp Spec.sSub_nil_right fun acc p hacc hk hp _ => ?_
  cases hg : get acc p.1 with
  | none =>
    refine ⟨hacc, fun k' => ?_⟩
    by_cases hk' : k' = p.1
    · rw [if_pos hk', hk', part_of_none hg, Spec.sSub_nil_left]
    · rw [if_neg hk']
  | some cur =>
    obtain ⟨f1, f2⟩ := L.subAR cur p.2 (hacc.get hg).2.1 hp
    rw [part_of_some hg, ← f2]
    exact put_spec hacc hk f1

end

theorem xorInto_exact {f : Bitmap → Bitmap → Bitmap}
    (hf : ∀ a b : Bitmap, a.WF → b.WF →
      (f a b).WF ∧ Bitmap.elems (f a b) = Spec.sXor (Bitmap.elems a) (Bitmap.elems b)) :
    Exact64 (xorInto f) Spec.sXor := by
  refine exact_of_fold Bitmap.oper_xor.toSetOp Spec.sXor_nil_right fun acc p hacc hk hp hne => ?_
  cases hg : get acc p.1 with
  | none =>
    refine ⟨insertKV_WF kernel32 hacc hk hp hne, fun k' => ?_⟩
    rw [part_insertKV, part_of_none hg, Spec.sXor_nil_left]
  | some cur =>
    obtain ⟨f1, f2⟩ := hf cur p.2 (hacc.get hg).2.1 hp
    rw [part_of_some hg, ← f2]
    exact put_spec hacc hk f1

section
variable {o : Ops32} (L : BinLaws o)
include L

/-- `a ^= b` (ops.rs:369) -/
theorem xorAO_exact : Exact64 (xorAO o) Spec.sXor := xorInto_exact L.xorAO
/-- `a ^= &b` (ops.rs:388) -/
theorem xorAR_exact : Exact64 (xorAR o) Spec.sXor := xorInto_exact L.xorAR
/-- `&a ^ b` (ops.rs:349): the operands are exchanged -/
theorem xorRO_exact : Exact64 (xorRO o) Spec.sXor := exact_swap (xorAR_exact L) Spec.sXor_comm
/-- `&a ^ &b` (ops.rs:358) -/
theorem xorRR_exact : Exact64 (xorRR o) Spec.sXor := by
  intro a b ha hb
  unfold xorRR
  split
  · exact xorRO_exact L a b ha hb
  · exact xorAR_exact L a b ha hb

end

/-! ### `Pairs` (cmp.rs:7, its `next` at :112): the left-present pairs are the partitions of `a` with the lookup in `b` -/

namespace TA

def leftPairs (ps : List (Option Bitmap × Option Bitmap)) : List (Bitmap × Option Bitmap) :=
  ps.filterMap (fun p => match p.1 with
    | some l => some (l, p.2)
    | none => none)

theorem leftPairs_nil : leftPairs [] = [] := rfl
theorem leftPairs_none (r : Option Bitmap) (ps : List (Option Bitmap × Option Bitmap)) :
    leftPairs ((none, r) :: ps) = leftPairs ps := by simp [leftPairs]
theorem leftPairs_some (l : Bitmap) (r : Option Bitmap) (ps : List (Option Bitmap × Option Bitmap)) :
    leftPairs ((some l, r) :: ps) = (l, r) :: leftPairs ps := by simp [leftPairs]

theorem get_none_of_lt {t : Treemap} {k : Nat} (h : ∀ q ∈ t, k < q.1) : get t k = none := by
  apply get_eq_none_iff.mpr
  intro hm
  obtain ⟨q, hq, hqe⟩ := List.mem_map.mp hm
  exact Nat.lt_irrefl _ (hqe ▸ h q hq)

theorem get_cons_of_lt {k2 : Nat} {b2 : Bitmap} {t2 : Treemap} {k : Nat} (h : k2 < k) :
    get ((k2, b2) :: t2) k = get t2 k := by
  rw [get, if_neg (Nat.ne_of_lt h)]

theorem leftPairs_pairs : ∀ (a b : Treemap), KeysSorted a → KeysSorted b →
    leftPairs (pairs a b) = a.map (fun p => (p.2, get b p.1)) := by
  intro a b
  induction a, b using pairs.induct with
  | case1 => intro _ _; rw [pairs]; rfl
  | case2 k1 b1 t1 ih =>
    intro ha hb
    rw [pairs, leftPairs_some, ih (keysSorted_cons.mp ha).2 hb]
    rfl
  | case3 k2 b2 t2 ih =>
    intro ha hb
    rw [pairs, leftPairs_none, ih ha (keysSorted_cons.mp hb).2]
    rfl
  | case4 b1 t1 k b2 t2 ih =>
    intro ha hb
    obtain ⟨hlt, ha'⟩ := keysSorted_cons.mp ha
    rw [pairs, if_pos rfl, leftPairs_some, ih ha' (keysSorted_cons.mp hb).2, List.map_cons, get, if_pos rfl]
    congr 1
    exact List.map_congr_left fun p hp => by rw [get_cons_of_lt (hlt p hp)]
  | case5 k1 b1 t1 k2 b2 t2 hne hlt12 ih =>
    intro ha hb
    obtain ⟨hltb, _⟩ := keysSorted_cons.mp hb
    have : get ((k2, b2) :: t2) k1 = none :=
      get_none_of_lt (List.forall_mem_cons.2 ⟨hlt12, fun q hq => Nat.lt_trans hlt12 (hltb q hq)⟩)
    rw [pairs, if_neg hne, if_pos hlt12, leftPairs_some, ih (keysSorted_cons.mp ha).2 hb, List.map_cons, this]
  | case6 k1 b1 t1 k2 b2 t2 hne hnlt ih =>
    intro ha hb
    obtain ⟨hlta, _⟩ := keysSorted_cons.mp ha
    have h21 : k2 < k1 := Nat.lt_of_le_of_ne (Nat.le_of_not_lt hnlt) (Ne.symm hne)
    have hall : ∀ p ∈ (k1, b1) :: t1, k2 < p.1 :=
      List.forall_mem_cons.2 ⟨h21, fun q hq => Nat.lt_trans h21 (hlta q hq)⟩
    rw [pairs, if_neg hne, if_neg hnlt, leftPairs_none, ih ha (keysSorted_cons.mp hb).2]
    exact List.map_congr_left fun p hp => by rw [get_cons_of_lt (hall p hp)]

theorem isSubsetLoop_eq (o : Ops32) (ps : List (Option Bitmap × Option Bitmap)) :
    isSubsetLoop o ps = (leftPairs ps).all (fun q => match q.2 with
      | some c2 => o.isSubset q.1 c2
      | none => false) := by
  fun_induction isSubsetLoop o ps with
  | case1 => rfl
  | case2 r ps ih => rw [leftPairs_none, ih]
  | case3 c1 ps => rw [leftPairs_some]; rfl
  | case4 c1 c2 ps h =>
    rw [leftPairs_some, List.all_cons]
    dsimp only
    cases hs : o.isSubset c1 c2
    · rfl
    · rw [hs] at h; cases h
  | case5 c1 c2 ps h ih =>
    rw [leftPairs_some, List.all_cons, ← ih]
    dsimp only
    cases hs : o.isSubset c1 c2
    · rw [hs] at h; exact absurd rfl h
    · rfl

/-- the `all` over `pairs a b` only looks at the left-present pairs -/
theorem isDisjoint_eq (o : Ops32) (a b : Treemap) :
    isDisjoint o a b = (leftPairs (pairs a b)).all (fun q => match q.2 with
      | some c2 => o.isDisjoint q.1 c2
      | none => true) := by
  unfold isDisjoint leftPairs
  rw [List.all_filterMap]
  congr 1; funext p
  rcases p with ⟨_ | _, _ | _⟩ <;> rfl

theorem part_of_mem {t : Treemap} (h : TWF t) {p : Nat × Bitmap} (hp : p ∈ t) : part t p.1 = Bitmap.elems p.2 :=
  part_of_some (get_eq_some_of_mem h.sorted hp)

/-- a statement about all values, partition by partition -/
theorem forall_mem_elems {t : Treemap} (h : TWF t) (R : Nat → Nat → Prop) :
    (∀ x, x ∈ elems t → R (x / P32) (x % P32)) ↔ ∀ p ∈ t, ∀ y ∈ Bitmap.elems p.2, R p.1 y := by
  constructor
  · intro H p hp y hy
    have hy32 := kernel32.elems_lt _ (h.parts p hp).2.1 y hy
    have := H _ (join_mem_elems hp hy)
    rwa [join_div hy32, join_mod hy32] at this
  · intro H x hx
    obtain ⟨bm, hg, hm⟩ := (mem_elems (kE kernel32) h x).1 hx
    exact H _ (mem_of_get_eq_some hg) _ hm

end TA

section
variable {o : Ops32} (L : BinLaws o)
include L

theorem isSubset_iff {a b : Treemap} (ha : TWF a) (hb : TWF b) :
    isSubset o a b = true ↔ ∀ x, x ∈ elems a → x ∈ elems b := by
  unfold isSubset
  simp only [mem_elems_part hb]
  rw [isSubsetLoop_eq, leftPairs_pairs a b ha.sorted hb.sorted, List.all_eq_true, List.forall_mem_map,
    forall_mem_elems ha fun k y => y ∈ part b k]
  refine forall_congr' fun p => forall_congr' fun hp => ?_
  obtain ⟨_, hpw, hpne⟩ := ha.parts p hp
  cases hgb : get b p.1 with
  | none =>
    obtain ⟨y, hy⟩ := List.exists_mem_of_ne_nil _ hpne
    rw [part_of_none hgb]
    exact ⟨fun h => absurd h Bool.false_ne_true, fun h => absurd (h y hy) List.not_mem_nil⟩
  | some c2 =>
    rw [part_of_some hgb]
    exact L.isSubset p.2 c2 hpw (hb.get hgb).2.1

/-- `is_subset` (cmp.rs:65) is the SPEC relation -/
theorem isSubset_spec {a b : Treemap} (ha : TWF a) (hb : TWF b) :
    isSubset o a b = Spec.isSubset (elems a) (elems b) :=
  Bool.eq_iff_iff.mpr ((isSubset_iff L ha hb).trans (Spec.isSubset_iff _ _ (sortedT ha) (sortedT hb)).symm)

/-- `is_superset` (cmp.rs:104) -/
theorem isSuperset_spec {a b : Treemap} (ha : TWF a) (hb : TWF b) :
    isSuperset o a b = Spec.isSuperset (elems a) (elems b) := isSubset_spec L hb ha

theorem isDisjoint_iff {a b : Treemap} (ha : TWF a) (hb : TWF b) :
    isDisjoint o a b = true ↔ ∀ x, x ∈ elems a → ¬ x ∈ elems b := by
  simp only [mem_elems_part hb]
  rw [isDisjoint_eq, leftPairs_pairs a b ha.sorted hb.sorted, List.all_eq_true, List.forall_mem_map,
    forall_mem_elems ha fun k y => ¬ y ∈ part b k]
  refine forall_congr' fun p => forall_congr' fun hp => ?_
  cases hgb : get b p.1 with
  | none =>
    rw [part_of_none hgb]
    exact ⟨fun _ _ _ => List.not_mem_nil, fun _ => rfl⟩
  | some c2 =>
    rw [part_of_some hgb]
    exact L.isDisjoint p.2 c2 (ha.parts p hp).2.1 (hb.get hgb).2.1

/-- `is_disjoint` (cmp.rs:37) is the SPEC relation -/
theorem isDisjoint_spec {a b : Treemap} (ha : TWF a) (hb : TWF b) :
    isDisjoint o a b = Spec.isDisjoint (elems a) (elems b) :=
  Bool.eq_iff_iff.mpr ((isDisjoint_iff L ha hb).trans (Spec.isDisjoint_iff _ _ (sortedT ha) (sortedT hb)).symm)

end

namespace TA

theorem intersectionLen_eq (o : Ops32) {a b : Treemap} (ha : KeysSorted a) (hb : KeysSorted b) :
    intersectionLen o a b = (a.map (fun p => match get b p.1 with
      | some r => o.interLen p.2 r
      | none => 0)).sum := by
  have h : intersectionLen o a b = ((leftPairs (pairs a b)).map fun q => match q.2 with
      | some r => o.interLen q.1 r
      | none => 0).sum := by
    unfold intersectionLen leftPairs
    rw [List.sum_eq_foldl, List.foldl_map, List.foldl_filterMap]
    congr 1; funext acc p
    rcases p with ⟨_ | _, _ | _⟩ <;> rfl
  rw [h, leftPairs_pairs a b ha hb, List.map_map]
  rfl

theorem length_filter_elems (d : Nat → Bool) (t : Treemap) :
    ((elems t).filter d).length =
      (t.map (fun p => ((Bitmap.elems p.2).filter (fun y => d (join p.1 y))).length)).sum := by
  induction t with
  | nil => rfl
  | cons p t ih =>
    rw [elems_cons, List.filter_append, List.length_append, List.filter_map, List.length_map, ih, List.map_cons,
      List.sum_cons]
    rfl

theorem length_sAnd_elems {a b : Treemap} (ha : TWF a) (hb : TWF b) :
    (Spec.sAnd (elems a) (elems b)).length =
      (a.map (fun p => (Spec.sAnd (Bitmap.elems p.2) (part b p.1)).length)).sum := by
  rw [Spec.sAnd_eq_filter _ _ (sortedT ha) (sortedT hb), length_filter_elems]
  congr 1
  apply List.map_congr_left
  intro p hp
  obtain ⟨_, hpw, _⟩ := ha.parts p hp
  rw [Spec.sAnd_eq_filter _ _ (kernel32.elems_sorted _ hpw) (sorted_part hb _)]
  congr 1
  apply List.filter_congr
  intro y hy
  have hy32 := kernel32.elems_lt _ hpw y hy
  rw [decide_eq_decide, join_eq hy32]
  exact mem_elems_mul_add kernel32 hb p.1 hy32

theorem length_elems_le {t : Treemap} (h : TWF t) : (elems t).length ≤ W64 :=
  sorted_length_le _ _ (sortedT h) (elems_lt (kE kernel32) h)

theorem wsub_add (u i : Nat) : wsub ((u + i) % W64) i = u % W64 := add_mod_sub_mod (by decide) u i

theorem len_eq {t : Treemap} (h : TWF t) : len t = (elems t).length :=
  len_eq_length kernel32 fun p hp => (h.parts p hp).2.1

end TA

section
variable {o : Ops32} (L : BinLaws o)
include L

/-- `intersection_len` (ops.rs:49) is the cardinality of the intersection -/
theorem intersectionLen_spec {a b : Treemap} (ha : TWF a) (hb : TWF b) :
    intersectionLen o a b = (Spec.sAnd (elems a) (elems b)).length := by
  rw [intersectionLen_eq o ha.sorted hb.sorted, length_sAnd_elems ha hb]
  congr 1
  apply List.map_congr_left
  intro p hp
  obtain ⟨_, hpw, _⟩ := ha.parts p hp
  cases hgb : get b p.1 with
  | none => simp [part_of_none hgb, Spec.sAnd_nil_right]
  | some r =>
    dsimp only
    rw [part_of_some hgb]
    exact L.interLen p.2 r hpw (hb.get hgb).2.1

/-- `union_len` (ops.rs:28: `len + other.len` wrapping, minus `intersection_len` wrapping) is the cardinality of
    the union modulo 2^64 -/
theorem unionLen_mod {a b : Treemap} (ha : TWF a) (hb : TWF b) :
    unionLen o a b = (Spec.sOr (elems a) (elems b)).length % W64 := by
  unfold unionLen
  rw [len_eq ha, len_eq hb, intersectionLen_spec L ha hb, ← Spec.length_sOr_add_sAnd, wsub_add]

theorem unionLen_spec {a b : Treemap} (ha : TWF a) (hb : TWF b)
    (hlt : (Spec.sOr (elems a) (elems b)).length < W64) :
    unionLen o a b = (Spec.sOr (elems a) (elems b)).length := by
  rw [unionLen_mod L ha hb, Nat.mod_eq_of_lt hlt]

/-- `difference_len` (ops.rs:77): the plain `-` never underflows, and the value is exact -/
theorem differenceLen_spec {a b : Treemap} (ha : TWF a) (hb : TWF b) :
    differenceLen o a b = (Spec.sSub (elems a) (elems b)).length ∧
    intersectionLen o a b ≤ len a := by
  unfold differenceLen
  rw [len_eq ha, intersectionLen_spec L ha hb, ← Spec.length_sSub_add_sAnd (elems a) (elems b)]
  exact ⟨Nat.add_sub_cancel _ _, Nat.le_add_left _ _⟩

/-- `symmetric_difference_len` (ops.rs:98) is the cardinality of the symmetric difference modulo 2^64 -/
theorem symmetricDifferenceLen_mod {a b : Treemap} (ha : TWF a) (hb : TWF b) :
    symmetricDifferenceLen o a b = (Spec.sXor (elems a) (elems b)).length % W64 := by
  have h := Spec.length_sXor (elems a) (elems b) (sortedT ha) (sortedT hb)
  rw [Nat.two_mul, ← Nat.add_assoc] at h
  unfold symmetricDifferenceLen
  dsimp only
  rw [len_eq ha, len_eq hb, intersectionLen_spec L ha hb, ← h, wsub_add, wsub_add]

theorem symmetricDifferenceLen_spec {a b : Treemap} (ha : TWF a) (hb : TWF b)
    (hlt : (Spec.sXor (elems a) (elems b)).length < W64) :
    symmetricDifferenceLen o a b = (Spec.sXor (elems a) (elems b)).length := by
  rw [symmetricDifferenceLen_mod L ha hb, Nat.mod_eq_of_lt hlt]

end

/-- the true cardinalities are at most 2^64 (so the `< W64` hypotheses above fail only for a result holding
    all 2^64 values, where `union_len` / `symmetric_difference_len` wrap to 0) -/
theorem length_sOr_sXor_le {a b : Treemap} (ha : TWF a) (hb : TWF b) :
    (Spec.sOr (elems a) (elems b)).length ≤ W64 ∧ (Spec.sXor (elems a) (elems b)).length ≤ W64 := by
  have hla := elems_lt (kE kernel32) ha
  have hlb := elems_lt (kE kernel32) hb
  refine ⟨sorted_length_le _ _ (Spec.sorted_sOr _ _ (sortedT ha) (sortedT hb)) ?_,
    sorted_length_le _ _ (Spec.sorted_sXor _ _ (sortedT ha) (sortedT hb)) ?_⟩
  · intro x hx
    rcases (Spec.mem_sOr _ _ x).1 hx with h | h
    · exact hla x h
    · exact hlb x h
  · intro x hx
    rcases (Spec.mem_sXor _ _ (sortedT ha) (sortedT hb) x).1 hx with h | h
    · exact hla x h.1
    · exact hlb x h.2

end Treemap
end Roaring
