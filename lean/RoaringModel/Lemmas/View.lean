import RoaringModel.Lemmas.Blocks
import RoaringModel.Lemmas.MultiSpec
import RoaringModel.Lemmas.TreemapSorted
/-!
# A strictly ascending list seen block by block in base `B`, and what a set operation block by block amounts to

`View B s V`: block `k` of `s` holds the low parts `V k` of the values `k * B + x` of `s`.  A container directory gives
`View 65536 (elems b) (chunk b)`, a partition directory `View 2^32 (elems t) (part t)`.  The lifting lemmas say that an
operation (`View.op`) or a fold of operations (`View.foldl`) on the lists is the same block by block; `foldl_view` is the loop over the blocks of a right operand, for any accumulator that has a view.
`Treemap.TA.SetOp` is the SPEC operation these are stated for.
-/
namespace Roaring

namespace Treemap.TA

/-- a binary SPEC operation on strictly ascending lists, specified by its membership law `φ`; `Bitmap.Oper`
    (`Lemmas/BitmapOps.lean`) extends it for the 32-bit `Pairs` loops -/
structure SetOp (sop : List Nat → List Nat → List Nat) (φ : Prop → Prop → Prop) : Prop where
  mem : ∀ l r, TL.Sorted l → TL.Sorted r → ∀ x, (x ∈ sop l r ↔ φ (x ∈ l) (x ∈ r))
  sorted : ∀ l r, TL.Sorted l → TL.Sorted r → TL.Sorted (sop l r)

namespace SetOp
variable {sop : List Nat → List Nat → List Nat} {φ : Prop → Prop → Prop} (S : SetOp sop φ)
include S

/-- a strictly ascending list with the members of `sop l r` is `sop l r` -/
theorem ext {l r s : List Nat} (hl : Sorted l) (hr : Sorted r) (hs : Sorted s)
    (h : ∀ x, x ∈ s ↔ φ (x ∈ l) (x ∈ r)) : s = sop l r :=
  Arr.sorted_ext _ _ hs (S.sorted l r hl hr) fun x => by rw [h, S.mem l r hl hr]

theorem comm (hφ : ∀ p q, φ p q ↔ φ q p) (l r : List Nat) (hl : Sorted l) (hr : Sorted r) : sop l r = sop r l :=
  S.ext hr hl (S.sorted l r hl hr) fun y => by rw [S.mem l r hl hr, hφ]

theorem mem_foldl (x : Nat) (rest : List (List Nat)) (s : List Nat) (hs : TL.Sorted s) (hr : ∀ r ∈ rest, TL.Sorted r) :
    x ∈ rest.foldl sop s ↔ (rest.map (x ∈ ·)).foldl φ (x ∈ s) := by
  induction rest generalizing s with
  | nil => exact Iff.rfl
  | cons r rest ih =>
    have hr0 := hr r List.mem_cons_self
    rw [List.foldl_cons, ih _ (S.sorted s r hs hr0) fun r' h => hr r' (List.mem_cons_of_mem _ h), S.mem s r hs hr0 x]
    rfl

/-- folding an operation that only ever shrinks its left operand from the empty set -/
theorem foldl_nil (hφ : ∀ p q, φ p q → p) (rest : List (List Nat)) (hr : ∀ r ∈ rest, TL.Sorted r) :
    rest.foldl sop [] = [] := by
  induction rest with
  | nil => rfl
  | cons r rest ih =>
    have h0 : sop [] r = [] := List.eq_nil_iff_forall_not_mem.mpr fun x hx =>
      List.not_mem_nil (hφ _ _ ((S.mem [] r List.Pairwise.nil (hr r List.mem_cons_self) x).1 hx))
    rw [List.foldl_cons, h0, ih fun r' h => hr r' (List.mem_cons_of_mem _ h)]

end SetOp
end Treemap.TA

open Treemap.TA (SetOp)

structure View (B : Nat) (s : List Nat) (V : Nat → List Nat) : Prop where
  sorted : Sorted s
  mem : ∀ y, y ∈ s ↔ y % B ∈ V (y / B)
  blk : ∀ k, Sorted (V k)

namespace View
variable {B : Nat} {sop : List Nat → List Nat → List Nat} {φ : Prop → Prop → Prop}

/-- a list whose every block is the `sop`-fold of the operands' blocks is the `sop`-fold of the operands: membership
    goes through the blocks on both sides -/
theorem foldl (S : SetOp sop φ) {ι : Type} {e : ι → List Nat} {v : ι → Nat → List Nat} {sa sr : List Nat}
    {Va Vr : Nat → List Nat} {bs : List ι} (ha : View B sa Va) (hbs : ∀ b ∈ bs, View B (e b) (v b))
    (hr : View B sr Vr) (h : ∀ k, Vr k = (bs.map (v · k)).foldl sop (Va k)) :
    sr = (bs.map e).foldl sop sa := by
  have hse : ∀ l ∈ bs.map e, Sorted l := List.forall_mem_map.2 fun b hb => (hbs b hb).sorted
  have hsp : ∀ k, ∀ l ∈ bs.map (v · k), Sorted l := fun k => List.forall_mem_map.2 fun b hb => (hbs b hb).blk k
  refine Arr.sorted_ext _ _ hr.sorted (Multi.SpecL.sorted_foldl S.sorted _ _ ha.sorted hse) fun x => ?_
  rw [S.mem_foldl x _ _ ha.sorted hse, hr.mem, h, S.mem_foldl _ _ _ (ha.blk _) (hsp _), ha.mem, List.map_map,
    List.map_map]
  exact iff_of_eq (congrArg (List.foldl φ _) (List.map_congr_left fun b hb => propext ((hbs b hb).mem x)).symm)

theorem op (S : SetOp sop φ) {sa sb sr : List Nat} {Va Vb Vr : Nat → List Nat} (ha : View B sa Va)
    (hb : View B sb Vb) (hr : View B sr Vr) (h : ∀ k, Vr k = sop (Va k) (Vb k)) : sr = sop sa sb :=
  foldl S (ι := Unit) (e := fun _ => sb) (v := fun _ => Vb) (bs := [()]) ha (fun _ _ => hb) hr h

end View

/-- a directory of blocks (`Lemmas/Blocks.lean`) as a view of its value list -/
theorem Blk.Ok.view {α : Type} {key : α → Nat} {low : α → List Nat} {B : Nat} {d : List α} (h : Blk.Ok key low B d) :
    View B (Blk.elems key low B d) (Blk.part key low d) := by
  refine ⟨Blk.sorted_elems h, Blk.mem_elems_part h, fun k => ?_⟩
  rcases Blk.part_cases (key := key) (low := low) d k with e | ⟨a, ha, _, e⟩
  · rw [e]
    exact List.Pairwise.nil
  · rw [e]
    exact h.sorted a ha

/-- **A loop over the key-sorted blocks of the right operand**, for any accumulator seen through `view`: if the body
    replaces block `key p` of the accumulator by `g` of its old value and `p`, and keeps an invariant `I`, then after the
    loop every key of `rhs` has been combined once, with the block as it was before the loop (the keys of `rhs` being
    distinct), and no other block has changed.  (32 bits: `binary_search` + `insert` or merge in place; 64 bits: `entry(k)`.) -/
theorem foldl_view {α β : Type} {I : α → Prop} {view : α → Nat → List Nat} {key : β → Nat}
    (g : β → List Nat → List Nat) (step : α → β → α) :
    ∀ (rhs : List β), (rhs.map key).Pairwise (· < ·) → ∀ self : α, I self →
      (∀ (acc : α) (p : β), p ∈ rhs → I acc → view acc (key p) = view self (key p) →
        I (step acc p) ∧ ∀ k, view (step acc p) k = if k = key p then g p (view acc (key p)) else view acc k) →
      I (rhs.foldl step self) ∧
      (∀ p ∈ rhs, view (rhs.foldl step self) (key p) = g p (view self (key p))) ∧
      ∀ k, k ∉ rhs.map key → view (rhs.foldl step self) k = view self k := by
  intro rhs
  induction rhs with
  | nil => exact fun _ self hs _ => ⟨hs, nofun, fun _ _ => rfl⟩
  | cons p rest ih =>
    intro hr self hs hstep
    obtain ⟨hlt, hr'⟩ := List.pairwise_cons.mp hr
    have hne : ∀ q ∈ rest, key q ≠ key p := fun q hq => Nat.ne_of_gt (hlt _ (List.mem_map_of_mem hq))
    obtain ⟨h1, h2⟩ := hstep self p List.mem_cons_self hs rfl
    obtain ⟨h3, h4, h5⟩ := ih hr' _ h1 fun acc q hq hacc hpre =>
      hstep acc q (List.mem_cons_of_mem _ hq) hacc (by rw [hpre, h2, if_neg (hne q hq)])
    have hp : key p ∉ rest.map key := fun hm => by
      obtain ⟨q, hq, e⟩ := List.mem_map.mp hm
      exact hne q hq e
    refine ⟨h3, List.forall_mem_cons.2 ⟨?_, fun q hq => ?_⟩, fun k hk => ?_⟩
    · rw [List.foldl_cons, h5 _ hp, h2, if_pos rfl]
    · rw [List.foldl_cons, h4 q hq, h2, if_neg (hne q hq)]
    · rw [List.map_cons, List.mem_cons, not_or] at hk
      rw [List.foldl_cons, h5 k hk.2, h2, if_neg hk.1]

end Roaring
