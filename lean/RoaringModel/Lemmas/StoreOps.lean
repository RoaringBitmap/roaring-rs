import RoaringModel.Lemmas.ArrMerge
import RoaringModel.Lemmas.StoreFacts
/-!
# Store-level specifications of the binary operations (store/mod.rs:262-496)

Everything is stated in terms of `Store.elems` under the structural invariant `Store.Inv`.  The facts about `BStore`
are bundled in the structure `BKernel`, which `bKernel` inhabits unconditionally (every field is the theorem of the same
name in `Lemmas/BStoreBasic.lean` / `Lemmas/BStoreRange.lean`).

A store is a characteristic function `Store.test` (membership for an array, the bit for a bitset); every kernel operation
on every pair of kinds is specified by the Boolean function it applies to the two characteristic functions (`BoolSpec`),
and `BoolSpec.opSpec` turns that into the membership form `OpSpec` the bitmap level uses.
-/
namespace Roaring

structure BKernel : Prop where
  mem_toArray : ∀ (b : BStore), b.Inv → ∀ x, x ∈ b.toArray ↔ x < 65536 ∧ b.test x = true
  sorted_toArray : ∀ (b : BStore), b.Inv → Sorted b.toArray
  length_toArray : ∀ (b : BStore), b.Inv → b.toArray.length = b.len
  inv_toArray : ∀ (b : BStore), b.Inv → Arr.Inv b.toArray
  contains_eq_test : ∀ (b : BStore) (i : Nat), b.contains i = b.test i
  arrToBitmap_spec : ∀ (v : List Nat), Arr.Inv v → (Store.arrToBitmap v).Inv ∧ (Store.arrToBitmap v).toArray = v
  orB_spec : ∀ (a b : BStore), a.Inv → b.Inv →
    (BStore.orB a b).Inv ∧ ∀ x, x < 65536 → (BStore.orB a b).test x = (a.test x || b.test x)
  andB_spec : ∀ (a b : BStore), a.Inv → b.Inv →
    (BStore.andB a b).Inv ∧ ∀ x, x < 65536 → (BStore.andB a b).test x = (a.test x && b.test x)
  subB_spec : ∀ (a b : BStore), a.Inv → b.Inv →
    (BStore.subB a b).Inv ∧ ∀ x, x < 65536 → (BStore.subB a b).test x = (a.test x && !b.test x)
  xorB_spec : ∀ (a b : BStore), a.Inv → b.Inv →
    (BStore.xorB a b).Inv ∧ ∀ x, x < 65536 → (BStore.xorB a b).test x = (a.test x != b.test x)
  orArr_spec : ∀ (b : BStore), b.Inv → ∀ (v : List Nat), (∀ x ∈ v, x < 65536) →
    (b.orArr v).Inv ∧ ∀ x, x < 65536 → (b.orArr v).test x = (b.test x || decide (x ∈ v))
  subArr_spec : ∀ (b : BStore), b.Inv → ∀ (v : List Nat), (∀ x ∈ v, x < 65536) →
    (b.subArr v).Inv ∧ ∀ x, x < 65536 → (b.subArr v).test x = (b.test x && !decide (x ∈ v))
  xorArr_spec : ∀ (b : BStore), b.Inv → ∀ (v : List Nat), Arr.Inv v →
    (b.xorArr v).Inv ∧ ∀ x, x < 65536 → (b.xorArr v).test x = (b.test x != decide (x ∈ v))
  isDisjoint_spec : ∀ (a b : BStore), a.Inv → b.Inv →
    (a.isDisjoint b = true ↔ ∀ x, x < 65536 → ¬ (a.test x = true ∧ b.test x = true))
  isSubset_spec : ∀ (a b : BStore), a.Inv → b.Inv →
    (a.isSubset b = true ↔ ∀ x, x < 65536 → a.test x = true → b.test x = true)
  interLenBitmap_spec : ∀ (a b : BStore), a.Inv → b.Inv →
    a.interLenBitmap b = (a.toArray.filter (fun x => b.test x)).length
  interLenArray_spec : ∀ (b : BStore), b.Inv → ∀ (v : List Nat), (∀ x ∈ v, x < 65536) →
    b.interLenArray v = (v.filter (fun x => b.test x)).length

theorem bKernel : BKernel where
  mem_toArray := BStore.mem_toArray
  sorted_toArray := BStore.sorted_toArray
  length_toArray := BStore.length_toArray
  inv_toArray := BStore.inv_toArray
  contains_eq_test := BStore.contains_eq_test
  arrToBitmap_spec := BStore.arrToBitmap_spec
  orB_spec := fun a b ha hb => (BStore.orB_spec a b ha hb).imp_right fun h x _ => h x
  andB_spec := fun a b ha hb => (BStore.andB_spec a b ha hb).imp_right fun h x _ => h x
  subB_spec := fun a b ha hb => (BStore.subB_spec a b ha hb).imp_right fun h x _ => h x
  xorB_spec := fun a b ha hb => (BStore.xorB_spec a b ha hb).imp_right fun h x _ => h x
  orArr_spec := fun b hb v hv => (BStore.orArr_spec b hb v hv).imp_right fun h x _ => h x
  subArr_spec := fun b hb v hv => (BStore.subArr_spec b hb v hv).imp_right fun h x _ => h x
  xorArr_spec := fun b hb v hv => (BStore.xorArr_spec b hb v hv).imp_right fun h x _ => h x
  isDisjoint_spec := BStore.isDisjoint_spec
  isSubset_spec := BStore.isSubset_spec
  interLenBitmap_spec := BStore.interLenBitmap_spec
  interLenArray_spec := BStore.interLenArray_spec

namespace Store

theorem mem_bitmap (K : BKernel) (b : BStore) (hb : b.Inv) (x : Nat) :
    x ∈ (Store.bitmap b).elems ↔ x < 65536 ∧ b.test x = true := K.mem_toArray b hb x

/-- What a binary store operation has to satisfy for the truth table `P`. -/
def OpSpec (P : Prop → Prop → Prop) (op : Store → Store → Store) : Prop :=
  ∀ s t : Store, s.Inv → t.Inv →
    (op s t).Inv ∧ ∀ x, x ∈ (op s t).elems ↔ P (x ∈ s.elems) (x ∈ t.elems)

def POr (p q : Prop) : Prop := p ∨ q
def PAnd (p q : Prop) : Prop := p ∧ q
def PSub (p q : Prop) : Prop := p ∧ ¬ q
def PXor (p q : Prop) : Prop := (p ∧ ¬ q) ∨ (¬ p ∧ q)

/-- the characteristic function of a store -/
def test : Store → Nat → Bool
  | .array v, x => decide (x ∈ v)
  | .bitmap b, x => b.test x

theorem test_iff (st : Store) (h : st.Inv) (x : Nat) : st.test x = true ↔ x ∈ st.elems := by
  cases st with
  | array v => exact decide_eq_true_iff
  | bitmap b => exact (BStore.test_eq_decide b h x ▸ decide_eq_true_iff : b.test x = true ↔ x ∈ b.toArray)

/-- a binary store operation that applies `g` to the characteristic functions of its operands -/
def BoolSpec (g : Bool → Bool → Bool) (op : Store → Store → Store) : Prop :=
  ∀ s t : Store, s.Inv → t.Inv → (op s t).Inv ∧ ∀ x, (op s t).test x = g (s.test x) (t.test x)

theorem BoolSpec.opSpec {P : Prop → Prop → Prop} {g : Bool → Bool → Bool} {op : Store → Store → Store}
    (hP : ∀ p q : Bool, g p q = true ↔ P (p = true) (q = true)) (h : BoolSpec g op) : OpSpec P op := by
  intro s t hs ht
  obtain ⟨hi, hx⟩ := h s t hs ht
  refine ⟨hi, fun x => ?_⟩
  rw [← test_iff _ hi, ← test_iff _ hs, ← test_iff _ ht, hx, hP]

theorem BoolSpec.of_eq {g : Bool → Bool → Bool} {op op' : Store → Store → Store} (h : BoolSpec g op)
    (he : ∀ s t, s.Inv → t.Inv → op' s t = op s t) : BoolSpec g op' :=
  fun s t hs ht => he s t hs ht ▸ h s t hs ht

/-! The four cells of the kind table.  A bitset against a bitset is `opBitmaps` (`BStore.orB_spec` …); an array folded
    into a bitset is `BStore.orArr_spec` …; array against array is a `merge`; an array filtered by a bitset is a `filter`: -/

theorem arr_merge {f : Bool → Bool → Bool} (hf : f false false = false) {a b m : List Nat} (hm : m = Arr.merge f a b)
    (ha : Arr.Inv a) (hb : Arr.Inv b) :
    (Store.array m).Inv ∧ ∀ x, (Store.array m).test x = f ((Store.array a).test x) ((Store.array b).test x) := by
  subst hm
  refine ⟨Arr.inv_merge f a b ha hb, fun x => ?_⟩
  show decide _ = f (decide _) (decide _)
  rw [Bool.eq_iff_iff, decide_eq_true_eq, Arr.mem_merge f a b ha.1 hb.1]
  by_cases h1 : x ∈ a <;> by_cases h2 : x ∈ b <;> simp [h1, h2, hf]

theorem arr_filter {v : List Nat} (hv : Arr.Inv v) {p q : Nat → Bool} (hp : ∀ x, p x = q x) :
    (Store.array (v.filter p)).Inv ∧ ∀ x, (Store.array (v.filter p)).test x = ((Store.array v).test x && q x) :=
  ⟨Arr.inv_sublist hv List.filter_sublist, fun x => by
    show decide _ = (decide _ && _)
    rw [← hp, Bool.eq_iff_iff, Bool.and_eq_true, decide_eq_true_eq, decide_eq_true_eq, List.mem_filter]⟩

theorem orAssignRef_bool : BoolSpec (· || ·) orAssignRef := by
  intro s t hs ht
  cases s with
  | array a => cases t with
    | array b => exact arr_merge rfl (Arr.or_eq_merge a b) hs ht
    | bitmap b => exact (BStore.orArr_spec b ht a hs.2).imp_right fun h x => (h x).trans (Bool.or_comm _ _)
  | bitmap a => cases t with
    | array v => exact BStore.orArr_spec a hs v ht.2
    | bitmap b => exact BStore.orB_spec a b hs ht

theorem andAssignRef_bool : BoolSpec (· && ·) andAssignRef := by
  intro s t hs ht
  cases s with
  | array a => cases t with
    | array b =>
      -- the shorter operand is the one that is retained
      show (if b.length < a.length then Store.array (Arr.andAssign b a) else .array (Arr.andAssign a b)).Inv ∧ ∀ x,
        (if b.length < a.length then Store.array (Arr.andAssign b a) else .array (Arr.andAssign a b)).test x = _
      split
      · exact (arr_merge rfl ((Arr.andAssign_eq_and b a ht.1).trans (Arr.and_eq_merge b a)) ht hs).imp_right
          fun h x => (h x).trans (Bool.and_comm _ _)
      · exact arr_merge rfl ((Arr.andAssign_eq_and a b hs.1).trans (Arr.and_eq_merge a b)) hs ht
    | bitmap b => exact arr_filter hs (BStore.contains_eq_test b)
  | bitmap a => cases t with
    | array v => exact (arr_filter ht (BStore.contains_eq_test a)).imp_right fun h x => (h x).trans (Bool.and_comm _ _)
    | bitmap b => exact BStore.andB_spec a b hs ht

theorem subAssignRef_bool : BoolSpec (fun p q => p && !q) subAssignRef := by
  intro s t hs ht
  cases s with
  | array a => cases t with
    | array b => exact arr_merge rfl ((Arr.subAssign_eq_sub a b hs.1).trans (Arr.sub_eq_merge a b)) hs ht
    | bitmap b => exact arr_filter hs fun x => congrArg (!·) (BStore.contains_eq_test b x)
  | bitmap a => cases t with
    | array v => exact BStore.subArr_spec a hs v ht.2
    | bitmap b => exact BStore.subB_spec a b hs ht

theorem xorAssignRef_bool : BoolSpec (· != ·) xorAssignRef := by
  intro s t hs ht
  cases s with
  | array a => cases t with
    | array b => exact arr_merge rfl (Arr.xor_eq_merge a b) hs ht
    | bitmap b => exact (BStore.xorArr_spec b ht a hs).imp_right fun h x => (h x).trans bne_comm
  | bitmap a => cases t with
    | array v => exact BStore.xorArr_spec a hs v ht
    | bitmap b => exact BStore.xorB_spec a b hs ht

/-- the by-reference forms differ from the assigning ones only where both operands are arrays: there they run the
    scalar merge, which the `retain` forms with the galloping index compute too -/
theorem andRef_bool : BoolSpec (· && ·) andRef :=
  andAssignRef_bool.of_eq fun s t hs ht => by
    cases s with
    | array a => cases t with
      | array b =>
        show Store.array (Arr.and a b) = if b.length < a.length then .array (Arr.andAssign b a) else .array (Arr.andAssign a b)
        rw [Arr.andAssign_eq_and b a ht.1, Arr.andAssign_eq_and a b hs.1, Arr.and_comm b a ht.1 hs.1, ite_self]
      | bitmap b => rfl
    | bitmap a => cases t <;> rfl

theorem subRef_bool : BoolSpec (fun p q => p && !q) subRef :=
  subAssignRef_bool.of_eq fun s t hs _ => by
    cases s with
    | array a => cases t with
      | array b => exact congrArg Store.array (Arr.subAssign_eq_sub a b hs.1).symm
      | bitmap b => rfl
    | bitmap a => cases t <;> rfl

theorem por_iff (p q : Bool) : (p || q) = true ↔ POr (p = true) (q = true) := Bool.or_eq_true_iff
theorem pand_iff (p q : Bool) : (p && q) = true ↔ PAnd (p = true) (q = true) := Bool.and_eq_true_iff
theorem psub_iff (p q : Bool) : (p && !q) = true ↔ PSub (p = true) (q = true) := by cases p <;> cases q <;> simp [PSub]
theorem pxor_iff (p q : Bool) : (p != q) = true ↔ PXor (p = true) (q = true) := by cases p <;> cases q <;> simp [PXor]

theorem orAssignRef_spec : OpSpec POr orAssignRef := orAssignRef_bool.opSpec por_iff
theorem orAssignOwned_spec : OpSpec POr orAssignOwned :=
  (orAssignRef_bool.of_eq fun s t _ _ => by cases s <;> cases t <;> rfl).opSpec por_iff
theorem orRef_spec : OpSpec POr orRef :=
  (orAssignRef_bool.of_eq fun s t _ _ => by cases s <;> cases t <;> rfl).opSpec por_iff
set_option linter.unusedVariables false in
theorem andAssignRef_spec (K : BKernel) : OpSpec PAnd andAssignRef := andAssignRef_bool.opSpec pand_iff
theorem andAssignOwned_spec : OpSpec PAnd andAssignOwned :=
  (andAssignRef_bool.of_eq fun s t _ _ => by cases s <;> cases t <;> rfl).opSpec pand_iff
theorem andRef_spec : OpSpec PAnd andRef := andRef_bool.opSpec pand_iff
set_option linter.unusedVariables false in
theorem subAssignRef_spec (K : BKernel) : OpSpec PSub subAssignRef := subAssignRef_bool.opSpec psub_iff
theorem subRef_spec : OpSpec PSub subRef := subRef_bool.opSpec psub_iff
theorem xorAssignRef_spec : OpSpec PXor xorAssignRef := xorAssignRef_bool.opSpec pxor_iff
theorem xorAssignOwned_spec : OpSpec PXor xorAssignOwned :=
  (xorAssignRef_bool.of_eq fun s t _ _ => by cases s <;> cases t <;> rfl).opSpec pxor_iff
theorem xorRef_spec : OpSpec PXor xorRef :=
  (xorAssignRef_bool.of_eq fun s t _ _ => by cases s <;> cases t <;> rfl).opSpec pxor_iff

end Store
end Roaring
