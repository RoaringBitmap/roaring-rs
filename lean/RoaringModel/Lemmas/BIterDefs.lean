import RoaringModel.BitmapStore
/-!
# `BitmapIter`: the abstraction `rem` the cursor lemmas (`BIterCore.lean`) are stated with

`rem it` = the values the iterator has still to yield, ascending:
the set bits of the live front word, of the words strictly between `key` and `key_back`, and of the live back
word.  When `key_back ≤ key` the only live word is `value` (bitmap_store.rs:460).
The invariant of the C03 statements, `BIter.Inv`, is in `IterDefs.lean`.
-/
namespace Roaring
namespace BIter
open BStore (word)

/-- the values of the words strictly between word `k` and word `kb` -/
def between (bits : List Nat) (k kb : Nat) : List Nat :=
  (List.range' (k+1) (kb - k - 1)).flatMap (fun j => bitsOf j (word bits j))

/-- remaining values of a `BitmapIter`, ascending -/
def rem (it : BIter) : List Nat :=
  if it.key < it.keyBack then
    bitsOf it.key it.value ++ between it.bits it.key it.keyBack ++ bitsOf it.keyBack it.valueBack
  else bitsOf it.key it.value

end BIter
end Roaring
