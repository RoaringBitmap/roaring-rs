import RoaringModel.SpecLsb0
import RoaringModel.Ser
import RoaringModel.Lemmas.Dir
/-!
# The flat well-formedness predicates of the C17 / C20 family, and `Spec.groups` of the abstraction

`StoreWF` / `BitmapWF` spell out DESIGN §4; `storeWF_iff` / `bitmapWF_iff` prove them equivalent to the shared
`Store.WF` / `Bitmap.WF` of `Inv.lean`, with which the property theorems are stated.

Trap: `CodecWF.lean` declares the same two predicates as `Roaring.StoreWF` / `Roaring.BitmapWF`.  Inside
`namespace Roaring.…` a bare `BitmapWF` means `Roaring.BitmapWF` as soon as that one is imported, whatever is
`open`ed.  `Props/C20.lean` writes the bare name and means the predicate declared here: neither this file nor
anything else `Props/C20.lean` imports may import `CodecWF.lean`.
-/
namespace Roaring.MiscLemmas
open Roaring

def StoreWF : Store → Prop
  | .array v => v.Pairwise (· < ·) ∧ (∀ x ∈ v, x < 65536) ∧ 0 < v.length ∧ v.length ≤ 4096
  | .bitmap b => b.bits.length = 1024 ∧ (∀ w ∈ b.bits, w < W) ∧ b.len = BStore.popSum b.bits ∧ 4096 < b.len

def BitmapWF (b : Bitmap) : Prop :=
  (b.map (·.key)).Pairwise (· < ·) ∧ ∀ c ∈ b, c.key < 65536 ∧ StoreWF c.store

theorem storeWF_iff : ∀ s : Store, StoreWF s ↔ s.WF
  | .array v => (Store.wf_array v).symm
  | .bitmap b => (Store.wf_bitmap b).symm

theorem bitmapWF_iff (b : Bitmap) : BitmapWF b ↔ b.WF := by
  unfold BitmapWF Bitmap.WF Container.WF
  constructor
  · rintro ⟨h1, h2⟩; exact ⟨h1, fun c hc => ⟨(h2 c hc).1, (storeWF_iff _).1 (h2 c hc).2⟩⟩
  · rintro ⟨h1, h2⟩; exact ⟨h1, fun c hc => ⟨(h2 c hc).1, (storeWF_iff _).2 (h2 c hc).2⟩⟩

def isArr : Store → Bool
  | .array _ => true
  | .bitmap _ => false

/-- the kind of a well-formed store is decided by its cardinality: the Roaring space rule -/
theorem store_kind (s : Store) (h : StoreWF s) : isArr s = decide (s.len ≤ 4096) := by
  cases s with
  | array v => have := h.2.2.2; simp [isArr, Store.len, this]
  | bitmap b => have := h.2.2.2; simp [isArr, Store.len]; exact decide_eq_false (by omega)

theorem container_elems_ne_nil (c : Container) (h : c.store.WF) : c.elems ≠ [] :=
  mt List.map_eq_nil_iff.1 (Store.wf_elems_ne _ h)

theorem foldl_add {α} (f : α → Nat) (l : List α) (acc : Nat) :
    l.foldl (fun acc c => acc + f c) acc = acc + Spec.sum (l.map f) := by
  induction l generalizing acc with
  | nil => simp [Spec.sum]
  | cons c cs ih =>
    simp only [List.foldl_cons, List.map_cons]; rw [ih]; simp [Spec.sum]; omega

theorem len_eq_sum (l : List Container) : Bitmap.len l = Spec.sum (l.map Container.len) := by
  unfold Bitmap.len; rw [foldl_add]; omega

/-! ## `Spec.groups` of the abstraction -/

theorem groupStep_head (x : Nat) (g : List (Nat × Nat)) : ∃ n rest, Spec.groupStep x g = (x / 65536, n) :: rest := by
  unfold Spec.groupStep
  split
  · rename_i k n rest
    by_cases hk : k = x / 65536
    · subst hk; exact ⟨n + 1, rest, by simp⟩
    · exact ⟨1, (k, n) :: rest, by simp [hk]⟩
  · exact ⟨1, [], rfl⟩

theorem groups_cons (x : Nat) (xs : List Nat) : Spec.groups (x :: xs) = Spec.groupStep x (Spec.groups xs) := by
  simp [Spec.groups]

theorem groups_head (y : Nat) (ys : List Nat) : ∃ n rest, Spec.groups (y :: ys) = (y / 65536, n) :: rest := by
  rw [groups_cons]; exact groupStep_head y _

/-- a non-empty block of values with the same prefix `k`, followed by values whose first has another prefix,
    is one group -/
theorem groups_append_block (k : Nat) : ∀ (xs ys : List Nat), xs ≠ [] → (∀ x ∈ xs, x / 65536 = k) →
    (∀ y ∈ ys, y / 65536 ≠ k) → Spec.groups (xs ++ ys) = (k, xs.length) :: Spec.groups ys := by
  intro xs
  induction xs with
  | nil => intro ys h; contradiction
  | cons x xs ih =>
    intro ys _ hk hy
    have hx : x / 65536 = k := hk x (by simp)
    rw [List.cons_append, groups_cons]
    cases xs with
    | nil =>
      simp only [List.nil_append, List.length_cons, List.length_nil]
      cases ys with
      | nil => simp [Spec.groups, Spec.groupStep, hx]
      | cons y ys' =>
        obtain ⟨n, rest, hg⟩ := groups_head y ys'
        have hne : y / 65536 ≠ k := hy y (by simp)
        rw [hg]; simp only [Spec.groupStep, hx]
        rw [if_neg hne]
    | cons x' xs' =>
      rw [ih ys (by simp) (fun z hz => hk z (by simp [hz])) hy]
      simp [Spec.groupStep, hx]

theorem groups_elems (b : Bitmap) (h : b.WF) :
    Spec.groups (Bitmap.elems b) = b.map (fun c => (c.key, c.len)) := by
  induction b with
  | nil => simp [Bitmap.elems, Spec.groups]
  | cons c cs ih =>
    have hc := h.dir.inv List.mem_cons_self
    rw [Bitmap.elems_cons, groups_append_block c.key c.elems _ (container_elems_ne_nil c (h.2 c List.mem_cons_self).2)
      (fun x hx => ((Bitmap.mem_cElems c hc x).1 hx).1)
      (fun y hy => by have := Bitmap.elems_tail_bounds h.dir y hy; omega), ih h.tail, ← Bitmap.cLen_eq' c hc]
    rfl

end Roaring.MiscLemmas
