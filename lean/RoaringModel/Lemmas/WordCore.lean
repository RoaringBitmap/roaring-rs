import RoaringModel.Word
import RoaringModel.Lemmas.Radix
/-!
# Word-level lemmas: `tz`, `popLow`, `hiBit`, `popHigh`, masks, `bitPos`/`bitsOf`, `popcount`, `drainWord`

All statements are about the definitions of `RoaringModel/Word.lean`.  Words are `Nat`s; the hypotheses
`w < 2^64` are stated where they are needed.  Every word is handled through `Nat.testBit`: a definition gets
its `testBit` characterisation once, and the list-level facts (`bitPos`, `bitsOf`, `drainWord`) follow from
those by `sorted_ext`.
-/
namespace Roaring

theorem wMax_eq : wMax = 2^64 - 1 := by decide
theorem W_eq : W = 2^64 := by decide
theorem wMax_lt : wMax < 2^64 := by decide

/-- `protected`: several namespaces further up have a `sorted_ext` of their own in scope through `open`,
    which an unqualified `Roaring.sorted_ext` would shadow. -/
protected theorem sorted_ext (l r : List Nat) (hl : l.Pairwise (· < ·)) (hr : r.Pairwise (· < ·))
    (h : ∀ x, x ∈ l ↔ x ∈ r) : l = r :=
  List.Perm.eq_of_pairwise (fun _ _ _ _ hab hba => absurd hab (Nat.lt_asymm hba)) hl hr
    ((List.perm_ext_iff_of_nodup (hl.imp Nat.ne_of_lt) (hr.imp Nat.ne_of_lt)).2 h)

theorem testBit_ge64 {w i : Nat} (h : w < 2^64) (hi : 64 ≤ i) : w.testBit i = false :=
  Nat.testBit_lt_two_pow (Nat.lt_of_lt_of_le h (Nat.pow_le_pow_right Nat.zero_lt_two hi))

theorem word_ext {a b : Nat} (ha : a < 2^64) (hb : b < 2^64)
    (h : ∀ i, i < 64 → a.testBit i = b.testBit i) : a = b := by
  apply Nat.eq_of_testBit_eq
  intro i
  by_cases hi : i < 64
  · exact h i hi
  · rw [testBit_ge64 ha (Nat.le_of_not_lt hi), testBit_ge64 hb (Nat.le_of_not_lt hi)]

theorem word_ext_iff {a b : Nat} (ha : a < 2^64) (hb : b < 2^64) :
    a = b ↔ ∀ i, i < 64 → a.testBit i = b.testBit i :=
  ⟨fun h _ _ => h ▸ rfl, word_ext ha hb⟩

theorem wMax_testBit (i : Nat) : wMax.testBit i = decide (i < 64) := by
  rw [wMax_eq, Nat.testBit_two_pow_sub_one]

theorem not64_testBit (w i : Nat) : (not64 w).testBit i = (decide (i < 64) ^^ w.testBit i) := by
  unfold not64; rw [Nat.testBit_xor, wMax_testBit]

theorem not64_lt {w : Nat} (h : w < 2^64) : not64 w < 2^64 :=
  Nat.xor_lt_two_pow wMax_lt h

theorem and_lt (w m : Nat) (h : w < 2^64) : w &&& m < 2^64 :=
  Nat.lt_of_le_of_lt Nat.and_le_left h

theorem mem_bitPos (w i : Nat) : i ∈ bitPos w ↔ i < 64 ∧ w.testBit i = true := by
  simp [bitPos, List.mem_filter, List.mem_range]

theorem sorted_bitPos (w : Nat) : (bitPos w).Pairwise (· < ·) :=
  List.Pairwise.sublist List.filter_sublist List.pairwise_lt_range

theorem bitPos_zero : bitPos 0 = [] := by simp [bitPos]

theorem bitPos_and (w m : Nat) : bitPos (w &&& m) = (bitPos w).filter (fun i => m.testBit i) := by
  simp [bitPos, List.filter_filter, Nat.testBit_and, Bool.and_comm]

theorem length_bitPos_le (w : Nat) : (bitPos w).length ≤ 64 := by
  simpa [bitPos] using List.length_filter_le (fun i => w.testBit i) (List.range 64)

theorem pred_of_odd {w : Nat} (h : w % 2 = 1) : (w - 1) % 2 = 0 ∧ (w - 1) / 2 = w / 2 := by
  have e : w - 1 = 2 * (w / 2) := Nat.sub_eq_of_eq_add (h ▸ Nat.div_add_mod w 2).symm
  rw [e, Nat.mul_mod_right, Nat.mul_div_cancel_left _ (by decide : 0 < 2)]
  exact ⟨rfl, rfl⟩

theorem pred_of_even {w : Nat} (h0 : w ≠ 0) (h : w % 2 = 0) :
    (w - 1) % 2 = 1 ∧ (w - 1) / 2 = w / 2 - 1 ∧ w / 2 ≠ 0 := by
  have hw : 2 * (w / 2) + 0 = w := h ▸ Nat.div_add_mod w 2
  have h3 : w / 2 ≠ 0 := fun hz => h0 (by rw [← hw, hz])
  obtain ⟨m, hm⟩ := Nat.exists_eq_succ_of_ne_zero h3
  have e : w - 1 = 2 * m + 1 := by rw [← hw, hm]; rfl
  rw [e, hm, Nat.mul_add_mod, Nat.mul_add_div (by decide : 0 < 2)]
  exact ⟨rfl, rfl, Nat.succ_ne_zero m⟩

theorem tz_testBit (w : Nat) (h : w ≠ 0) :
    w.testBit (tz w) = true ∧ ∀ i, i < tz w → w.testBit i = false := by
  induction w using Nat.strongRecOn with
  | _ w ih =>
    by_cases hodd : w % 2 = 1
    · rw [tz_odd w hodd]
      exact ⟨by simp [Nat.testBit_zero, hodd], fun i hi => absurd hi (Nat.not_lt_zero i)⟩
    · have hev : w % 2 = 0 := (Nat.mod_two_eq_zero_or_one w).resolve_right hodd
      have ⟨h1, h2⟩ := ih (w / 2) (Nat.div_lt_self (Nat.pos_of_ne_zero h) (by decide)) (pred_of_even h hev).2.2
      rw [tz_even w h hev]
      refine ⟨by rwa [Nat.testBit_succ], fun i hi => ?_⟩
      cases i with
      | zero => rw [Nat.testBit_zero, decide_eq_false hodd]
      | succ j => rw [Nat.testBit_succ]; exact h2 j (Nat.lt_of_succ_lt_succ hi)

/-- `w & (w - 1)` clears exactly bit `tz w`, by induction along the recursion of `tz`: below an odd `w` sits
    `w - 1 = 2 * (w / 2)`; below an even one `w - 1` is odd with `(w - 1) / 2 = w / 2 - 1`, which is the same
    situation one bit up. -/
theorem popLow_testBit (w : Nat) (h : w ≠ 0) (i : Nat) :
    (popLow w).testBit i = (w.testBit i && decide (i ≠ tz w)) := by
  unfold popLow
  rw [Nat.testBit_and]
  induction w using Nat.strongRecOn generalizing i with
  | _ w ih =>
    by_cases hodd : w % 2 = 1
    · obtain ⟨h1, h2⟩ := pred_of_odd hodd
      rw [tz_odd w hodd]
      cases i with
      | zero => rw [Nat.testBit_zero, Nat.testBit_zero, h1]; simp
      | succ j => rw [Nat.testBit_succ, Nat.testBit_succ, h2]; simp
    · have hev : w % 2 = 0 := (Nat.mod_two_eq_zero_or_one w).resolve_right hodd
      obtain ⟨h1, h2, h3⟩ := pred_of_even h hev
      rw [tz_even w h hev]
      cases i with
      | zero => rw [Nat.testBit_zero, Nat.testBit_zero, hev]; rfl
      | succ j =>
        rw [Nat.testBit_succ, Nat.testBit_succ, h2,
          ih (w / 2) (Nat.div_lt_self (Nat.pos_of_ne_zero h) (by decide)) h3 j]
        simp

theorem tz_lt (w : Nat) (h : w ≠ 0) (hlt : w < 2^64) : tz w < 64 := by
  have h1 := (tz_testBit w h).1
  by_cases hc : tz w < 64
  · exact hc
  · rw [testBit_ge64 hlt (Nat.le_of_not_lt hc)] at h1
    contradiction

theorem popLow_lt (w : Nat) (h : w < 2^64) : popLow w < 2^64 := and_lt w _ h

theorem popLow_lt_self (w : Nat) (hw : w ≠ 0) : popLow w < w := by
  unfold popLow
  exact Nat.lt_of_le_of_lt Nat.and_le_right (Nat.sub_one_lt hw)

theorem bitPos_step (w : Nat) (hw : w ≠ 0) (hlt : w < 2^64) :
    bitPos w = tz w :: bitPos (popLow w) := by
  apply Roaring.sorted_ext _ _ (sorted_bitPos w)
  · simp only [List.pairwise_cons]
    refine ⟨?_, sorted_bitPos _⟩
    intro i hi
    rw [mem_bitPos, popLow_testBit w hw] at hi
    simp at hi
    have := (tz_testBit w hw).2 i
    by_cases hc : i < tz w
    · have := this hc; simp [this] at hi
    · omega
  · intro i
    simp only [List.mem_cons, mem_bitPos, popLow_testBit w hw]
    constructor
    · intro ⟨h1, h2⟩
      by_cases hc : i = tz w
      · left; exact hc
      · right; simp [h1, h2, hc]
    · intro h
      rcases h with h | h
      · subst h; exact ⟨tz_lt w hw hlt, (tz_testBit w hw).1⟩
      · simp at h; exact ⟨h.1, h.2.1⟩

theorem hiBit_testBit (w : Nat) (h : w ≠ 0) :
    w.testBit (hiBit w) = true ∧ ∀ i, hiBit w < i → w.testBit i = false := by
  unfold hiBit
  refine ⟨Nat.testBit_log2 h, fun i hi => Nat.testBit_lt_two_pow ?_⟩
  exact Nat.lt_of_lt_of_le Nat.lt_log2_self (Nat.pow_le_pow_right Nat.zero_lt_two hi)

theorem hiBit_lt (w : Nat) (h : w ≠ 0) (hlt : w < 2^64) : hiBit w < 64 := by
  unfold hiBit
  rw [Nat.log2_lt h]; exact hlt

theorem popHigh_testBit (w : Nat) (i : Nat) (hi : i < 64) :
    (popHigh w).testBit i = (w.testBit i && decide (i ≠ hiBit w)) := by
  unfold popHigh
  rw [Nat.testBit_and, not64_testBit, Nat.one_shiftLeft, Nat.testBit_two_pow]
  by_cases hc : hiBit w = i
  · simp [hi, hc]
  · have hc' : ¬ i = hiBit w := fun h => hc h.symm
    simp [hi, hc, hc']

theorem bitPos_step_back (w : Nat) (hw : w ≠ 0) (hlt : w < 2^64) :
    bitPos w = bitPos (popHigh w) ++ [hiBit w] := by
  apply Roaring.sorted_ext _ _ (sorted_bitPos w)
  · rw [List.pairwise_append]
    refine ⟨sorted_bitPos _, by simp, ?_⟩
    intro a ha b hb
    simp at hb; subst hb
    rw [mem_bitPos] at ha
    rw [popHigh_testBit w a ha.1] at ha
    simp at ha
    have := (hiBit_testBit w hw).2 a
    by_cases hc : hiBit w < a
    · have := this hc; simp [this] at ha
    · omega
  · intro i
    simp only [List.mem_append, List.mem_singleton, mem_bitPos]
    constructor
    · intro ⟨h1, h2⟩
      by_cases hc : i = hiBit w
      · right; exact hc
      · left; refine ⟨h1, ?_⟩; rw [popHigh_testBit w i h1]; simp [h2, hc]
    · intro h
      rcases h with ⟨h1, h2⟩ | h
      · rw [popHigh_testBit w i h1] at h2; simp at h2; exact ⟨h1, h2.1⟩
      · subst h; exact ⟨hiBit_lt w hw hlt, (hiBit_testBit w hw).1⟩

theorem popHigh_lt (w : Nat) (h : w < 2^64) : popHigh w < 2^64 := and_lt w _ h

theorem pos_div {i : Nat} (k : Nat) (hi : i < 64) : (64 * k + i) / 64 = k :=
  Nat.mul_comm k 64 ▸ Radix.mul_add_div k hi

theorem pos_mod {i : Nat} (k : Nat) (hi : i < 64) : (64 * k + i) % 64 = i :=
  Nat.mul_comm k 64 ▸ Radix.mul_add_mod k hi

theorem pos_le_iff {i : Nat} (k : Nat) (hi : i < 64) (v : Nat) :
    64 * k + i ≤ v ↔ k < v / 64 ∨ k = v / 64 ∧ i ≤ v % 64 :=
  Nat.mul_comm k 64 ▸ Radix.mul_add_le_iff k hi v

theorem le_pos_iff {i : Nat} (v k : Nat) (hi : i < 64) :
    v ≤ 64 * k + i ↔ v / 64 < k ∨ v / 64 = k ∧ v % 64 ≤ i :=
  Nat.mul_comm k 64 ▸ Radix.le_mul_add_iff v k hi

theorem bitsOf_zero (k : Nat) : bitsOf k 0 = [] := by simp [bitsOf, bitPos_zero]

theorem bitsOf_step (k w : Nat) (hw : w ≠ 0) (hlt : w < 2^64) :
    bitsOf k w = (64*k + tz w) :: bitsOf k (popLow w) := by
  simp [bitsOf, bitPos_step w hw hlt]

theorem bitsOf_step_back (k w : Nat) (hw : w ≠ 0) (hlt : w < 2^64) :
    bitsOf k w = bitsOf k (popHigh w) ++ [64*k + hiBit w] := by
  simp [bitsOf, bitPos_step_back w hw hlt]

theorem mem_map_bitPos (base w x : Nat) :
    x ∈ (bitPos w).map (fun i => base + i) ↔ ∃ i, i < 64 ∧ w.testBit i = true ∧ x = base + i := by
  simp only [List.mem_map, mem_bitPos]
  constructor
  · rintro ⟨i, ⟨h1, h2⟩, rfl⟩; exact ⟨i, h1, h2, rfl⟩
  · rintro ⟨i, h1, h2, rfl⟩; exact ⟨i, ⟨h1, h2⟩, rfl⟩

theorem mem_bitsOf (k w x : Nat) :
    x ∈ bitsOf k w ↔ ∃ i, i < 64 ∧ w.testBit i = true ∧ x = 64*k + i :=
  mem_map_bitPos (64*k) w x

theorem bitsOf_bounds (k w x : Nat) (h : x ∈ bitsOf k w) : 64*k ≤ x ∧ x < 64*k + 64 := by
  rw [mem_bitsOf] at h
  obtain ⟨i, h1, _, rfl⟩ := h
  exact ⟨Nat.le_add_right _ _, Nat.add_lt_add_left h1 _⟩

theorem sorted_bitsOf (k w : Nat) : (bitsOf k w).Pairwise (· < ·) := by
  unfold bitsOf
  rw [List.pairwise_map]
  exact List.Pairwise.imp (fun h => Nat.add_lt_add_left h _) (sorted_bitPos w)

/-! ### masks

`maskGE s` is bits `s..=63` and `maskLE e` is bits `0..=e`; the three shifted forms of `u64::MAX` that
`bitmap_store.rs` also uses are equal to these. -/

theorem maskGE_testBit {s : Nat} (hs : s < 64) (i : Nat) :
    (maskGE s).testBit i = (decide (s ≤ i) && decide (i < 64)) := by
  unfold maskGE
  rw [not64_testBit, Nat.one_shiftLeft, Nat.testBit_two_pow_sub_one]
  by_cases h : i < s <;> by_cases hi : i < 64 <;> simp [h, hi] <;> omega

theorem maskLE_eq (e : Nat) : maskLE e = 2^(e + 1) - 1 := by
  unfold maskLE
  split
  · next h => rw [h]; exact wMax_eq
  · rw [Nat.one_shiftLeft]

theorem maskLE_testBit (e i : Nat) : (maskLE e).testBit i = decide (i ≤ e) := by
  rw [maskLE_eq, Nat.testBit_two_pow_sub_one]
  exact decide_eq_decide.2 Nat.lt_succ_iff

theorem maskGE_lt {s : Nat} (hs : s < 64) : maskGE s < 2^64 := by
  have := Nat.pow_le_pow_right Nat.zero_lt_two (Nat.le_of_lt hs)
  exact not64_lt (by rw [Nat.one_shiftLeft]; omega)

theorem maskLE_lt {e : Nat} (he : e < 64) : maskLE e < 2^64 := by
  have := Nat.pow_le_pow_right Nat.zero_lt_two (Nat.succ_le_of_lt he)
  rw [maskLE_eq]; omega

theorem shlMax_eq {s : Nat} (hs : s < 64) : shlMax s = maskGE s := by
  refine word_ext (W_eq ▸ Nat.mod_lt _ (by decide)) (maskGE_lt hs) fun i hi => ?_
  unfold shlMax
  rw [W_eq, Nat.testBit_mod_two_pow, Nat.testBit_shiftLeft, wMax_testBit, maskGE_testBit hs]
  by_cases h : s ≤ i <;> simp [h, hi] <;> omega

theorem shrMax_eq {e : Nat} (he : e < 64) : shrMax e = maskLE e := by
  apply Nat.eq_of_testBit_eq
  intro i
  unfold shrMax
  rw [Nat.testBit_shiftRight, wMax_testBit, maskLE_testBit]
  exact decide_eq_decide.2 (by omega)

theorem shrMax'_eq {e : Nat} (he : e < 64) : shrMax' e = maskLE e := by
  rw [← shrMax_eq he]
  unfold shrMax shrMax'
  rw [Nat.succ_sub_succ]

/-- masking a word is filtering its values, when the mask says bit by bit what the predicate says value by value -/
theorem bitsOf_and (k w m : Nat) (p : Nat → Bool) (hm : ∀ i, i < 64 → m.testBit i = p (64 * k + i)) :
    bitsOf k (w &&& m) = (bitsOf k w).filter p := by
  unfold bitsOf
  rw [bitPos_and, List.filter_map]
  exact congrArg _ (List.filter_congr fun i hi => hm i ((mem_bitPos w i).1 hi).1)

theorem bitsOf_maskGE (k w b : Nat) (hb : b < 64) :
    bitsOf k (w &&& not64 ((1 <<< b) - 1)) = (bitsOf k w).filter (fun x => decide (64*k + b ≤ x)) :=
  bitsOf_and k w _ _ fun i hi => by
    rw [← maskGE, maskGE_testBit hb, decide_eq_true hi, Bool.and_true]
    exact decide_eq_decide.2 Nat.add_le_add_iff_left.symm

theorem bitsOf_maskLE (k w b : Nat) (hb : b < 64) :
    bitsOf k (w &&& shrMax' b) = (bitsOf k w).filter (fun x => decide (x ≤ 64*k + b)) :=
  bitsOf_and k w _ _ fun i _ => by
    rw [shrMax'_eq hb, maskLE_testBit]
    exact decide_eq_decide.2 Nat.add_le_add_iff_left.symm

theorem popcount_eq_length_filter_range (n : Nat) :
    ∀ w, w < 2^n → popcount w = ((List.range n).filter (fun i => w.testBit i)).length := by
  induction n with
  | zero => intro w h; rw [Nat.lt_one_iff.1 h]; simp [popcount_zero]
  | succ n ih =>
    intro w h
    rw [popcount_step, ih (w/2) (Nat.div_lt_of_lt_mul (Nat.pow_succ' ▸ h))]
    rw [List.range_succ_eq_map, List.filter_cons, List.filter_map]
    have e : ((fun i => w.testBit i) ∘ Nat.succ) = (fun i => (w/2).testBit i) := by
      funext i; simp [Function.comp, Nat.testBit_succ]
    rw [e, Nat.testBit_zero]
    by_cases hodd : w % 2 = 1
    · rw [decide_eq_true hodd, if_pos rfl, List.length_cons, List.length_map, hodd, Nat.add_comm]
    · rw [decide_eq_false hodd, if_neg Bool.false_ne_true, List.length_map,
        (Nat.mod_two_eq_zero_or_one w).resolve_right hodd, Nat.zero_add]

theorem popcount_eq_length_bitPos (w : Nat) (h : w < 2^64) : popcount w = (bitPos w).length :=
  popcount_eq_length_filter_range 64 w h

theorem length_bitsOf (k w : Nat) (h : w < 2^64) : (bitsOf k w).length = popcount w := by
  rw [popcount_eq_length_bitPos w h]; simp [bitsOf]

theorem popcount_two_mul (x : Nat) : popcount (2 * x) = popcount x := by
  rw [popcount_step (2 * x), Nat.mul_mod_right, Nat.mul_div_cancel_left x (by decide), Nat.zero_add]

theorem popcount_mul_two_pow (x c : Nat) : popcount (x * 2^c) = popcount x := by
  induction c with
  | zero => simp
  | succ c ih =>
    have : x * 2^(c+1) = 2 * (x * 2^c) := by rw [Nat.pow_succ]; ac_rfl
    rw [this, popcount_two_mul, ih]

/-- the `while word != 0 { push(tz); word &= word - 1 }` loop, any sufficient fuel -/
theorem drainWord_eq_map_bitPos (base : Nat) :
    ∀ (fuel w : Nat), w < 2^64 → (bitPos w).length ≤ fuel →
      drainWord base fuel w = (bitPos w).map (fun i => base + i) := by
  intro fuel
  induction fuel with
  | zero =>
    intro w _ hl
    have : bitPos w = [] := List.eq_nil_of_length_eq_zero (Nat.le_zero.1 hl)
    simp [drainWord, this]
  | succ fuel ih =>
    intro w hw hl
    unfold drainWord
    by_cases h0 : w = 0
    · subst h0; simp [bitPos_zero]
    · simp only [h0, ↓reduceIte]
      have hs := bitPos_step w h0 hw
      rw [hs] at hl ⊢
      simp only [List.length_cons] at hl
      rw [ih (popLow w) (popLow_lt w hw) (Nat.le_of_succ_le_succ hl)]
      simp

theorem drainWord_eq (base w : Nat) (h : w < 2^64) :
    drainWord base 64 w = (bitPos w).map (fun i => base + i) :=
  drainWord_eq_map_bitPos base 64 w h (length_bitPos_le w)

theorem drainWord_eq_bitsOf (k w : Nat) (h : w < 2^64) : drainWord (64 * k) 64 w = bitsOf k w :=
  drainWord_eq (64*k) w h

end Roaring

#print axioms Roaring.sorted_ext
#print axioms Roaring.bitPos_step
#print axioms Roaring.bitPos_step_back
#print axioms Roaring.bitsOf_maskGE
#print axioms Roaring.bitsOf_maskLE
#print axioms Roaring.popcount_eq_length_bitPos
#print axioms Roaring.length_bitsOf
#print axioms Roaring.sorted_bitsOf
#print axioms Roaring.drainWord_eq_bitsOf
