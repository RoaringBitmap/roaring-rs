import RoaringModel.Lemmas.BitmapOps
/-!
# The insert-or-merge loop (`a |= b`, `a |= &b`, ops.rs:156-185; `merge_container_owned/ref`, multiops.rs:272, 388), chunk by chunk

`for container in rhs { binary_search_by_key … insert / combine in place }` is `rhs.foldl (orStep g) acc`.  One step
changes the chunk under the key of its argument and nothing else (`orStep_view`, from `search_spec`), so the loop combines
the two directories chunk by chunk (`foldl_view`), hence on the element lists (`View.op`): `foldl_orStep_spec`, for any
combination `g` of two chunks of equal key (`BlockOp`) and any directory invariant of the form `DirQ Q`
(`Lemmas/Dir.lean`).
-/
namespace Roaring
open Treemap.TA (SetOp)
namespace Bitmap

/-- what the arm `g` for two chunks of equal key has to do, for stores satisfying `Q`: keep the key and `Q`, combine the
    values by `sop` -/
def BlockOp (Q : Store → Prop) (sop : List Nat → List Nat → List Nat) (g : Container → Container → Container) : Prop :=
  ∀ c r : Container, Q c.store → Q r.store → c.key = r.key →
    (g c r).key = c.key ∧ Q (g c r).store ∧ (g c r).store.elems = sop c.store.elems r.store.elems

/-- what `binary_search_by_key` followed by `insert` at the insertion point or `g` in place leaves behind -/
theorem orStep_split (g : Container → Container → Container) (cs : Bitmap) (r : Container)
    (hs : (cs.map Container.key).Pairwise (· < ·)) :
    ∃ pre post, cs = pre ++ post ∧ (∀ c ∈ pre, c.key < r.key) ∧
      ((∃ c rest, post = c :: rest ∧ c.key = r.key ∧ (∀ d ∈ rest, r.key < d.key) ∧
          orStep g cs r = pre ++ g c r :: rest) ∨
       ((∀ d ∈ post, r.key < d.key) ∧ orStep g cs r = pre ++ r :: post)) := by
  obtain ⟨pre, post, rfl, hpre, ⟨c, rest, rfl, hk, hr, hsr⟩ | ⟨hpost, hsr⟩⟩ := search_spec cs r.key hs
  · refine ⟨pre, _, rfl, hpre, .inl ⟨c, rest, rfl, hk, hr, ?_⟩⟩
    unfold orStep
    rw [hsr]
    simp
  · refine ⟨pre, post, rfl, hpre, .inr ⟨hpost, ?_⟩⟩
    unfold orStep
    rw [hsr]
    simp

/-- one step, chunk by chunk: the chunk of `r.key` becomes `sop` of what was there and `r`; nothing else changes -/
theorem orStep_view {Q : Store → Prop} {sop : List Nat → List Nat → List Nat} {g : Container → Container → Container}
    (hg : BlockOp Q sop g) (hnil : ∀ l, sop [] l = l) {r : Container} (hr : r.key < 65536 ∧ Q r.store) {cs : Bitmap}
    (h : DirQ Q cs) :
    DirQ Q (orStep g cs r) ∧
    ∀ k, chunk (orStep g cs r) k = if k = r.key then sop (chunk cs r.key) r.store.elems else chunk cs k := by
  obtain ⟨pre, post, rfl, hpre, ⟨c, rest, rfl, hk, hrest, e⟩ | ⟨hpost, e⟩⟩ := orStep_split g cs r h.1
  · have hne : ∀ d ∈ pre, d.key ≠ r.key := fun d hd => Nat.ne_of_lt (hpre d hd)
    have hc := h.2 c (List.mem_append_right _ List.mem_cons_self)
    obtain ⟨g1, g2, g3⟩ := hg c r hc.2 hr.2 hk
    have hgk : (g c r).key = r.key := g1.trans hk
    rw [e]
    refine ⟨(h.sublist (List.Sublist.append_left (List.sublist_cons_self ..) _)).insert (hgk ▸ hpre) (hgk ▸ hrest)
      ⟨g1 ▸ hc.1, g2⟩, fun k => ?_⟩
    by_cases hkk : k = r.key
    · rw [if_pos hkk, hkk, chunk_append_of_ne hne, chunk_append_of_ne hne, chunk_cons_eq _ _ _ hgk,
        chunk_cons_eq _ _ _ hk, g3]
    · rw [if_neg hkk, chunk_append_cons_ne (fun e => hkk (e.symm.trans hgk)),
        chunk_append_cons_ne (fun e => hkk (e.symm.trans hk))]
  · rw [e]
    refine ⟨h.insert hpre hpost hr, fun k => ?_⟩
    by_cases hkk : k = r.key
    · rw [if_pos hkk, hkk, chunk_append_of_ne fun d hd => Nat.ne_of_lt (hpre d hd), chunk_cons_eq _ _ _ rfl,
        chunk_nil_of_ne fun d hd => (List.mem_append.mp hd).elim (fun h' => Nat.ne_of_lt (hpre d h'))
          (fun h' => Nat.ne_of_gt (hpost d h')), hnil]
    · rw [if_neg hkk, chunk_append_cons_ne (Ne.symm hkk)]

/-- **the insert-or-merge loop computes `sop` chunk by chunk**, hence on the element lists; `sop` has the empty set as
    unit on both sides -/
theorem foldl_orStep_spec {Q : Store → Prop} (hQ : ∀ s, Q s → s.Inv) {sop : List Nat → List Nat → List Nat}
    {φ : Prop → Prop → Prop} (S : SetOp sop φ) (hnilL : ∀ l, sop [] l = l) (hnilR : ∀ l, sop l [] = l)
    {g : Container → Container → Container} (hg : BlockOp Q sop g) {cs rhs : Bitmap} (hcs : DirQ Q cs)
    (hrhs : DirQ Q rhs) :
    DirQ Q (rhs.foldl (orStep g) cs) ∧ elems (rhs.foldl (orStep g) cs) = sop (elems cs) (elems rhs) := by
  obtain ⟨h1, h2, h3⟩ := foldl_view (I := DirQ Q) (view := chunk) (key := Container.key)
    (fun r l => sop l r.store.elems) (orStep g) rhs hrhs.1 cs hcs fun acc r hr hacc _ =>
      orStep_view hg hnilL (hrhs.2 r hr) hacc
  refine ⟨h1, View.op S (hcs.view hQ) (hrhs.view hQ) (h1.view hQ) fun k => ?_⟩
  by_cases hm : k ∈ rhs.map Container.key
  · obtain ⟨r, hr, rfl⟩ := List.mem_map.mp hm
    rw [h2 r hr, hrhs.chunk_of_mem hr]
  · rw [h3 k hm, chunk_nil_of_ne fun d hd e => hm (List.mem_map.mpr ⟨d, hd, e⟩), hnilR]

/-! ### `a |= b`, `a |= &b` -/

/-- `|` of two non-empty chunks is a non-empty chunk -/
theorem blockOp_or {f : Container → Container → Container} {op : Store → Store → Store} (hf : IsOp f op)
    (hop : Store.OpSpec Store.POr op) : BlockOp Store.WF Spec.sOr f := fun c r hc hr _ =>
  have ⟨h1, h2, h3⟩ := isOp_spec oper_or.toSetOp hf hop c r (Store.wf_inv _ hc) (Store.wf_inv _ hr)
  ⟨h1, Store.wf_of_canon _ h2 (h3 ▸ Spec.sOr_ne_nil (Store.wf_elems_ne _ hr)), h3⟩

theorem orLoop_exact {f : Container → Container → Container} {op : Store → Store → Store} (hf : IsOp f op)
    (hop : Store.OpSpec Store.POr op) (a b : Bitmap) (ha : a.WF) (hb : b.WF) :
    (b.foldl (orStep f) a).WF ∧ elems (b.foldl (orStep f) a) = Spec.sOr (elems a) (elems b) :=
  foldl_orStep_spec Store.wf_inv oper_or.toSetOp Spec.sOr_nil_left Spec.sOr_nil_right (blockOp_or hf hop) ha hb

/-- `a |= &b` (ops.rs:174) -/
theorem orAR_exact : C02.Exact orAR Spec.sOr :=
  orLoop_exact (fun _ _ => rfl) Store.orAssignRef_spec

/-- `a |= b` (ops.rs:156): whichever way the `len()`-based operand swap goes -/
theorem orAO_exact : C02.Exact orAO Spec.sOr := by
  intro a b ha hb
  have h := orLoop_exact (f := Container.orAssignOwned) (fun _ _ => rfl) Store.orAssignOwned_spec
  unfold orAO
  split
  · exact exact_swap Spec.sOr_comm h a b ha hb
  · exact h a b ha hb

end Bitmap
end Roaring
