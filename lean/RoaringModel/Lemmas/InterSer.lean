import RoaringModel.SerOps
import RoaringModel.Lemmas.Parser
/-!
# `intersection_with_serialized_unchecked`: properties every combinator preserves

`CursorClosed ok P`: a property of cursor parsers that `pure`, admissible `fail`s, `>>=` and the cursor's three
operations have holds of the whole call.  Instances: no panic in release builds (`np_interSerG`), and truncation
(C18_trunc): with `Trunc p`, run on a cursor whose data is cut after `k` bytes `p` fails with `UnexpectedEof` or
does exactly what it does on the full data — in both build configurations, for every left operand and every
byte string (`interSer_trunc`).  `sim_cursor`: the cursor as a slice reader.
-/
namespace Roaring
open Parser

/-- `interReadStore` over an arbitrary reader -/
def readStoreG {σ : Type} (R : Nat → Parser σ (List Nat)) (dbg : Bool) (card : Nat) (isRun : Bool) : Parser σ Store :=
  if isRun then decodeRunStore R
  else if card ≤ ARRAY_LIMIT then decodeArrayStore R false dbg card
  else decodeBitmapStore R false dbg card

theorem interReadStore_eq (dbg : Bool) (card : Nat) (isRun : Bool) :
    interReadStore dbg card isRun = readStoreG Cursor.readExact dbg card isRun := rfl

theorem Parser.same_readStoreG {σ' σ : Type} {R' : Nat → Parser σ' (List Nat)} {R : Nat → Parser σ (List Nat)}
    {ok : DecErr → Prop} (hok : ∀ e, e ≠ .panic → ok e) (dbg : Bool) (hp : dbg = true → ok .panic) (card : Nat)
    (isRun : Bool) : Same R' R ok (readStoreG R' dbg card isRun) (readStoreG R dbg card isRun) :=
  .ite _ (fun _ => same_decodeRunStore hok) fun _ =>
    .ite _ (fun _ => same_decodeArrayStore hok false dbg (fun _ => hp) card)
      fun _ => same_decodeBitmapStore hok false dbg (fun _ => hp) card

theorem np_cursor_readExact (n : Nat) : NoPanic (Cursor.readExact n) := by
  intro c h
  unfold Cursor.readExact at h
  split at h
  · simp at h
  · split at h <;> simp at h

theorem np_seekStart (off : Nat) : NoPanic (Cursor.seekStart off) := by
  intro c h; simp [Cursor.seekStart] at h
theorem np_seekCur (n : Nat) : NoPanic (Cursor.seekCur n) := by
  intro c h; simp [Cursor.seekCur] at h

/-- a property of cursor parsers that is `Closed`, admits every error other than `panic` and holds of the cursor's
    three operations.  It then holds of the whole call (`CursorClosed.interSerG`), provided `ok .panic` when
    `dbg = true`: under debug assertions the unchecked constructors validate and may panic. -/
structure CursorClosed (ok : DecErr → Prop) (P : ∀ {α : Type}, Parser Cursor α → Prop) : Prop
    extends Closed ok P where
  ok_of_ne : ∀ e, e ≠ .panic → ok e
  readExact : ∀ n, P (Cursor.readExact n)
  seekStart : ∀ off, P (Cursor.seekStart off)
  seekCur : ∀ n, P (Cursor.seekCur n)

namespace CursorClosed
variable {ok : DecErr → Prop} {P : ∀ {α : Type}, Parser Cursor α → Prop} (h : CursorClosed ok P)
include h

theorem decodeHeader : P (decodeHeader Cursor.readExact) :=
  h.of_same h.readExact (same_decodeHeader h.ok_of_ne)

variable (dbg : Bool) (hp : dbg = true → ok .panic)
include hp

theorem interReadStore (card : Nat) (isRun : Bool) : P (interReadStore dbg card isRun) :=
  h.of_same h.readExact (same_readStoreG h.ok_of_ne dbg hp card isRun)

theorem interOffsets (hd : Header) (cs acc : List Container) : P (interOffsets dbg hd cs acc) := by
  induction cs generalizing acc with
  | nil => exact h.pure _
  | cons c cs ih =>
    unfold Roaring.interOffsets
    split
    · exact ih acc
    · exact h.bind _ _ (h.seekStart _) fun _ => h.bind _ _ (h.interReadStore dbg hp _ _) fun st => ih _

theorem interSequential (a : Bitmap) (rb : Option (List Nat)) (ds : List (Nat × Nat)) (i : Nat)
    (acc : List Container) : P (interSequential dbg a rb ds i acc) := by
  induction ds generalizing i acc with
  | nil => exact h.pure _
  | cons d ds ih =>
    unfold Roaring.interSequential
    dsimp only
    have skip n : P (Cursor.seekCur n >>= fun _ => Roaring.interSequential dbg a rb ds (i + 1) acc) :=
      h.bind _ _ (h.seekCur n) fun _ => ih (i + 1) acc
    split
    · exact h.bind _ _ (h.interReadStore dbg hp _ _) fun st => ih (i + 1) _
    · split
      · exact h.bind _ _ (h.readExact _) fun rbs => skip _
      · split
        · exact skip _
        · exact skip _

theorem interSerG (a : Bitmap) : P (interSerG dbg a) := by
  unfold Roaring.interSerG
  refine h.bind _ _ h.decodeHeader fun hd => ?_
  split
  · exact h.interOffsets dbg hp hd a []
  · exact h.interSequential dbg hp a hd.runBitmap hd.descr 0 []

end CursorClosed

/-- without debug assertions the "unchecked" constructors accept anything: the call cannot panic -/
theorem np_interSerG (a : Bitmap) : NoPanic (interSerG false a) :=
  CursorClosed.interSerG { np_closed with
    ok_of_ne := fun _ he => he, readExact := np_cursor_readExact, seekStart := np_seekStart, seekCur := np_seekCur }
    false nofun a

theorem sim_cursor (n : Nat) : Sim (fun c : Cursor => c.data.drop c.pos) (Cursor.readExact n) (readN n) := by
  intro c
  unfold Cursor.readExact readN
  by_cases hn : n = 0
  · subst hn
    rw [if_pos rfl, if_neg (Nat.not_lt_zero _)]
    rfl
  · rw [if_neg hn, List.length_drop]
    by_cases hle : c.pos + n ≤ c.data.length
    · rw [if_pos hle, if_neg (Nat.not_lt.2 (Nat.le_sub_of_add_le' hle)), List.drop_drop]
      rfl
    · rw [if_neg hle, if_pos (by omega)]
      rfl

/-- `c'` is `c` with the data cut after `k` bytes -/
def TRel (k : Nat) (c c' : Cursor) : Prop := c'.data = c.data.take k ∧ c'.pos = c.pos

/-- on truncated data a parser fails with EOF, or does exactly what it does on the full data -/
def Trunc {α : Type} (p : Parser Cursor α) : Prop := ∀ k c c', TRel k c c' →
  p c' = .error .eof ∨ (∃ e, p c' = .error e ∧ p c = .error e) ∨
  (∃ a d d', p c' = .ok (a, d') ∧ p c = .ok (a, d) ∧ TRel k d d')

theorem trunc_pure {α : Type} (a : α) : Trunc (pure a : Parser Cursor α) := by
  intro k c c' h
  exact Or.inr (Or.inr ⟨a, c, c', rfl, rfl, h⟩)

theorem trunc_fail {α : Type} (e : DecErr) : Trunc (fail e : Parser Cursor α) := by
  intro k c c' _
  exact Or.inr (Or.inl ⟨e, rfl, rfl⟩)

theorem trunc_bind {α β : Type} (p : Parser Cursor α) (f : α → Parser Cursor β) (hp : Trunc p)
    (hf : ∀ a, Trunc (f a)) : Trunc (p >>= f) := by
  intro k c c' h
  simp only [bind, Parser.bind]
  rcases hp k c c' h with h1 | ⟨e, h1, h2⟩ | ⟨a, d, d', h1, h2, h3⟩
  · left; rw [h1]
  · right; left; exact ⟨e, by rw [h1], by rw [h2]⟩
  · rw [h1, h2]
    exact hf a k d d' h3

theorem trunc_readExact (n : Nat) : Trunc (Cursor.readExact n) := by
  intro k c c' ⟨hd, hp⟩
  unfold Cursor.readExact
  by_cases hn : n = 0
  · rw [if_pos hn, if_pos hn]
    exact Or.inr (Or.inr ⟨[], c, c', rfl, rfl, hd, hp⟩)
  · rw [if_neg hn, if_neg hn]
    by_cases hle : c'.pos + n ≤ c'.data.length
    · rw [if_pos hle]
      rw [hd, hp, List.length_take] at hle
      -- the bytes read lie before the cut, so they are the same bytes
      obtain ⟨hk, hle2⟩ := Nat.le_min.1 hle
      rw [if_pos hle2]
      refine Or.inr (Or.inr ⟨_, { c with pos := c.pos + n }, _, rfl, ?_, hd, congrArg (· + n) hp⟩)
      rw [hd, hp, List.drop_take, List.take_take, Nat.min_eq_left (Nat.le_sub_of_add_le' hk)]
    · rw [if_neg hle]
      exact Or.inl rfl

theorem trunc_seekStart (off : Nat) : Trunc (Cursor.seekStart off) := by
  intro k c c' ⟨hd, _⟩
  exact Or.inr (Or.inr ⟨(), _, _, rfl, rfl, hd, rfl⟩)

theorem trunc_seekCur (n : Nat) : Trunc (Cursor.seekCur n) := by
  intro k c c' ⟨hd, hp⟩
  exact Or.inr (Or.inr ⟨(), _, _, rfl, rfl, hd, by simp [hp]⟩)

theorem trunc_closed : CursorClosed (fun _ => True) @Trunc :=
  { pure := trunc_pure, fail := fun e _ => trunc_fail e, bind := trunc_bind, ok_of_ne := fun _ _ => trivial,
    readExact := trunc_readExact, seekStart := trunc_seekStart, seekCur := trunc_seekCur }

theorem interSer_trunc (dbg : Bool) (a : Bitmap) (bs : List Nat) (k : Nat) :
    Bitmap.interSer dbg a (bs.take k) = .error .eof ∨
    Bitmap.interSer dbg a (bs.take k) = Bitmap.interSer dbg a bs := by
  unfold Bitmap.interSer
  rcases trunc_closed.interSerG dbg (fun _ => trivial) a k ⟨bs, 0⟩ ⟨bs.take k, 0⟩ ⟨rfl, rfl⟩ with h1 | ⟨e, h1, h2⟩ | ⟨r, d, d', h1, h2, _⟩
  · left; rw [h1]
  · right; rw [h1, h2]
  · right; rw [h1, h2]

end Roaring
