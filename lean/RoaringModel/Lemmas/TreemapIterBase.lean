import RoaringModel.TreemapIter
import RoaringModel.Lemmas.TreemapDir
import RoaringModel.Lemmas.CursorLists
/-!
# Treemap iterators: the specification `InnerSpec` of an inner 32-bit cursor (the C03 cursor laws), and the
  partition cursor `To64` as a cursor over its joined values `crem`; untouched partitions (`RInv`) and their values
-/
namespace Roaring
namespace TIter
open TL Treemap

/-- **The C03 cursor specification** for an inner 32-bit iterator `K`: there is an invariant and an
    abstraction `rem` (the ascending list of the `u32` values not yet yielded) such that every operation
    acts on `rem` as the corresponding list operation.  The fields are the statements of C03 (`C03_init`, `C03_step`
    per operation), their consequence `rem_lt`, and `len_spec` of C07; the C12 theorems are proved for every `K` with
    an `InnerSpec`. -/
structure InnerSpec (K : Inner) where
  WF : Bitmap → Prop
  Inv : K.Cur → Prop
  rem : K.Cur → List Nat
  iter_spec : ∀ b, WF b → Inv (K.iter b) ∧ rem (K.iter b) = Bitmap.elems b
  rem_lt : ∀ c, Inv c → ∀ x ∈ rem c, x < 4294967296
  next_spec : ∀ c, Inv c → Inv (K.next c).1 ∧ rem (K.next c).1 = (rem c).tail ∧ (K.next c).2 = (rem c).head?
  nextBack_spec : ∀ c, Inv c →
    Inv (K.nextBack c).1 ∧ rem (K.nextBack c).1 = (rem c).dropLast ∧ (K.nextBack c).2 = (rem c).getLast?
  advanceTo_spec : ∀ c n, Inv c → n < 4294967296 →
    Inv (K.advanceTo c n) ∧ rem (K.advanceTo c n) = (rem c).filter (fun x => decide (n ≤ x))
  advanceBackTo_spec : ∀ c n, Inv c → n < 4294967296 →
    Inv (K.advanceBackTo c n) ∧ rem (K.advanceBackTo c n) = (rem c).filter (fun x => decide (x ≤ n))
  sizeHint_spec : ∀ c, Inv c → K.sizeHint c = (rem c).length
  /-- cached cardinality of an untouched partition (C07 `len`) -/
  len_spec : ∀ b, WF b → Bitmap.len b = (Bitmap.elems b).length

/-- the list cursor satisfies the specification (with any 32-bit invariant that bounds the values) -/
def InnerSpec.list (wf : Bitmap → Prop) (hlt : ∀ b, wf b → ∀ x ∈ Bitmap.elems b, x < 4294967296)
    (hlen : ∀ b, wf b → Bitmap.len b = (Bitmap.elems b).length) : InnerSpec Inner.list where
  WF := wf
  Inv := fun (c : List Nat) => ∀ x ∈ c, x < 4294967296
  rem := fun (c : List Nat) => c
  iter_spec := fun b hb => ⟨hlt b hb, rfl⟩
  rem_lt := fun _ h => h
  next_spec := fun (c : List Nat) h => ⟨fun x hx => h x (List.mem_of_mem_tail hx), rfl, rfl⟩
  nextBack_spec := fun (c : List Nat) h => ⟨fun x hx => h x ((List.dropLast_sublist c).subset hx), rfl, rfl⟩
  advanceTo_spec := fun _ _ h _ => ⟨fun x hx => h x (List.mem_filter.mp hx).1, rfl⟩
  advanceBackTo_spec := fun _ _ h _ => ⟨fun x hx => h x (List.mem_filter.mp hx).1, rfl⟩
  sizeHint_spec := fun _ _ => rfl
  len_spec := hlen

variable {K : Inner} (S : InnerSpec K)

/-- values still to be yielded by a partition cursor -/
def crem (c : To64 K) : List Nat := (S.rem c.inner).map (join c.hi)
def orem (o : Option (To64 K)) : List Nat := match o with | none => [] | some c => crem S c

@[simp] theorem orem_none : orem S none = [] := rfl
@[simp] theorem orem_some (c : To64 K) : orem S (some c) = crem S c := rfl

/-- invariant of a partition cursor -/
def CInv (c : To64 K) : Prop := S.Inv c.inner ∧ c.hi < 4294967296

theorem crem_div {c : To64 K} (h : CInv S c) : ∀ x ∈ crem S c, x / P32 = c.hi := by
  intro x hx
  obtain ⟨lo, hlo, rfl⟩ := List.mem_map.mp hx
  exact join_div (S.rem_lt _ h.1 lo hlo)

/-- untouched partitions: key-sorted, `u32` keys, well-formed values -/
structure RInv (r : Treemap) : Prop where
  sorted : KeysSorted r
  parts : ∀ p ∈ r, p.1 < 4294967296 ∧ S.WF p.2

theorem RInv.nil : RInv S [] := ⟨List.Pairwise.nil, nofun⟩
theorem RInv.of_WFd {t : Treemap} (h : WFd S.WF t) : RInv S t :=
  ⟨h.sorted, fun p hp => ⟨(h.parts p hp).1, (h.parts p hp).2.1⟩⟩
theorem RInv.sublist {r r' : Treemap} (h : RInv S r) (hs : r'.Sublist r) : RInv S r' :=
  ⟨List.Pairwise.sublist (List.Sublist.map _ hs) h.sorted, fun q hq => h.parts q (hs.subset hq)⟩
theorem RInv.tail {p : Nat × Bitmap} {r : Treemap} (h : RInv S (p :: r)) : RInv S r :=
  h.sublist S (List.sublist_cons_self p r)
theorem RInv.init {p : Nat × Bitmap} {r : Treemap} (h : RInv S (r ++ [p])) : RInv S r :=
  h.sublist S (List.sublist_append_left r [p])

theorem RInv.head_lt {p : Nat × Bitmap} {r : Treemap} (h : RInv S (p :: r)) : ∀ q ∈ r, p.1 < q.1 :=
  (keysSorted_cons.mp h.sorted).1
theorem RInv.lt_last {r : Treemap} {p : Nat × Bitmap} (h : RInv S (r ++ [p])) : ∀ q ∈ r, q.1 < p.1 := by
  have := h.sorted
  simp only [KeysSorted, keys, List.map_append, Sorted, List.pairwise_append] at this
  exact fun q hq => this.2.2 q.1 (List.mem_map_of_mem hq) p.1 (List.mem_singleton_self _)

theorem to64_inv {p : Nat × Bitmap} (hp : p.1 < P32 ∧ S.WF p.2) :
    CInv S (to64 K p) ∧ crem S (to64 K p) = (Bitmap.elems p.2).map (join p.1) := by
  obtain ⟨h1, h2⟩ := S.iter_spec p.2 hp.2
  exact ⟨⟨h1, hp.1⟩, congrArg (List.map (join p.1)) h2⟩

/-- the values of the untouched partitions, first / last partition as its fresh cursor -/
theorem elems_cons_crem {p : Nat × Bitmap} {r : Treemap} (h : RInv S (p :: r)) :
    elems (p :: r) = crem S (to64 K p) ++ elems r := by
  rw [elems_cons, (to64_inv S (h.parts p (List.mem_cons_self ..))).2]
theorem elems_concat_crem {r : Treemap} {p : Nat × Bitmap} (h : RInv S (r ++ [p])) :
    elems (r ++ [p]) = elems r ++ crem S (to64 K p) := by
  rw [elems_append, elems_cons_crem S (h.sublist S (List.sublist_append_right r [p]))]
  exact congrArg _ (List.append_nil _)

/-! ### high halves: a property of the keys holds of the high half of every value -/
theorem hi_crem {c : To64 K} (h : CInv S c) {Q : Nat → Prop} (hq : Q c.hi) : ∀ x ∈ crem S c, Q (x / P32) :=
  fun x hx => by rw [crem_div S h x hx]; exact hq
theorem hi_orem {o : Option (To64 K)} {Q : Nat → Prop} (h : ∀ c, o = some c → CInv S c ∧ Q c.hi) :
    ∀ x ∈ orem S o, Q (x / P32) := by
  cases o with
  | none => nofun
  | some c => exact hi_crem S (h c rfl).1 (h c rfl).2
theorem hi_elems {r : Treemap} (h : RInv S r) {Q : Nat → Prop} (hq : ∀ p ∈ r, Q p.1) :
    ∀ x ∈ elems r, Q (x / P32) :=
  Radix.forall_flatMap_div (fun p hp x hx =>
    crem_div S (to64_inv S (h.parts p hp)).1 x ((to64_inv S (h.parts p hp)).2 ▸ hx)) hq

theorem To64.next_spec {c : To64 K} (h : CInv S c) :
    CInv S c.next.1 ∧ crem S c.next.1 = (crem S c).tail ∧ c.next.2 = (crem S c).head? := by
  obtain ⟨h1, h2, h3⟩ := S.next_spec c.inner h.1
  refine ⟨⟨h1, h.2⟩, ?_, ?_⟩
  · simp only [crem, To64.next, h2, List.map_tail]
  · simp only [crem, To64.next, h3, List.head?_map]

theorem To64.nextBack_spec {c : To64 K} (h : CInv S c) :
    CInv S c.nextBack.1 ∧ crem S c.nextBack.1 = (crem S c).dropLast ∧ c.nextBack.2 = (crem S c).getLast? := by
  obtain ⟨h1, h2, h3⟩ := S.nextBack_spec c.inner h.1
  refine ⟨⟨h1, h.2⟩, ?_, ?_⟩
  · simp only [crem, To64.nextBack, h2, List.map_dropLast]
  · simp only [crem, To64.nextBack, h3, List.getLast?_map]

/-- a partition cursor that yields `v` had `v` first / last; one that yields nothing was and stays empty -/
theorem To64.next_some {c : To64 K} (h : CInv S c) {v : Nat} (hv : c.next.2 = some v) :
    crem S c = v :: crem S c.next.1 := by
  obtain ⟨_, h2, h3⟩ := To64.next_spec S h
  exact h2 ▸ eq_cons_of_head? (h3.symm.trans hv)
theorem To64.next_none {c : To64 K} (h : CInv S c) (hv : c.next.2 = none) :
    crem S c = [] ∧ crem S c.next.1 = [] := by
  obtain ⟨_, h2, h3⟩ := To64.next_spec S h
  have := List.head?_eq_none_iff.mp (h3.symm.trans hv)
  exact ⟨this, by rw [h2, this]; rfl⟩
theorem To64.nextBack_some {c : To64 K} (h : CInv S c) {v : Nat} (hv : c.nextBack.2 = some v) :
    crem S c = crem S c.nextBack.1 ++ [v] := by
  obtain ⟨_, h2, h3⟩ := To64.nextBack_spec S h
  exact h2 ▸ eq_concat_of_getLast? (h3.symm.trans hv)
theorem To64.nextBack_none {c : To64 K} (h : CInv S c) (hv : c.nextBack.2 = none) :
    crem S c = [] ∧ crem S c.nextBack.1 = [] := by
  obtain ⟨_, h2, h3⟩ := To64.nextBack_spec S h
  have := List.getLast?_eq_none_iff.mp (h3.symm.trans hv)
  exact ⟨this, by rw [h2, this]; rfl⟩

/-- in the partition of `n`, comparing with `n` is comparing the low halves -/
theorem le_join_iff {hi lo n : Nat} (hk : hi = n / P32) :
    (n ≤ hi * P32 + lo ↔ n % P32 ≤ lo) ∧ (hi * P32 + lo ≤ n ↔ lo ≤ n % P32) := by
  have e : hi * P32 + n % P32 = n := by rw [hk, Nat.mul_comm]; exact Nat.div_add_mod n P32
  constructor
  · rw [← Nat.add_le_add_iff_left (n := hi * P32) (m := n % P32), e]
  · rw [← Nat.add_le_add_iff_left (n := hi * P32) (k := n % P32), e]

theorem To64.advanceTo_spec {c : To64 K} (h : CInv S c) {n : Nat} (hk : c.hi = n / P32) :
    CInv S (c.advanceTo (n % P32)) ∧
      crem S (c.advanceTo (n % P32)) = (crem S c).filter (fun x => decide (n ≤ x)) := by
  obtain ⟨h1, h2⟩ := S.advanceTo_spec c.inner _ h.1 (Nat.mod_lt n (by decide))
  refine ⟨⟨h1, h.2⟩, (congrArg (List.map (join c.hi)) h2).trans ?_⟩
  rw [crem, List.filter_map]
  exact congrArg _ (List.filter_congr fun x hx => by
    rw [Function.comp_apply, join_eq (S.rem_lt _ h.1 x hx)]
    exact decide_eq_decide.mpr (le_join_iff hk).1.symm)

theorem To64.advanceBackTo_spec {c : To64 K} (h : CInv S c) {n : Nat} (hk : c.hi = n / P32) :
    CInv S (c.advanceBackTo (n % P32)) ∧
      crem S (c.advanceBackTo (n % P32)) = (crem S c).filter (fun x => decide (x ≤ n)) := by
  obtain ⟨h1, h2⟩ := S.advanceBackTo_spec c.inner _ h.1 (Nat.mod_lt n (by decide))
  refine ⟨⟨h1, h.2⟩, (congrArg (List.map (join c.hi)) h2).trans ?_⟩
  rw [crem, List.filter_map]
  exact congrArg _ (List.filter_congr fun x hx => by
    rw [Function.comp_apply, join_eq (S.rem_lt _ h.1 x hx)]
    exact decide_eq_decide.mpr (le_join_iff hk).2.symm)

end TIter
end Roaring
