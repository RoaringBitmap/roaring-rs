import RoaringModel.SafeBinOps
import RoaringModel.Lemmas.SafeLemmas
import RoaringModel.Lemmas.StoreOps
import RoaringModel.Lemmas.MultiList

/-!
Proofs of the `Safe_*` predicates of `SafeBinOps.lean` from `Store.Inv` of the operands' stores (`Bitmap.StoresInv`, a
consequence of `Bitmap.WF` that also holds on the not-yet-canonical values inside a fold).
-/

namespace Roaring

namespace Store

theorem safe_andAssignRef (s t : Store) (hs : s.Inv) (ht : t.Inv) : Safe_andAssignRef s t := by
  cases s with
  | array v =>
    cases t with
    | array w => trivial
    | bitmap b => exact fun x hx => BStore.safe_contains b ht x (hs.2 x hx)
  | bitmap a =>
    cases t with
    | array w => exact fun x hx => BStore.safe_contains a hs x (ht.2 x hx)
    | bitmap b =>
      exact BStore.safe_opBitmaps _ (fun x y hx _ => Nat.lt_of_le_of_lt Nat.and_le_left hx) a b hs ht

theorem safe_subAssignRef (s t : Store) (hs : s.Inv) (ht : t.Inv) : Safe_subAssignRef s t := by
  cases s with
  | array v =>
    cases t with
    | array w => trivial
    | bitmap b => exact fun x hx => BStore.safe_contains b ht x (hs.2 x hx)
  | bitmap a =>
    cases t with
    | array w => exact BStore.safe_subArr w a hs ht.2
    | bitmap b =>
      exact BStore.safe_opBitmaps _ (fun x y hx _ => Nat.lt_of_le_of_lt Nat.and_le_left hx) a b hs ht

theorem safe_orAssignRef (s t : Store) (hs : s.Inv) (ht : t.Inv) : Safe_orAssignRef s t := by
  cases s with
  | array v =>
    cases t with
    | array w => trivial
    | bitmap b => exact BStore.safe_orArr v b ht hs.2
  | bitmap a =>
    cases t with
    | array w => exact BStore.safe_orArr w a hs ht.2
    | bitmap b => exact BStore.safe_opBitmaps _ (fun _ _ hx hy => Nat.or_lt_two_pow hx hy) a b hs ht

end Store

namespace Container

/-- a store-level operation followed by `ensure_correct_store`: the conversion meets a valid store and leaves one -/
theorem ensure_of_opSpec {P : Prop → Prop → Prop} {op : Store → Store → Store} (hop : Store.OpSpec P op)
    (a b : Container) (ha : a.store.Inv) (hb : b.store.Inv) :
    Safe_ensureCorrectStore { a with store := op a.store b.store } ∧
      (ensureCorrectStore { a with store := op a.store b.store }).store.Inv :=
  have h := (hop a.store b.store ha hb).1
  ⟨safe_ensureCorrectStore _ h, Store.canon_inv _ (ensureCorrectStore_spec _ h).1⟩

theorem safe_orAssignRef (a b : Container) (ha : a.store.Inv) (hb : b.store.Inv) : Safe_orAssignRef a b :=
  ⟨Store.safe_orAssignRef _ _ ha hb, (ensure_of_opSpec Store.orAssignRef_spec a b ha hb).1⟩

theorem inv_orAssignRef (a b : Container) (ha : a.store.Inv) (hb : b.store.Inv) : (a.orAssignRef b).store.Inv :=
  (ensure_of_opSpec Store.orAssignRef_spec a b ha hb).2

theorem safe_andAssignRef (a b : Container) (ha : a.store.Inv) (hb : b.store.Inv) : Safe_andAssignRef a b :=
  ⟨Store.safe_andAssignRef _ _ ha hb, (ensure_of_opSpec (Store.andAssignRef_spec bKernel) a b ha hb).1⟩

theorem inv_andAssignRef (a b : Container) (ha : a.store.Inv) (hb : b.store.Inv) : (a.andAssignRef b).store.Inv :=
  (ensure_of_opSpec (Store.andAssignRef_spec bKernel) a b ha hb).2

theorem safe_subAssignRef (a b : Container) (ha : a.store.Inv) (hb : b.store.Inv) : Safe_subAssignRef a b :=
  ⟨Store.safe_subAssignRef _ _ ha hb, (ensure_of_opSpec (Store.subAssignRef_spec bKernel) a b ha hb).1⟩

theorem inv_subAssignRef (a b : Container) (ha : a.store.Inv) (hb : b.store.Inv) : (a.subAssignRef b).store.Inv :=
  (ensure_of_opSpec (Store.subAssignRef_spec bKernel) a b ha hb).2

theorem safe_andAssignOwned (a b : Container) (ha : a.store.Inv) (hb : b.store.Inv) : Safe_andAssignOwned a b :=
  ⟨Store.safe_andAssignRef _ _ ha hb, (ensure_of_opSpec Store.andAssignOwned_spec a b ha hb).1⟩

theorem inv_andAssignOwned (a b : Container) (ha : a.store.Inv) (hb : b.store.Inv) : (a.andAssignOwned b).store.Inv :=
  (ensure_of_opSpec Store.andAssignOwned_spec a b ha hb).2

end Container

namespace Bitmap

theorem safe_searchStep {S : Container → Container → Prop} (rhs : Bitmap) (cont : Container)
    (hS : ∀ rc ∈ rhs, S cont rc) : Safe_searchStep S rhs cont := by
  refine ⟨safe_search rhs cont.key, ?_⟩
  split
  · split
    · next loc _ rc h => exact hS rc (List.mem_of_getElem? h)
    · trivial
  · trivial

theorem safe_andAR (a b : Bitmap) (ha : StoresInv a) (hb : StoresInv b) : Safe_andAR a b :=
  fun cont hc => safe_searchStep b cont fun rc hrc => Container.safe_andAssignRef cont rc (ha cont hc) (hb rc hrc)

theorem safe_subAR (a b : Bitmap) (ha : StoresInv a) (hb : StoresInv b) : Safe_subAR a b :=
  fun cont hc => safe_searchStep b cont fun rc hrc => Container.safe_subAssignRef cont rc (ha cont hc) (hb rc hrc)

theorem storesInv_orStep (self : Bitmap) (c : Container) (hs : StoresInv self) (hc : c.store.Inv) :
    StoresInv (orStep Container.orAssignRef self c) := by
  unfold orStep
  split
  · exact storesInv_insertAt hs _ hc
  · split
    · next x hx => exact storesInv_set hs _ (Container.inv_orAssignRef x c (hs x (List.mem_of_getElem? hx)) hc)
    · exact hs

theorem safe_orAR (cs : List Container) (self : Bitmap) (hs : StoresInv self) (hcs : StoresInv cs) :
    Safe_orAR self cs := by
  induction cs generalizing self with
  | nil => unfold Safe_orAR; trivial
  | cons c cs ih =>
    obtain ⟨hc, hcs⟩ := storesInv_cons.1 hcs
    unfold Safe_orAR
    refine ⟨safe_search self c.key, ?_, ih _ (storesInv_orStep self c hs hc) hcs⟩
    split
    · split
      · next h => exact Container.safe_orAssignRef _ c (hs _ (List.mem_of_getElem? h)) hc
      · trivial
    · trivial

end Bitmap

namespace Multi
open Bitmap Roaring.Spec

theorem storesInv_andAssignRef (a b : Bitmap) (ha : StoresInv a) (hb : StoresInv b) : StoresInv (andAssignRef a b) := by
  intro c hc
  unfold andAssignRef at hc
  obtain ⟨cont, hcont, h⟩ := List.mem_filterMap.1 hc
  split at h
  · split at h
    · next loc _ rc hrc =>
      simp only [] at h
      split at h
      · cases h; exact Container.inv_andAssignRef cont rc (ha cont hcont) (hb rc (List.mem_of_getElem? hrc))
      · cases h
    · cases h
  · cases h

theorem storesInv_subAssignRef (a b : Bitmap) (ha : StoresInv a) (hb : StoresInv b) : StoresInv (subAssignRef a b) := by
  intro c hc
  unfold subAssignRef at hc
  obtain ⟨cont, hcont, h⟩ := List.mem_filterMap.1 hc
  split at h
  · split at h
    · next loc _ rc hrc =>
      simp only [] at h
      split at h
      · cases h; exact Container.inv_subAssignRef cont rc (ha cont hcont) (hb rc (List.mem_of_getElem? hrc))
      · cases h
    · cases h; exact ha _ hcont
  · cases h; exact ha _ hcont

/-- the loop invariant is `StoresInv` of the accumulator; the items only need it when they are `Ok` -/
theorem safe_assignLoop {ε : Type} {S : Bitmap → Bitmap → Prop} {f : Bitmap → Bitmap → Bitmap}
    (hS : ∀ a b, StoresInv a → StoresInv b → S a b)
    (hf : ∀ a b, StoresInv a → StoresInv b → StoresInv (f a b))
    (rest : List (Except ε Bitmap)) (lhs : Bitmap) (hl : StoresInv lhs) (hr : ∀ r, Except.ok r ∈ rest → StoresInv r) :
    Safe_assignLoop S f lhs rest := by
  induction rest generalizing lhs with
  | nil => unfold Safe_assignLoop; trivial
  | cons rhs rest ih =>
    unfold Safe_assignLoop
    split
    · trivial
    · cases rhs with
      | error e => trivial
      | ok r =>
        have hrI : StoresInv r := hr r (List.mem_cons_self ..)
        exact ⟨hS lhs r hl hrI, ih _ (hf lhs r hl hrI) (fun r' h' => hr r' (List.mem_cons_of_mem _ h'))⟩

theorem safe_tryMultiSub {ε : Type} (xs : List (Except ε Bitmap)) (hx : ∀ r, Except.ok r ∈ xs → StoresInv r) :
    Safe_tryMultiSub xs := by
  unfold Safe_tryMultiSub
  split
  · trivial
  · trivial
  · next lhs iter =>
    exact safe_assignLoop safe_subAR storesInv_subAssignRef iter lhs (hx lhs (List.mem_cons_self ..))
      (fun r h => hx r (List.mem_cons_of_mem _ h))

theorem storesInv_andOwnedStep (st : List Container × List Container) (cont : Container)
    (h1 : StoresInv st.1) (h2 : StoresInv st.2) (hc : cont.store.Inv) :
    StoresInv (andOwnedStep st cont).1 ∧ StoresInv (andOwnedStep st cont).2 := by
  unfold andOwnedStep
  split
  · split
    · next loc _ _ rc hrc =>
      have hset := storesInv_set h2 loc (c := Container.new rc.key) Store.new_inv
      simp only []
      split
      · exact ⟨storesInv_cons.2 ⟨Container.inv_andAssignOwned cont rc hc (h2 rc (List.mem_of_getElem? hrc)), h1⟩, hset⟩
      · exact ⟨h1, hset⟩
    · exact ⟨h1, h2⟩
  · exact ⟨h1, h2⟩

theorem safe_andOwnedLoop (cs : List Container) (st : List Container × List Container)
    (hcs : StoresInv cs) (h1 : StoresInv st.1) (h2 : StoresInv st.2) :
    Safe_andOwnedLoop cs st ∧ StoresInv (cs.foldl andOwnedStep st).1 := by
  induction cs generalizing st with
  | nil => exact ⟨by unfold Safe_andOwnedLoop; trivial, h1⟩
  | cons cont cs ih =>
    obtain ⟨hc, hcs⟩ := storesInv_cons.1 hcs
    have hstep := storesInv_andOwnedStep st cont h1 h2 hc
    have ih := ih (andOwnedStep st cont) hcs hstep.1 hstep.2
    unfold Safe_andOwnedLoop
    exact ⟨⟨safe_searchStep st.2 cont fun rc hrc => Container.safe_andAssignOwned cont rc hc (h2 rc hrc), ih.1⟩, ih.2⟩

theorem safe_andAO (a b : Bitmap) (ha : StoresInv a) (hb : StoresInv b) : Safe_andAO a b := by
  unfold Safe_andAO
  split
  · exact (safe_andOwnedLoop b ([], a) hb (fun _ h => by cases h) ha).1
  · exact (safe_andOwnedLoop a ([], b) ha (fun _ h => by cases h) hb).1

theorem storesInv_andAssignOwned (a b : Bitmap) (ha : StoresInv a) (hb : StoresInv b) : StoresInv (andAssignOwned a b) := by
  rw [andAssignOwned_eq_fold]
  intro c hc
  rw [List.mem_reverse] at hc
  split at hc
  · exact (safe_andOwnedLoop b ([], a) hb (fun _ h => by cases h) ha).2 c hc
  · exact (safe_andOwnedLoop a ([], b) ha (fun _ h => by cases h) hb).2 c hc

theorem safe_tryMultiAndRefWith {ε : Type} {sort : List Bitmap → List Bitmap} (hs : ∀ l, (sort l).Perm l) (h : Hint)
    (xs : List (Except ε Bitmap)) (hx : ∀ b ∈ okValues xs, StoresInv b) : Safe_tryMultiAndRefWith sort h xs := by
  unfold Safe_tryMultiAndRefWith
  split
  · trivial
  · next lhs rest he =>
    have hm := andStartWith_mem hs he
    exact safe_assignLoop safe_andAR storesInv_andAssignRef rest lhs (hx lhs hm.1)
      (fun r hr => hx r (hm.2 r (mem_okValues hr)))
  · trivial

theorem safe_tryMultiAndOwnedWith {ε : Type} {sort : List Bitmap → List Bitmap} (hs : ∀ l, (sort l).Perm l) (h : Hint)
    (xs : List (Except ε Bitmap)) (hx : ∀ b ∈ okValues xs, StoresInv b) : Safe_tryMultiAndOwnedWith sort h xs := by
  unfold Safe_tryMultiAndOwnedWith
  split
  · trivial
  · next lhs rest he =>
    have hm := andStartWith_mem hs he
    exact safe_assignLoop safe_andAO storesInv_andAssignOwned rest lhs (hx lhs hm.1)
      (fun r hr => hx r (hm.2 r (mem_okValues hr)))
  · trivial

end Multi
end Roaring
