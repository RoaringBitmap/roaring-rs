import RoaringModel.Lemmas.TreemapIterCursor
/-!
# `treemap::Iter::advance_to` / `advance_back_to` discard exactly the remaining values `< n` / `> n`,
  whether or not the partition of `n` exists
-/
namespace Roaring
namespace TIter
open TL Treemap

variable {K : Inner} (S : InnerSpec K)

/-! ### re-slicing the `BTreeMap` range -/
theorem seg_keys {pre r post : Treemap} (h : KeysSorted (pre ++ r ++ post)) :
    (∀ a ∈ pre, ∀ q ∈ r, a.1 < q.1) ∧ (∀ q ∈ r, ∀ c ∈ post, q.1 < c.1) ∧ KeysSorted r := by
  simp only [KeysSorted, keys, List.map_append, Sorted, List.pairwise_append] at h
  refine ⟨?_, ?_, h.1.2.1⟩
  · intro a ha q hq; exact h.1.2.2 a.1 (List.mem_map_of_mem ha) q.1 (List.mem_map_of_mem hq)
  · intro q hq c hc
    exact h.2.2 q.1 (List.mem_append.mpr (Or.inr (List.mem_map_of_mem hq))) c.1 (List.mem_map_of_mem hc)

theorem Seg.sorted {tm r : Treemap} (h : Seg tm r) (htm : KeysSorted tm) : KeysSorted r := by
  obtain ⟨pre, post, rfl⟩ := h; exact (seg_keys htm).2.2

theorem head_key_min {r : Treemap} (hs : KeysSorted r) {pf : Nat × Bitmap} (hh : r.head? = some pf) :
    ∀ q ∈ r, pf.1 ≤ q.1 := by
  cases r with
  | nil => cases hh
  | cons p r =>
    cases hh
    exact List.forall_mem_cons.mpr ⟨Nat.le_refl _, fun q hq => Nat.le_of_lt ((keysSorted_cons.mp hs).1 q hq)⟩

/-- on a key-sorted list the partitions with key `≥ a` are a suffix -/
theorem filter_ge_suffix {r : Treemap} (hs : KeysSorted r) (a : Nat) :
    ∃ pre, r = pre ++ r.filter (fun q => decide (a ≤ q.1)) ∧ ∀ q ∈ pre, q.1 < a := by
  induction r with
  | nil => exact ⟨[], rfl, nofun⟩
  | cons p r ih =>
    obtain ⟨hlt, hs'⟩ := keysSorted_cons.mp hs
    by_cases hp : a ≤ p.1
    · have hge : ∀ q ∈ p :: r, decide (a ≤ q.1) = true := List.forall_mem_cons.mpr
        ⟨decide_eq_true hp, fun q hq => decide_eq_true (Nat.le_trans hp (Nat.le_of_lt (hlt q hq)))⟩
      exact ⟨[], (List.filter_eq_self.mpr hge).symm, nofun⟩
    · obtain ⟨pre, h1, h2⟩ := ih hs'
      refine ⟨p :: pre, ?_, List.forall_mem_cons.mpr ⟨Nat.lt_of_not_le hp, h2⟩⟩
      have e : (p :: r).filter (fun q => decide (a ≤ q.1)) = r.filter (fun q => decide (a ≤ q.1)) :=
        List.filter_cons_of_neg fun h => hp (of_decide_eq_true h)
      rw [e, List.cons_append, ← h1]

/-- on a key-sorted list the partitions with key `≤ a` are a prefix -/
theorem filter_le_prefix {r : Treemap} (hs : KeysSorted r) (a : Nat) :
    ∃ post, r = r.filter (fun q => decide (q.1 ≤ a)) ++ post ∧ ∀ q ∈ post, a < q.1 := by
  induction r with
  | nil => exact ⟨[], rfl, nofun⟩
  | cons p r ih =>
    obtain ⟨hlt, hs'⟩ := keysSorted_cons.mp hs
    by_cases hp : p.1 ≤ a
    · obtain ⟨post, h1, h2⟩ := ih hs'
      have e : (p :: r).filter (fun q => decide (q.1 ≤ a)) = p :: r.filter (fun q => decide (q.1 ≤ a)) :=
        List.filter_cons_of_pos (decide_eq_true hp)
      exact ⟨post, by rw [e, List.cons_append, ← h1], h2⟩
    · have hgt : ∀ q ∈ p :: r, a < q.1 := List.forall_mem_cons.mpr
        ⟨Nat.lt_of_not_le hp, fun q hq => Nat.lt_trans (Nat.lt_of_not_le hp) (hlt q hq)⟩
      refine ⟨p :: r, ?_, hgt⟩
      rw [List.filter_eq_nil_iff.mpr fun q hq h => Nat.not_le_of_lt (hgt q hq) (of_decide_eq_true h)]
      rfl

/-- re-slicing the whole map between two keys within the span of the untouched segment selects from that
    segment only: the partitions before it lie below its first key, those after it above its last -/
theorem range_seg {tm r : Treemap} (htm : KeysSorted tm) (hseg : Seg tm r) {pf pl : Nat × Bitmap} (hf : pf ∈ r)
    (hl : pl ∈ r) {a b : Nat} (ha : pf.1 ≤ a) (hb : b ≤ pl.1) :
    Treemap.range tm (.incl a) (.incl b) = r.filter (fun q => decide (a ≤ q.1) && decide (q.1 ≤ b)) := by
  obtain ⟨pre, post, rfl⟩ := hseg
  obtain ⟨hpre, hpost, _⟩ := seg_keys htm
  have e1 : pre.filter (fun q => Bound.memB (.incl a) (.incl b) q.1) = [] :=
    List.filter_eq_nil_iff.mpr fun q hq hd => Nat.not_le_of_lt (Nat.lt_of_lt_of_le (hpre q hq pf hf) ha)
      (of_decide_eq_true (Bool.and_eq_true_iff.mp hd).1)
  have e2 : post.filter (fun q => Bound.memB (.incl a) (.incl b) q.1) = [] :=
    List.filter_eq_nil_iff.mpr fun q hq hd => Nat.not_le_of_lt (Nat.lt_of_le_of_lt hb (hpost pl hl q hq))
      (of_decide_eq_true (Bool.and_eq_true_iff.mp hd).2)
  unfold Treemap.range
  rw [List.filter_append, List.filter_append, e1, e2, List.nil_append, List.append_nil]
  rfl

/-- the empty `range(a .. a)` that `advance_to` / `advance_back_to` use to clear the range -/
theorem range_incl_excl (tm : Treemap) (a : Nat) : Treemap.range tm (.incl a) (.excl a) = [] :=
  List.filter_eq_nil_iff.mpr fun _ _ hd => Nat.not_lt_of_le (of_decide_eq_true (Bool.and_eq_true_iff.mp hd).1)
    (of_decide_eq_true (Bool.and_eq_true_iff.mp hd).2)

/-- `BitmapIter::advance_to`: whatever branch is taken, the new range holds exactly the untouched partitions
    with key `≥ key`, and the result is the first key left -/
theorem PIter.advanceTo_spec (p : PIter) (htm : KeysSorted p.treemap) (hseg : Seg p.treemap p.range) (key : Nat) :
    p.advanceTo key = (⟨p.treemap, p.range.filter (fun q => decide (key ≤ q.1))⟩,
      (p.range.filter (fun q => decide (key ≤ q.1))).head?.map (·.1)) := by
  have hrs := hseg.sorted htm
  obtain ⟨tm, r⟩ := p
  simp only [PIter.advanceTo]
  cases hh : r.head? with
  | none => rw [List.head?_eq_none_iff.mp hh]; rfl
  | some pf =>
    cases hl : r.getLast? with
    | none => rw [List.getLast?_eq_none_iff.mp hl] at hh; cases hh
    | some pl =>
      have hmin := head_key_min hrs hh
      have hmax := (last_key_max' hrs hl).2
      simp only []
      by_cases h1 : key > pl.1
      · rw [if_pos h1, range_incl_excl,
          List.filter_eq_nil_iff.mpr fun q hq hd =>
            Nat.not_le_of_lt (Nat.lt_of_le_of_lt (hmax q hq) h1) (of_decide_eq_true hd)]
      · rw [if_neg h1]
        by_cases h2 : key > pf.1
        · rw [if_pos h2, range_seg htm hseg (List.mem_of_head? hh) (List.mem_of_getLast? hl) (Nat.le_of_lt h2)
            (Nat.le_refl _), List.filter_congr fun q hq => by rw [decide_eq_true (hmax q hq), Bool.and_true]]
        · rw [if_neg h2, List.filter_eq_self.mpr fun q hq =>
            decide_eq_true (Nat.le_trans (Nat.le_of_not_gt h2) (hmin q hq))]

theorem PIter.advanceBackTo_spec (p : PIter) (htm : KeysSorted p.treemap) (hseg : Seg p.treemap p.range) (key : Nat) :
    p.advanceBackTo key = (⟨p.treemap, p.range.filter (fun q => decide (q.1 ≤ key))⟩,
      (p.range.filter (fun q => decide (q.1 ≤ key))).getLast?.map (·.1)) := by
  have hrs := hseg.sorted htm
  obtain ⟨tm, r⟩ := p
  simp only [PIter.advanceBackTo]
  cases hh : r.head? with
  | none => rw [List.head?_eq_none_iff.mp hh]; rfl
  | some pf =>
    cases hl : r.getLast? with
    | none => rw [List.getLast?_eq_none_iff.mp hl] at hh; cases hh
    | some pl =>
      have hmin := head_key_min hrs hh
      have hmax := (last_key_max' hrs hl).2
      simp only []
      by_cases h1 : key < pf.1
      · rw [if_pos h1, range_incl_excl,
          List.filter_eq_nil_iff.mpr fun q hq hd =>
            Nat.not_le_of_lt (Nat.lt_of_lt_of_le h1 (hmin q hq)) (of_decide_eq_true hd)]
      · rw [if_neg h1]
        by_cases h2 : key < pl.1
        · rw [if_pos h2, range_seg htm hseg (List.mem_of_head? hh) (List.mem_of_getLast? hl) (Nat.le_refl _)
            (Nat.le_of_lt h2), List.filter_congr fun q hq => by rw [decide_eq_true (hmin q hq), Bool.true_and]]
        · rw [if_neg h2, List.filter_eq_self.mpr fun q hq =>
            decide_eq_true (Nat.le_trans (hmax q hq) (Nat.le_of_not_lt h2))]

/-- `advance_to` after the front iterator has been dealt with (iter.rs:158-178) -/
theorem advanceRest_spec (it : Iter K) (h : it.Inv S) (hf : it.front = none) (n : Nat) :
    (Iter.advanceRest it (n / 4294967296) (n % 4294967296)).Inv S ∧
    (Iter.advanceRest it (n / 4294967296) (n % 4294967296)).rem S = (it.rem S).filter (fun x => decide (n ≤ x)) := by
  obtain ⟨⟨tm, r⟩, front, back⟩ := it
  obtain rfl : front = none := hf
  unfold Iter.advanceRest
  rw [PIter.advanceTo_spec _ h.tmSorted h.seg]
  -- the untouched partitions are `pre ++ L`, those of `pre` below the partition of `n`, those of `L` not
  obtain ⟨pre, hpre, hprelt⟩ := filter_ge_suffix h.range.sorted (n / P32)
  have hLge : ∀ q ∈ r.filter (fun q => decide (n / P32 ≤ q.1)), n / P32 ≤ q.1 :=
    fun q hq => of_decide_eq_true (List.mem_filter.mp hq).2
  generalize r.filter (fun q => decide (n / P32 ≤ q.1)) = L at hpre hLge ⊢
  subst hpre
  have hL : Iter.Inv S ⟨⟨tm, L⟩, none, back⟩ := h.subrange h.seg.append_right (List.sublist_append_right pre L)
  rw [show Iter.rem S ⟨⟨tm, pre ++ L⟩, none, back⟩ = elems pre ++ (elems L ++ orem S back) by
      simp only [Iter.rem, orem_none, List.nil_append, elems_append, List.append_assoc],
    List.filter_append, Radix.filterGE_drop_of_div_lt P32 (hi_elems S (h.range.sublist S (List.sublist_append_left pre L)) (Q := (· < n / P32)) hprelt),
    List.nil_append]
  cases L with
  | nil =>
    -- no untouched partition is left: the back iterator is consumed from the front
    simp only [List.head?_nil, Option.map_none]
    cases back with
    | none => exact ⟨hL, rfl⟩
    | some b =>
      have hcb := (hL.bk b rfl).1
      simp only []
      by_cases c1 : b.hi > n / P32
      · rw [if_pos c1]
        exact ⟨hL, (Radix.filterGE_keep_of_div_gt P32 (hi_crem S hcb c1)).symm⟩
      · rw [if_neg c1]
        by_cases c2 : b.hi = n / P32
        · rw [if_pos c2]
          obtain ⟨a1, a2⟩ := To64.advanceTo_spec S hcb c2
          exact ⟨hL.setBack a1 rfl, a2⟩
        · rw [if_neg c2]
          exact ⟨hL.noBack, (Radix.filterGE_drop_of_div_lt P32 (hi_crem S hcb (Q := (· < n / P32)) (Nat.lt_of_le_of_ne (Nat.le_of_not_gt c1) c2))).symm⟩
  | cons p L' =>
    simp only [List.head?_cons, Option.map_some]
    have hp := hLge p (List.mem_cons_self ..)
    have hc := (to64_inv S (hL.range.parts p (List.mem_cons_self ..))).1
    have hkeep : (elems L' ++ orem S back).filter (fun x => decide (n ≤ x)) = elems L' ++ orem S back :=
      Radix.filterGE_keep_of_div_gt P32 (List.forall_mem_append.mpr
        ⟨hi_elems S hL.range.tail fun q hq => Nat.lt_of_le_of_lt hp (hL.range.head_lt S q hq),
         hi_orem S fun c hc => ⟨(hL.bk c hc).1, Nat.lt_of_le_of_lt hp ((hL.bk c hc).2 p (List.mem_cons_self ..))⟩⟩)
    rw [elems_cons_crem S hL.range, List.append_assoc, List.filter_append, hkeep]
    by_cases c1 : p.1 = n / P32
    · -- the partition of `n` exists: it becomes the front iterator, trimmed by the low 32 bits
      rw [if_pos c1]
      obtain ⟨a1, a2⟩ := To64.advanceTo_spec S hc c1
      exact ⟨hL.headFront a1 rfl, by rw [← a2, ← List.append_assoc]; rfl⟩
    · -- the next untouched partition is above `n`: nothing to trim
      rw [if_neg c1, Radix.filterGE_keep_of_div_gt P32 (hi_crem S hc (Nat.lt_of_le_of_ne hp (Ne.symm c1))), ← List.append_assoc,
        ← elems_cons_crem S hL.range]
      exact ⟨hL, rfl⟩

/-- `advance_to(n)` discards exactly the remaining values `< n` -/
theorem Iter.advanceTo_spec (it : Iter K) (h : it.Inv S) (n : Nat) (hn : n < 18446744073709551616) :
    (it.advanceTo n).Inv S ∧ (it.advanceTo n).rem S = (it.rem S).filter (fun x => decide (n ≤ x)) := by
  obtain ⟨o, front, back⟩ := it
  unfold Iter.advanceTo
  rw [split_eq hn]
  cases front with
  | none => exact advanceRest_spec S _ h rfl n
  | some f =>
    have hcf := (h.fr f rfl).1
    -- everything behind the front iterator lies in higher partitions
    have hrest : ∀ x ∈ elems o.range ++ orem S back, f.hi < x / P32 := List.forall_mem_append.mpr
      ⟨hi_elems S h.range (h.fr f rfl).2, hi_orem S fun c hc => ⟨(h.bk c hc).1, h.fb f c rfl hc⟩⟩
    simp only []
    rw [show Iter.rem S ⟨o, some f, back⟩ = crem S f ++ (elems o.range ++ orem S back) from List.append_assoc ..,
      Radix.filterGE_block_append P32 n (crem_div S hcf) hrest]
    by_cases c1 : n / P32 < f.hi
    · rw [if_pos c1, if_pos c1]
      exact ⟨h, List.append_assoc ..⟩
    rw [if_neg c1, if_neg c1]
    by_cases c2 : n / P32 = f.hi
    · rw [if_pos c2, if_pos c2.symm]
      obtain ⟨a1, a2⟩ := To64.advanceTo_spec S hcf c2.symm
      exact ⟨h.setFront a1 rfl, by rw [← a2]; exact List.append_assoc ..⟩
    · rw [if_neg c2, if_neg (Ne.symm c2)]
      exact advanceRest_spec S _ h.noFront rfl n

/-- `advance_back_to` after the back iterator has been dealt with (iter.rs:209-229) -/
theorem advanceBackRest_spec (it : Iter K) (h : it.Inv S) (hbn : it.back = none) (n : Nat) :
    (Iter.advanceBackRest it (n / 4294967296) (n % 4294967296)).Inv S ∧
    (Iter.advanceBackRest it (n / 4294967296) (n % 4294967296)).rem S = (it.rem S).filter (fun x => decide (x ≤ n)) := by
  obtain ⟨⟨tm, r⟩, front, back⟩ := it
  obtain rfl : back = none := hbn
  unfold Iter.advanceBackRest
  rw [PIter.advanceBackTo_spec _ h.tmSorted h.seg]
  -- the untouched partitions are `L ++ post`, those of `post` above the partition of `n`, those of `L` not
  obtain ⟨post, hpost, hpostgt⟩ := filter_le_prefix h.range.sorted (n / P32)
  have hLle : ∀ q ∈ r.filter (fun q => decide (q.1 ≤ n / P32)), q.1 ≤ n / P32 :=
    fun q hq => of_decide_eq_true (List.mem_filter.mp hq).2
  generalize r.filter (fun q => decide (q.1 ≤ n / P32)) = L at hpost hLle ⊢
  subst hpost
  have hL : Iter.Inv S ⟨⟨tm, L⟩, front, none⟩ := h.subrange h.seg.append_left (List.sublist_append_left L post)
  rw [show Iter.rem S ⟨⟨tm, L ++ post⟩, front, none⟩ = orem S front ++ elems L ++ elems post by
      simp only [Iter.rem, orem_none, List.append_nil, elems_append, List.append_assoc],
    List.filter_append, Radix.filterLE_drop_of_div_gt P32 (hi_elems S (h.range.sublist S (List.sublist_append_right L post)) hpostgt),
    List.append_nil]
  rcases eq_nil_or_snoc L with rfl | ⟨L', p, rfl⟩
  · -- no untouched partition is left: the front iterator is consumed from the back
    simp only [List.getLast?_nil, Option.map_none]
    cases front with
    | none => exact ⟨hL, rfl⟩
    | some f =>
      have hcf := (hL.fr f rfl).1
      simp only []
      rw [show orem S (some f) ++ elems [] = crem S f from List.append_nil _]
      have hrem (c : To64 K) : Iter.rem S ⟨⟨tm, []⟩, some c, none⟩ = crem S c :=
        (List.append_nil _).trans (List.append_nil _)
      by_cases c1 : f.hi < n / P32
      · rw [if_pos c1, Radix.filterLE_keep_of_div_lt P32 (hi_crem S hcf (Q := (· < n / P32)) c1)]
        exact ⟨hL, hrem f⟩
      · rw [if_neg c1]
        by_cases c2 : f.hi = n / P32
        · rw [if_pos c2]
          obtain ⟨a1, a2⟩ := To64.advanceBackTo_spec S hcf c2
          exact ⟨hL.setFront a1 rfl, (hrem _).trans a2⟩
        · rw [if_neg c2, Radix.filterLE_drop_of_div_gt P32 (hi_crem S hcf (Nat.lt_of_le_of_ne (Nat.le_of_not_lt c1) (Ne.symm c2)))]
          exact ⟨hL.noFront, rfl⟩
  · simp only [List.getLast?_concat, Option.map_some]
    have hp := hLle p List.mem_concat_self
    have hc := (to64_inv S (hL.range.parts p List.mem_concat_self)).1
    have hkeep : (orem S front ++ elems L').filter (fun x => decide (x ≤ n)) = orem S front ++ elems L' :=
      Radix.filterLE_keep_of_div_lt P32 (List.forall_mem_append.mpr
        ⟨hi_orem S (Q := (· < n / P32)) fun c hc => ⟨(hL.fr c hc).1,
           Nat.lt_of_lt_of_le ((hL.fr c hc).2 p List.mem_concat_self) hp⟩,
         hi_elems S hL.range.init (Q := (· < n / P32)) fun q hq => Nat.lt_of_lt_of_le (hL.range.lt_last S q hq) hp⟩)
    rw [elems_concat_crem S hL.range, ← List.append_assoc, List.filter_append, hkeep]
    by_cases c1 : p.1 = n / P32
    · -- the partition of `n` exists: it becomes the back iterator, trimmed by the low 32 bits
      rw [if_pos c1]
      obtain ⟨a1, a2⟩ := To64.advanceBackTo_spec S hc c1
      simp only [PIter.nextBack, List.getLast?_concat, List.dropLast_concat, Option.map_some]
      exact ⟨hL.lastBack a1 rfl, by rw [← a2]; rfl⟩
    · -- the last untouched partition is below `n`: nothing to trim
      rw [if_neg c1, Radix.filterLE_keep_of_div_lt P32 (hi_crem S hc (Q := (· < n / P32)) (Nat.lt_of_le_of_ne hp c1)), List.append_assoc,
        ← elems_concat_crem S hL.range]
      exact ⟨hL, List.append_nil _⟩

/-- `advance_back_to(n)` discards exactly the remaining values `> n` -/
theorem Iter.advanceBackTo_spec (it : Iter K) (h : it.Inv S) (n : Nat) (hn : n < 18446744073709551616) :
    (it.advanceBackTo n).Inv S ∧ (it.advanceBackTo n).rem S = (it.rem S).filter (fun x => decide (x ≤ n)) := by
  obtain ⟨o, front, back⟩ := it
  unfold Iter.advanceBackTo
  rw [split_eq hn]
  cases back with
  | none => exact advanceBackRest_spec S _ h rfl n
  | some b =>
    have hcb := (h.bk b rfl).1
    -- everything before the back iterator lies in lower partitions
    have hrest : ∀ x ∈ orem S front ++ elems o.range, x / P32 < b.hi := List.forall_mem_append.mpr
      ⟨hi_orem S (Q := (· < b.hi)) fun c hc => ⟨(h.fr c hc).1, h.fb c b hc rfl⟩,
       hi_elems S h.range (Q := (· < b.hi)) (h.bk b rfl).2⟩
    simp only []
    rw [show Iter.rem S ⟨o, front, some b⟩ = orem S front ++ elems o.range ++ crem S b from rfl,
      Radix.filterLE_append_block P32 n hrest (crem_div S hcb)]
    by_cases c1 : b.hi < n / P32
    · rw [if_pos c1, if_pos c1]
      exact ⟨h, rfl⟩
    rw [if_neg c1, if_neg c1]
    by_cases c2 : n / P32 = b.hi
    · rw [if_pos c2, if_pos c2.symm]
      obtain ⟨a1, a2⟩ := To64.advanceBackTo_spec S hcb c2.symm
      exact ⟨h.setBack a1 rfl, by rw [← a2]; rfl⟩
    · rw [if_neg c2, if_neg (Ne.symm c2)]
      have := advanceBackRest_spec S _ h.noBack rfl n
      rwa [show Iter.rem S ⟨o, front, none⟩ = orem S front ++ elems o.range from List.append_nil _] at this

end TIter
end Roaring
