import RoaringModel.Props.C03
import RoaringModel.Lemmas.TreemapIterBase
import RoaringModel.Lemmas.BitmapQuery
import RoaringModel.Lemmas.TreemapWF
/-!
# The mirrored 32-bit iterator satisfies the inner-cursor specification of the treemap iterators

`InnerSpec.iter32 : InnerSpec Inner.iter32` — the hypothesis of the `C12_*_partial` theorems, instantiated
with the mirrored `bitmap::Iter` / `bitmap::IntoIter` model (Iter.lean) and proved from the C03 property
theorems (`C03_init`, `C03_step`; Props/C03.lean).  The 32-bit invariant is `Bitmap.WF`
(Inv.lean), which implies C03's `BitmapOK`; the cached cardinality of an untouched partition is C07's
`Bitmap.len_spec`.
-/
namespace Roaring
namespace TIter
open Spec (ItOp ItOut Cursor)

private theorem u32_lt {x : Nat} (h : x ≤ u32Max) : x < 4294967296 := Nat.lt_succ_of_le h

/-- **the C03 cursor laws hold for the mirrored 32-bit iterator**: invariant `C03.IterWF`, abstraction
    `Iter.rem` -/
def InnerSpec.iter32 : InnerSpec Inner.iter32 where
  WF := Bitmap.WF
  Inv := fun (c : _root_.Roaring.Iter) => C03.IterWF c
  rem := fun (c : _root_.Roaring.Iter) => c.rem
  iter_spec := fun b hb => C03.C03_init b (C03.C03_BitmapOK_of_WF b hb)
  rem_lt := fun _ h x hx => u32_lt (h.2 x hx)
  next_spec := fun c h => by
    obtain ⟨h1, h2, h3⟩ := C03.C03_step c h .next
    exact ⟨h1, h2, ItOut.item.inj h3⟩
  nextBack_spec := fun c h => by
    obtain ⟨h1, h2, h3⟩ := C03.C03_step c h .nextBack
    exact ⟨h1, h2, ItOut.item.inj h3⟩
  advanceTo_spec := fun c n h _ => by
    obtain ⟨h1, h2, _⟩ := C03.C03_step c h (.advanceTo n)
    exact ⟨h1, h2⟩
  advanceBackTo_spec := fun c n h _ => by
    obtain ⟨h1, h2, _⟩ := C03.C03_step c h (.advanceBackTo n)
    exact ⟨h1, h2⟩
  sizeHint_spec := fun c h => by
    obtain ⟨_, _, h3⟩ := C03.C03_step c h .sizeHint
    exact (ItOut.size.inj h3).1
  len_spec := fun b hb => Bitmap.len_spec b hb

end TIter
end Roaring
