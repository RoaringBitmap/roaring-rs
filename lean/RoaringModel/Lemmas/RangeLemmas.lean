import RoaringModel.SpecIter
import RoaringModel.Inv
/-!
# `convert_range_to_inclusive` (util.rs, treemap/util.rs) against the meaning of a pair of bounds:
  `Spec.interval`, `Spec.Bound.mem`, `Spec.Bound.inverted`
-/
namespace Roaring
namespace Spec

theorem upper_some (maxV : Nat) (hi : Bound) (b : Nat) (h : upper maxV hi = some b) :
    b ≤ maxV ∧ ∀ x, x ≤ b ↔ (Bound.admitsHi hi x ∧ x ≤ maxV) := by
  cases hi with
  | incl e =>
    obtain rfl : min e maxV = b := Option.some.inj h
    exact ⟨Nat.min_le_right _ _, fun x => Nat.le_min⟩
  | excl e =>
    cases e with
    | zero => cases h
    | succ e =>
      obtain rfl : min e maxV = b := Option.some.inj h
      exact ⟨Nat.min_le_right _ _, fun x => Nat.le_min.trans (and_congr_left' Nat.lt_succ_iff.symm)⟩
  | unb =>
    obtain rfl : maxV = b := Option.some.inj h
    exact ⟨Nat.le_refl _, fun x => ⟨fun hx => ⟨trivial, hx⟩, And.right⟩⟩

theorem upper_none (maxV : Nat) (hi : Bound) (h : upper maxV hi = none) :
    ∀ x, ¬ Bound.admitsHi hi x := by
  cases hi with
  | incl e => cases h
  | excl e =>
    cases e with
    | zero => exact Nat.not_lt_zero
    | succ e => cases h
  | unb => cases h

theorem lower_le (lo : Bound) (x : Nat) :
    lower lo ≤ x ↔ Bound.admitsLo lo x := by
  cases lo with
  | incl s => exact Iff.rfl
  | excl s => exact Iff.rfl
  | unb => exact ⟨fun _ => trivial, fun _ => Nat.zero_le x⟩

theorem interval_eq_some {maxV : Nat} {lo hi : Bound} {a b : Nat} (h : interval maxV lo hi = some (a, b)) :
    a = lower lo ∧ upper maxV hi = some b ∧ a ≤ b := by
  unfold interval at h
  cases hu : upper maxV hi with
  | none => rw [hu] at h; cases h
  | some b' =>
    rw [hu] at h
    by_cases hle : lower lo ≤ b'
    · obtain ⟨rfl, rfl⟩ := Prod.mk.inj (Option.some.inj ((if_pos hle).symm.trans h))
      exact ⟨rfl, rfl, hle⟩
    · cases (if_neg hle).symm.trans h

theorem interval_some (maxV : Nat) (lo hi : Bound) (a b : Nat) (h : interval maxV lo hi = some (a, b)) :
    a ≤ b ∧ b ≤ maxV ∧ ∀ x, (a ≤ x ∧ x ≤ b) ↔ (Bound.mem lo hi x ∧ x ≤ maxV) := by
  obtain ⟨rfl, hu, hab⟩ := interval_eq_some h
  obtain ⟨u1, u2⟩ := upper_some maxV hi b hu
  refine ⟨hab, u1, fun x => ?_⟩
  unfold Bound.mem
  rw [lower_le, u2 x, and_assoc]

theorem interval_none (maxV : Nat) (lo hi : Bound) (h : interval maxV lo hi = none) :
    ∀ x, ¬ (Bound.mem lo hi x ∧ x ≤ maxV) := by
  unfold interval at h
  rintro x ⟨⟨h1, h2⟩, h3⟩
  cases hu : upper maxV hi with
  | none => exact upper_none maxV hi hu x h2
  | some b' =>
    rw [hu] at h
    have hxb := ((upper_some maxV hi b' hu).2 x).mpr ⟨h2, h3⟩
    cases (if_pos (Nat.le_trans ((lower_le lo x).mpr h1) hxb)).symm.trans h

theorem Bound.not_mem_of_inverted {lo hi : Bound} (h : Bound.inverted lo hi = true) (x : Nat) :
    ¬ Bound.mem lo hi x := by
  rintro ⟨h1, h2⟩
  cases lo with
  | incl s =>
    cases hi with
    | incl e => exact Nat.lt_irrefl _ (Nat.lt_of_lt_of_le (of_decide_eq_true h) (Nat.le_trans h1 h2))
    | excl e => exact Nat.lt_irrefl _ (Nat.lt_trans (of_decide_eq_true h) (Nat.lt_of_le_of_lt h1 h2))
    | unb => cases h
  | excl s =>
    cases hi with
    | incl e => exact Nat.lt_irrefl _ (Nat.lt_trans (of_decide_eq_true h) (Nat.lt_of_lt_of_le h1 h2))
    | excl e => exact Nat.lt_irrefl _ (Nat.lt_of_le_of_lt (of_decide_eq_true h) (Nat.lt_trans h1 h2))
    | unb => cases h
  | unb => cases hi <;> cases h

/-- inverted bounds select nothing: the interval would contain its own lower end -/
theorem interval_of_inverted (maxV : Nat) {lo hi : Bound} (h : Bound.inverted lo hi = true) :
    interval maxV lo hi = none := by
  cases hiv : interval maxV lo hi with
  | none => rfl
  | some r =>
    obtain ⟨hab, _, hx⟩ := interval_some maxV lo hi r.1 r.2 hiv
    exact absurd ((hx r.1).mp ⟨Nat.le_refl _, hab⟩).1 (Bound.not_mem_of_inverted h _)

end Spec
open Spec

namespace Bound

/-- first panic test: both bounds excluded and equal -/
def bothExclEq : Bound → Bound → Bool
  | .excl s, .excl e => s == e
  | _, _ => false

/-- second panic test: both bounds given and start > end -/
def startGtEnd : Bound → Bound → Bool
  | .incl s, .incl e => decide (s > e)
  | .incl s, .excl e => decide (s > e)
  | .excl s, .incl e => decide (s > e)
  | .excl s, .excl e => decide (s > e)
  | _, _ => false

/-- the inclusive start (`none`: `start_bound` is `Excluded(MAX)`) -/
def start (M : Nat) : Bound → Option Nat
  | .incl s => some s
  | .excl s => if s = M then none else some (s + 1)
  | .unb => some 0

/-- the inclusive end (`none`: `end_bound` is `Excluded(0)`) -/
def stop (M : Nat) : Bound → Option Nat
  | .incl e => some e
  | .excl e => if e = 0 then none else some (e - 1)
  | .unb => some M

/-- both ends, if they exist and are in order: all of `convert_range_to_inclusive` on `u64`, and what is left of it
    on `u32` after the two panic tests -/
def ends (M : Nat) (lo hi : Bound) : Option (Nat × Nat) :=
  match start M lo with
  | none => none
  | some a => match stop M hi with
    | none => none
    | some b => if b < a then none else some (a, b)

theorem inverted_eq (lo hi : Bound) : Bound.inverted lo hi = (bothExclEq lo hi || startGtEnd lo hi) := by
  cases lo with
  | incl s => cases hi <;> rfl
  | excl s =>
    cases hi with
    | incl e => rfl
    | excl e =>
      -- `e ≤ s` is `s = e` or `s > e`
      show decide (e ≤ s) = (s == e || decide (s > e))
      rw [Bool.eq_iff_iff]
      simp only [decide_eq_true_eq, Bool.or_eq_true, beq_iff_eq]
      exact ⟨fun h => (Nat.eq_or_lt_of_le h).imp Eq.symm id, fun h => h.elim (fun h => Nat.le_of_eq h.symm) Nat.le_of_lt⟩
    | unb => rfl
  | unb => cases hi <;> rfl

theorem start_eq (M : Nat) (lo : Bound) :
    start M lo = some (lower lo) ∨ start M lo = none ∧ M < lower lo := by
  cases lo with
  | incl s => exact Or.inl rfl
  | excl s =>
    by_cases h : s = M
    · exact Or.inr ⟨if_pos h, h ▸ Nat.lt_succ_self s⟩
    · exact Or.inl (if_neg h)
  | unb => exact Or.inl rfl

theorem stop_eq {M : Nat} {hi : Bound} (hhi : Bound.le M hi) : stop M hi = upper M hi := by
  cases hi with
  | incl e => exact congrArg some (Nat.min_eq_left hhi).symm
  | excl e =>
    cases e with
    | zero => rfl
    | succ n =>
      show (if n + 1 = 0 then none else some n) = some (min n M)
      rw [if_neg (Nat.succ_ne_zero n), Nat.min_eq_left (Nat.le_of_succ_le hhi)]
  | unb => rfl

theorem ends_eq (M : Nat) (lo : Bound) {hi : Bound} (hhi : Bound.le M hi) : ends M lo hi = interval M lo hi := by
  unfold ends interval
  rw [stop_eq hhi]
  cases hu : upper M hi with
  | none => cases start M lo <;> rfl
  | some b =>
    dsimp only
    rcases start_eq M lo with hs | ⟨hs, hM⟩
    · rw [hs]
      dsimp only
      by_cases h : b < lower lo
      · rw [if_pos h, if_neg (Nat.not_le.mpr h)]
      · rw [if_neg h, if_pos (Nat.not_lt.mp h)]
    · -- nothing is admitted above the maximum
      rw [hs]
      exact (if_neg (Nat.not_le.mpr (Nat.lt_of_le_of_lt (upper_some _ _ _ hu).1 hM))).symm

end Bound

theorem convertRange_eq (M : Nat) (lo hi : Bound) :
    convertRange M lo hi =
      if Bound.bothExclEq lo hi then .error .startAndEndEqualExcluded
      else if Bound.startGtEnd lo hi then .error .startGreaterThanEnd
      else match Bound.ends M lo hi with
        | none => .error .empty
        | some r => .ok r := by
  have : convertRange M lo hi =
      if Bound.bothExclEq lo hi then .error .startAndEndEqualExcluded
      else if Bound.startGtEnd lo hi then .error .startGreaterThanEnd
      else match Bound.start M lo with
        | none => .error .empty
        | some a => match Bound.stop M hi with
          | none => .error .empty
          | some b => if b < a then .error .empty else .ok (a, b) := rfl
  rw [this]
  unfold Bound.ends
  cases Bound.start M lo with
  | none => rfl
  | some a =>
    cases Bound.stop M hi with
    | none => rfl
    | some b =>
      dsimp only
      by_cases h : b < a
      · rw [if_pos h, if_pos h]
      · rw [if_neg h, if_neg h]

/-- `convert_range_to_inclusive` (util.rs) computes exactly the interval of values selected by the two
    bounds, and fails exactly when that interval is empty.  The bound on `lo` is not needed: a start above `maxV`
    lies above every end. -/
theorem convertRange_interval (maxV : Nat) (lo hi : Bound) (_hlo : Bound.le maxV lo) (hhi : Bound.le maxV hi) :
    (match convertRange maxV lo hi with
     | .ok r => some r
     | .error _ => none) = Spec.interval maxV lo hi := by
  rw [convertRange_eq]
  by_cases h1 : Bound.bothExclEq lo hi = true
  · rw [if_pos h1, interval_of_inverted maxV (by rw [Bound.inverted_eq, h1, Bool.true_or])]
  by_cases h2 : Bound.startGtEnd lo hi = true
  · rw [if_neg h1, if_pos h2, interval_of_inverted maxV (by rw [Bound.inverted_eq, h2, Bool.or_true])]
  rw [if_neg h1, if_neg h2, ← Bound.ends_eq maxV lo hhi]
  cases Bound.ends maxV lo hi <;> rfl

theorem convertRange_ok (maxV : Nat) (lo hi : Bound) (hlo : Bound.le maxV lo) (hhi : Bound.le maxV hi)
    (a b : Nat) (h : convertRange maxV lo hi = .ok (a, b)) : Spec.interval maxV lo hi = some (a, b) := by
  have := convertRange_interval maxV lo hi hlo hhi
  rw [h] at this; exact this.symm

theorem convertRange_error (maxV : Nat) (lo hi : Bound) (hlo : Bound.le maxV lo) (hhi : Bound.le maxV hi)
    (e : ConvErr) (h : convertRange maxV lo hi = .error e) : Spec.interval maxV lo hi = none := by
  have := convertRange_interval maxV lo hi hlo hhi
  rw [h] at this; exact this.symm

/-- What `convertRange` returns, in terms of the specification's reading of the two bounds.
    `M` is the largest value of the integer type; the upper bound carries a value `≤ M`. -/
theorem convertRange_spec (M : Nat) (lo hi : Bound) (hhi : ∀ v, hi = .incl v ∨ hi = .excl v → v ≤ M) :
    match convertRange M lo hi with
    | .error .startAndEndEqualExcluded => Bound.inverted lo hi = true
    | .error .startGreaterThanEnd => Bound.inverted lo hi = true
    | .error .empty => Bound.inverted lo hi = false ∧ ∀ x, x ≤ M → ¬ Bound.mem lo hi x
    | .ok (s, e) => Bound.inverted lo hi = false ∧ s ≤ e ∧ e ≤ M ∧
        (∀ x, x ≤ M → (Bound.mem lo hi x ↔ s ≤ x ∧ x ≤ e)) ∧
        (lo = .unb → s = 0) ∧ (hi = .unb → e = M) := by
  have hle : Bound.le M hi := by
    cases hi with
    | incl v => exact hhi v (Or.inl rfl)
    | excl v => exact hhi v (Or.inr rfl)
    | unb => trivial
  rw [convertRange_eq, Bound.inverted_eq]
  by_cases h1 : Bound.bothExclEq lo hi = true
  · rw [if_pos h1]
    simp only [h1, Bool.true_or]
  by_cases h2 : Bound.startGtEnd lo hi = true
  · rw [if_neg h1, if_pos h2]
    simp only [h2, Bool.or_true]
  rw [if_neg h1, if_neg h2, Bool.eq_false_iff.mpr h1, Bool.eq_false_iff.mpr h2, Bound.ends_eq M lo hle]
  cases hiv : interval M lo hi with
  | none => exact ⟨rfl, fun x hx hm => interval_none M lo hi hiv x ⟨hm, hx⟩⟩
  | some r =>
    obtain ⟨s, e⟩ := r
    obtain ⟨hse, heM, hx⟩ := interval_some M lo hi s e hiv
    obtain ⟨hs, hu, _⟩ := interval_eq_some hiv
    refine ⟨rfl, hse, heM, fun x hxM => ⟨fun hm => (hx x).mpr ⟨hm, hxM⟩, fun h => ((hx x).mp h).1⟩, ?_, ?_⟩
    · rintro rfl; exact hs
    · rintro rfl; exact (Option.some.inj hu).symm

end Roaring
