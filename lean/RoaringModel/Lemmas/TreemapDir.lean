import RoaringModel.Treemap
import RoaringModel.Lemmas.TreemapSorted
import RoaringModel.Lemmas.Radix
import RoaringModel.Lemmas.Blocks
/-!
# The partition directory of a treemap: `split`/`join` arithmetic at 2^32 (instances of Lemmas/Radix), the
  key-sorted association list (`get`, `insertKV`, `removeK`), and `elems` = concatenation of the partitions.
-/
namespace Roaring
namespace Treemap
open TL

scoped notation "P32" => (4294967296 : Nat)

theorem split_fst (v : Nat) : (split v).1 = v / P32 % P32 := by
  simp [split, Nat.shiftRight_eq_div_pow]
theorem split_snd (v : Nat) : (split v).2 = v % P32 := rfl
theorem div_lt_of_u64 {v : Nat} (h : v < 18446744073709551616) : v / P32 < P32 :=
  Nat.div_lt_of_lt_mul (show v < P32 * P32 from h)
theorem split_fst_of_lt {v : Nat} (h : v < 18446744073709551616) : (split v).1 = v / P32 := by
  rw [split_fst]; exact Nat.mod_eq_of_lt (div_lt_of_u64 h)
theorem split_eq {v : Nat} (h : v < 18446744073709551616) : split v = (v / P32, v % P32) :=
  Prod.ext (split_fst_of_lt h) rfl
theorem split_mul_add {k x : Nat} (hx : x < P32) (h : k * P32 + x < 18446744073709551616) :
    split (k * P32 + x) = (k, x) := by
  rw [split_eq h, Radix.mul_add_div k hx, Radix.mul_add_mod k hx]
theorem key_lt_of_u64 {k x : Nat} (h : k * P32 + x < 18446744073709551616) : k < P32 :=
  Nat.lt_of_mul_lt_mul_right (show k * P32 < P32 * P32 from Nat.lt_of_le_of_lt (Nat.le_add_right _ _) h)
theorem split_fst_lt (v : Nat) : (split v).1 < P32 := by rw [split_fst]; exact Nat.mod_lt _ (by decide)
theorem split_snd_lt (v : Nat) : (split v).2 < P32 := Nat.mod_lt _ (by decide)

theorem join_eq {hi lo : Nat} (h : lo < P32) : join hi lo = hi * P32 + lo := by
  unfold join
  rw [← Nat.shiftLeft_add_eq_or_of_lt (by simpa using h), Nat.shiftLeft_eq]

theorem join_div {hi lo : Nat} (h : lo < P32) : join hi lo / P32 = hi := by
  rw [join_eq h]; exact Radix.mul_add_div hi h
theorem join_mod {hi lo : Nat} (h : lo < P32) : join hi lo % P32 = lo := by
  rw [join_eq h]; exact Radix.mul_add_mod hi h
theorem join_lt {hi lo : Nat} (hh : hi < P32) (h : lo < P32) : join hi lo < 18446744073709551616 := by
  rw [join_eq h]; exact Radix.mul_add_lt hh h
theorem split_join {hi lo : Nat} (hh : hi < P32) (h : lo < P32) : split (join hi lo) = (hi, lo) := by
  have h1 := split_fst_of_lt (join_lt hh h)
  rw [join_div h] at h1
  exact Prod.ext h1 (by rw [split_snd, join_mod h])
theorem join_split {v : Nat} (h : v < 18446744073709551616) : join (split v).1 (split v).2 = v := by
  rw [join_eq (split_snd_lt v), split_fst_of_lt h, split_snd]; exact Nat.div_add_mod' v P32

def keys (t : Treemap) : List Nat := t.map (·.1)
abbrev KeysSorted (t : Treemap) : Prop := Sorted (keys t)

theorem keysSorted_cons {p : Nat × Bitmap} {t : Treemap} :
    KeysSorted (p :: t) ↔ (∀ q ∈ t, p.1 < q.1) ∧ KeysSorted t := by
  rw [KeysSorted, keys, List.map_cons, Sorted, List.pairwise_cons, List.forall_mem_map]; rfl

theorem get_eq_some_of_mem {t : Treemap} {k : Nat} {b : Bitmap} (hs : KeysSorted t) (hm : (k, b) ∈ t) :
    get t k = some b := by
  induction t with
  | nil => cases hm
  | cons p t ih =>
    have ⟨hlt, hs'⟩ := keysSorted_cons.mp hs
    grind [get]

theorem mem_of_get_eq_some {t : Treemap} {k : Nat} {b : Bitmap} (h : get t k = some b) : (k, b) ∈ t := by
  fun_induction get t k <;> grind

theorem get_eq_none_iff {t : Treemap} {k : Nat} : get t k = none ↔ k ∉ keys t := by
  fun_induction get t k <;> grind [keys]

theorem last_key_max' {t : Treemap} (hs : KeysSorted t) {p : Nat × Bitmap} (hl : t.getLast? = some p) :
    p ∈ t ∧ ∀ q ∈ t, q.1 ≤ p.1 := by
  have h1 : (keys t).getLast? = some p.1 := by rw [keys, List.getLast?_map, hl]; rfl
  exact ⟨List.mem_of_getLast? hl, fun q hq => (getLast?_eq_some_max hs h1).2 q.1 (List.mem_map_of_mem hq)⟩

theorem get_insertKV (t : Treemap) (k : Nat) (b : Bitmap) (k' : Nat) :
    get (insertKV t k b) k' = if k' = k then some b else get t k' := by
  fun_induction insertKV t k b <;> grind [get]

theorem mem_insertKV {t : Treemap} {k : Nat} {b : Bitmap} {p : Nat × Bitmap} (h : p ∈ insertKV t k b) :
    p = (k, b) ∨ p ∈ t := by
  fun_induction insertKV t k b <;> grind

theorem keysSorted_insertKV {t : Treemap} (k : Nat) (b : Bitmap) (hs : KeysSorted t) :
    KeysSorted (insertKV t k b) := by
  fun_induction insertKV t k b with
  | case1 => exact List.pairwise_singleton _ _
  | case2 t k b k' b' h =>
    exact keysSorted_cons.mpr ⟨fun q hq => (List.mem_cons.mp hq).elim (fun e => e ▸ h)
      fun hq => Nat.lt_trans h ((keysSorted_cons.mp hs).1 q hq), hs⟩
  | case3 t k b b' h => exact hs
  | case4 t k b k' b' h1 h2 ih =>
    obtain ⟨hlt, hs'⟩ := keysSorted_cons.mp hs
    refine keysSorted_cons.mpr ⟨fun q hq => ?_, ih hs'⟩
    rcases mem_insertKV hq with rfl | hq
    · exact Nat.lt_of_le_of_ne (Nat.not_lt.mp h1) (Ne.symm h2)
    · exact hlt q hq

/-- `map.insert` above every key puts the entry last -/
theorem insertKV_append_last : ∀ (acc : Treemap) (k : Nat) (b : Bitmap), (∀ q ∈ acc, q.1 < k) →
    insertKV acc k b = acc ++ [(k, b)]
  | [], _, _, _ => rfl
  | (k', b') :: t, k, b, h => by
    have hk : k' < k := h (k', b') List.mem_cons_self
    rw [insertKV, if_neg (Nat.lt_asymm hk), if_neg (Nat.ne_of_gt hk),
      insertKV_append_last t k b fun q hq => h q (List.mem_cons_of_mem _ hq)]
    rfl

theorem get_removeK (t : Treemap) (k k' : Nat) : get (removeK t k) k' = if k' = k then none else get t k' := by
  induction t with
  | nil => simp [removeK, get]
  | cons p t ih => grind [removeK, get]

theorem keysSorted_removeK {t : Treemap} (k : Nat) (hs : KeysSorted t) : KeysSorted (removeK t k) := by
  unfold KeysSorted keys removeK
  exact List.Pairwise.sublist (List.Sublist.map _ List.filter_sublist) hs

theorem mem_removeK {t : Treemap} {k : Nat} {p : Nat × Bitmap} (h : p ∈ removeK t k) : p ∈ t ∧ p.1 ≠ k := by
  unfold removeK at h
  have := List.mem_filter.mp h
  exact ⟨this.1, by simpa using this.2⟩

/-! ### well-formedness and the abstraction `elems` -/

/-- partition-level ("directory") well-formedness, relative to a 32-bit invariant `wf32`: keys ascending and `u32`,
    every partition `wf32` and non-empty -/
structure WFd (wf32 : Bitmap → Prop) (t : Treemap) : Prop where
  sorted : KeysSorted t
  parts : ∀ p ∈ t, p.1 < P32 ∧ wf32 p.2 ∧ Bitmap.elems p.2 ≠ []

/-- what the directory proofs need from a well-formed 32-bit bitmap: its values are `u32`, ascending -/
structure Elems32 (wf32 : Bitmap → Prop) : Prop where
  sorted : ∀ b, wf32 b → Sorted (Bitmap.elems b)
  lt : ∀ b, wf32 b → ∀ x ∈ Bitmap.elems b, x < P32

variable {wf32 : Bitmap → Prop}

theorem WFd.nil : WFd wf32 [] := ⟨by simp [KeysSorted, keys, Sorted], by simp⟩

theorem WFd.tail {p : Nat × Bitmap} {t : Treemap} (h : WFd wf32 (p :: t)) : WFd wf32 t :=
  ⟨(keysSorted_cons.mp h.sorted).2, fun q hq => h.parts q (List.mem_cons_of_mem _ hq)⟩

theorem WFd.get {t : Treemap} (h : WFd wf32 t) {k : Nat} {b : Bitmap} (hg : get t k = some b) :
    k < P32 ∧ wf32 b ∧ Bitmap.elems b ≠ [] := h.parts _ (mem_of_get_eq_some hg)

theorem elems_cons (p : Nat × Bitmap) (t : Treemap) :
    elems (p :: t) = (Bitmap.elems p.2).map (join p.1) ++ elems t := by simp [elems]
theorem elems_append (a b : Treemap) : elems (a ++ b) = elems a ++ elems b := List.flatMap_append

/-- the sum in `len` (inherent.rs:327), for partitions whose `len` is right -/
theorem len_foldl (t : Treemap) (h : ∀ p ∈ t, Bitmap.len p.2 = (Bitmap.elems p.2).length) (acc : Nat) :
    t.foldl (fun acc p => acc + Bitmap.len p.2) acc = acc + (elems t).length := by
  induction t generalizing acc with
  | nil => rfl
  | cons p t ih =>
    rw [List.foldl_cons, ih fun q hq => h q (List.mem_cons_of_mem _ hq), elems_cons,
      h p (List.mem_cons_self ..), List.length_append, List.length_map, Nat.add_assoc]

/-! ### the directory as a list of blocks (`Lemmas/Blocks.lean`): key `p.1`, low values `Bitmap.elems p.2`, base `2^32` -/

abbrev pLow (p : Nat × Bitmap) : List Nat := Bitmap.elems p.2

/-- `join` is `hi * 2^32 + lo` on `u32` low halves -/
theorem elems_eq_blk {t : Treemap} (h : ∀ p ∈ t, ∀ x ∈ Bitmap.elems p.2, x < P32) :
    elems t = Blk.elems Prod.fst pLow P32 t := by
  unfold elems Blk.elems
  induction t with
  | nil => rfl
  | cons p t ih =>
    rw [List.flatMap_cons, List.flatMap_cons, ih fun q hq => h q (List.mem_cons_of_mem _ hq),
      List.map_congr_left fun x hx => join_eq (h p (List.mem_cons_self ..) x hx)]

theorem WFd.lt (E : Elems32 wf32) {t : Treemap} (h : WFd wf32 t) : ∀ p ∈ t, ∀ x ∈ Bitmap.elems p.2, x < P32 :=
  fun p hp => E.lt _ (h.parts p hp).2.1

theorem WFd.ok (E : Elems32 wf32) {t : Treemap} (h : WFd wf32 t) : Blk.Ok Prod.fst pLow P32 t :=
  ⟨h.sorted, fun p hp => E.sorted _ (h.parts p hp).2.1, h.lt E⟩

theorem join_mem_elems {t : Treemap} {p : Nat × Bitmap} (hp : p ∈ t) {y : Nat} (hy : y ∈ Bitmap.elems p.2) :
    join p.1 y ∈ elems t :=
  List.mem_flatMap.mpr ⟨p, hp, List.mem_map.mpr ⟨y, hy, rfl⟩⟩

theorem mem_elems (E : Elems32 wf32) {t : Treemap} (h : WFd wf32 t) (x : Nat) :
    x ∈ elems t ↔ ∃ b, get t (x / P32) = some b ∧ x % P32 ∈ Bitmap.elems b := by
  rw [elems_eq_blk (h.lt E), Blk.mem_elems_iff (h.lt E)]
  exact ⟨fun ⟨p, hp, hk, hx⟩ => ⟨p.2, hk ▸ get_eq_some_of_mem h.sorted hp, hx⟩,
    fun ⟨b, hg, hx⟩ => ⟨(_, b), mem_of_get_eq_some hg, rfl, hx⟩⟩

theorem elems_lt (E : Elems32 wf32) {t : Treemap} (h : WFd wf32 t) : ∀ x ∈ elems t, x < 18446744073709551616 := by
  intro x hx
  obtain ⟨b, hg, hm⟩ := (mem_elems E h x).1 hx
  rw [← Nat.div_add_mod' x P32]
  exact Radix.mul_add_lt (h.get hg).1 (E.lt b (h.get hg).2.1 _ hm)

theorem sorted_elems (E : Elems32 wf32) {t : Treemap} (h : WFd wf32 t) : Sorted (elems t) := by
  rw [elems_eq_blk (h.lt E)]
  exact Blk.sorted_elems (h.ok E)

theorem elems_eq_nil_iff {t : Treemap} (h : WFd wf32 t) : elems t = [] ↔ t = [] := by
  constructor
  · intro he
    cases t with
    | nil => rfl
    | cons p t =>
      rw [elems_cons] at he
      have := (h.parts p (by simp)).2.2
      simp at he; exact absurd he.1 this
  · rintro rfl; rfl

end Treemap
end Roaring
