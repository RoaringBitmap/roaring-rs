import RoaringModel.Inv
import RoaringModel.Lemmas.TreemapDir
/-!
# Deciding the invariants of closed values

`Store.Inv`, `Store.WF`, `Bitmap.WF` and `Treemap.WFd Bitmap.WF` as decision procedures, for the hypotheses of a theorem that is applied to a
concrete value in an `example`: `attribute [local instance]` them there and close the hypothesis `by decide`.  Meant for
values whose stores are short arrays; on a bitset store they sum 1024 words (use `BStore.inv_full`, `BStore.inv_new`).
They are not instances: no statement of the development depends on them.
-/
namespace Roaring.Concrete

@[instance_reducible] def decSorted (l : List Nat) : Decidable (Sorted l) := inferInstanceAs (Decidable (l.Pairwise (· < ·)))

attribute [local instance] decSorted in
@[instance_reducible] def decArrInv (v : List Nat) : Decidable (Arr.Inv v) := inferInstanceAs (Decidable (Sorted v ∧ ∀ x ∈ v, x < 65536))

@[instance_reducible] def decBStoreInv (b : BStore) : Decidable b.Inv :=
  decidable_of_iff (b.bits.length = 1024 ∧ (∀ w ∈ b.bits, w < 2^64) ∧ b.len = BStore.popSum b.bits)
    ⟨fun h => ⟨h.1, h.2.1, h.2.2⟩, fun h => ⟨h.1, h.2, h.3⟩⟩

attribute [local instance] decArrInv decBStoreInv

@[instance_reducible] def decStoreInv : ∀ st : Store, Decidable st.Inv
  | .array v => decArrInv v
  | .bitmap b => decBStoreInv b

@[instance_reducible] def decStoreWF : ∀ st : Store, Decidable st.WF
  | .array v => inferInstanceAs (Decidable (Arr.Inv v ∧ 0 < v.length ∧ v.length ≤ 4096))
  | .bitmap b => inferInstanceAs (Decidable (b.Inv ∧ 4096 < b.len))

attribute [local instance] decStoreWF in
@[instance_reducible] def decBitmapWF (b : Bitmap) : Decidable b.WF :=
  inferInstanceAs (Decidable ((b.map Container.key).Pairwise (· < ·) ∧ ∀ c ∈ b, c.key < 65536 ∧ c.store.WF))

attribute [local instance] decBitmapWF in
@[instance_reducible] def decTreemapWF (t : Treemap) : Decidable (Treemap.WFd Bitmap.WF t) :=
  decidable_of_iff ((Treemap.keys t).Pairwise (· < ·) ∧
      ∀ p ∈ t, p.1 < 4294967296 ∧ p.2.WF ∧ Bitmap.elems p.2 ≠ [])
    ⟨fun h => ⟨h.1, h.2⟩, fun h => ⟨h.sorted, h.parts⟩⟩

end Roaring.Concrete
