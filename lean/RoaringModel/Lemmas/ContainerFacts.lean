import RoaringModel.Lemmas.StoreFacts
/-!
# Container-level facts (container.rs): every mutator keeps the key, re-establishes the kind invariant
(`Store.Canon`) and has the expected effect on the low 16-bit values.
-/
namespace Roaring

namespace Store

def isArray : Store → Bool
  | .array _ => true
  | .bitmap _ => false

theorem canon_iff (st : Store) : st.Canon ↔ st.Inv ∧ (st.isArray = true ↔ st.elems.length ≤ 4096) := by
  cases st with
  | array v => simp [Canon, Inv, isArray, elems]
  | bitmap b =>
    simp only [Canon, Inv, isArray, elems, Bool.false_eq_true, false_iff, Nat.not_le]
    constructor
    · rintro ⟨h1, h2⟩; exact ⟨h1, by rw [BStore.length_toArray b h1]; exact h2⟩
    · rintro ⟨h1, h2⟩; exact ⟨h1, by rw [← BStore.length_toArray b h1]; exact h2⟩

theorem canon_of_same (st st' : Store) (h : st.Canon) (hi : st'.Inv) (hk : st'.isArray = st.isArray)
    (he : st'.elems = st.elems) : st'.Canon := by
  rw [canon_iff] at h ⊢
  exact ⟨hi, by rw [hk, he]; exact h.2⟩

theorem insert_isArray (st : Store) (i : Nat) : (st.insert i).1.isArray = st.isArray := by
  cases st <;> rfl
theorem remove_isArray (st : Store) (i : Nat) : (st.remove i).1.isArray = st.isArray := by
  cases st <;> rfl

theorem push_isArray (st : Store) (i : Nat) : (st.push i).1.isArray = st.isArray := by
  cases st <;> rfl

theorem elems_ext (a b : Store) (ha : a.Inv) (hb : b.Inv) (h : ∀ x, x ∈ a.elems ↔ x ∈ b.elems) :
    a.elems = b.elems :=
  Arr.sorted_ext _ _ (sorted_elems a ha) (sorted_elems b hb) h

end Store

namespace Container

theorem ecs_key (c : Container) : (ensureCorrectStore c).key = c.key := by
  unfold ensureCorrectStore
  cases c.store with
  | array v => simp only []; split <;> rfl
  | bitmap b => simp only []; split <;> rfl

/-- `insert`, `remove` and `push` run the store operation and call `ensure_correct_store` only when it reports a
    change; a store that keeps its kind and its elements is still canonical -/
theorem guarded_spec (c : Container) (h : c.store.Canon) (r : Store × Bool) (hr : r.1.Inv)
    (hk : r.1.isArray = c.store.isArray) (he : r.2 = false → r.1.elems = c.store.elems) :
    let c' := if r.2 then (ensureCorrectStore { c with store := r.1 }, true) else ({ c with store := r.1 }, false)
    c'.1.key = c.key ∧ c'.1.store.Canon ∧ c'.1.store.elems = r.1.elems ∧ c'.2 = r.2 := by
  intro c'
  cases h2 : r.2 with
  | true =>
    obtain ⟨e1, e2, e3⟩ := ensureCorrectStore_spec { c with store := r.1 } hr
    have : c' = (ensureCorrectStore { c with store := r.1 }, true) := if_pos h2
    rw [this]
    exact ⟨e3, e1, e2, rfl⟩
  | false =>
    have : c' = ({ c with store := r.1 }, false) := if_neg (h2 ▸ Bool.false_ne_true)
    rw [this]
    exact ⟨rfl, Store.canon_of_same _ _ h hr hk (he h2), rfl, rfl⟩

theorem insert_spec (c : Container) (h : c.store.Canon) (i : Nat) (hi : i < 65536) :
    (c.insert i).1.key = c.key ∧ (c.insert i).1.store.Canon ∧
    (∀ x, x ∈ (c.insert i).1.store.elems ↔ x = i ∨ x ∈ c.store.elems) ∧
    (c.insert i).2 = !decide (i ∈ c.store.elems) := by
  have hinv := Store.canon_inv _ h
  obtain ⟨s1, s2, s3⟩ := Store.insert_spec c.store hinv i hi
  obtain ⟨g1, g2, g3, g4⟩ := guarded_spec c h (c.store.insert i) s1 (Store.insert_isArray _ _) fun hf =>
    have hm : i ∈ c.store.elems := by simpa using s3.symm.trans hf
    Store.elems_ext _ _ s1 hinv fun x => (s2 x).trans (or_iff_right_of_imp fun hx => hx ▸ hm)
  exact ⟨g1, g2, fun x => by rw [show (c.insert i).1.store.elems = _ from g3]; exact s2 x, g4.trans s3⟩

theorem remove_spec (c : Container) (h : c.store.Canon) (i : Nat) (hi : i < 65536) :
    (c.remove i).1.key = c.key ∧ (c.remove i).1.store.Canon ∧
    (∀ x, x ∈ (c.remove i).1.store.elems ↔ x ∈ c.store.elems ∧ x ≠ i) ∧
    (c.remove i).2 = decide (i ∈ c.store.elems) := by
  have hinv := Store.canon_inv _ h
  obtain ⟨s1, s2, s3⟩ := Store.remove_spec c.store hinv i hi
  obtain ⟨g1, g2, g3, g4⟩ := guarded_spec c h (c.store.remove i) s1 (Store.remove_isArray _ _) fun hf =>
    Store.elems_ext _ _ s1 hinv fun x => (s2 x).trans
      (and_iff_left_of_imp fun hx hc => of_decide_eq_false (s3.symm.trans hf) (hc ▸ hx))
  exact ⟨g1, g2, fun x => by rw [show (c.remove i).1.store.elems = _ from g3]; exact s2 x, g4.trans s3⟩

/-- `insert_range(s..=e)` with `s ≤ e` (the bitmap level only passes non-empty ranges) -/
theorem insertRange_spec (c : Container) (h : c.store.Inv) (s e : Nat) (hse : s ≤ e) (he : e < 65536) :
    (c.insertRange s e).1.key = c.key ∧ (c.insertRange s e).1.store.Canon ∧
    (∀ x, x ∈ (c.insertRange s e).1.store.elems ↔ (s ≤ x ∧ x ≤ e) ∨ x ∈ c.store.elems) ∧
    (c.insertRange s e).2 = (e - s + 1) - Store.countIn c.store.elems s e := by
  unfold Container.insertRange
  simp only [hse, if_true]
  -- the store the range is inserted into is `c.store`, converted to a bitset first when the range is long
  generalize hst : (if e - s + 1 > ARRAY_LIMIT then _ else c.store) = st
  have hst' : st.Inv ∧ st.elems = c.store.elems := by
    subst hst
    split
    · cases hs : c.store with
      | array v => exact BStore.arrToBitmap_spec v (hs ▸ h : (Store.array v).Inv)
      | bitmap b => exact ⟨(hs ▸ h : (Store.bitmap b).Inv), rfl⟩
    · exact ⟨h, rfl⟩
  obtain ⟨s1, s2, s3⟩ := Store.insertRange_spec st hst'.1 s e hse he
  obtain ⟨e1, e2, e3⟩ := ensureCorrectStore_spec { c with store := (st.insertRange s e).1 } s1
  rw [← hst'.2]
  exact ⟨e3, e1, fun x => by rw [e2]; exact s2 x, s3⟩

theorem removeRange_spec (c : Container) (h : c.store.Inv) (s e : Nat) (hse : s ≤ e) (he : e < 65536) :
    (c.removeRange s e).1.key = c.key ∧ (c.removeRange s e).1.store.Canon ∧
    (∀ x, x ∈ (c.removeRange s e).1.store.elems ↔ x ∈ c.store.elems ∧ ¬ (s ≤ x ∧ x ≤ e)) ∧
    (c.removeRange s e).2 = Store.countIn c.store.elems s e := by
  unfold Container.removeRange
  obtain ⟨s1, s2, s3⟩ := Store.removeRange_spec c.store h s e hse he
  obtain ⟨e1, e2, e3⟩ := ensureCorrectStore_spec { c with store := (c.store.removeRange s e).1 } s1
  exact ⟨e3, e1, fun x => by rw [e2]; exact s2 x, s3⟩

theorem push_spec (c : Container) (h : c.store.Canon) (i : Nat) (hi : i < 65536) :
    (c.push i).1.key = c.key ∧ (c.push i).1.store.Canon ∧
    (c.push i).2 = decide (∀ x ∈ c.store.elems, x < i) ∧
    (c.push i).1.store.elems = if (∀ x ∈ c.store.elems, x < i) then c.store.elems ++ [i] else c.store.elems := by
  obtain ⟨s1, s2, s3⟩ := Store.push_spec c.store (Store.canon_inv _ h) i hi
  obtain ⟨g1, g2, g3, g4⟩ := guarded_spec c h (c.store.push i) s1 (Store.push_isArray _ _) fun hf =>
    s3.trans (if_neg (of_decide_eq_false (s2.symm.trans hf)))
  exact ⟨g1, g2, g4.trans s2, g3.trans s3⟩

theorem pushUnchecked_spec (dbg : Bool) (c : Container) (h : c.store.Inv) (i : Nat) (hi : i < 65536)
    (hmax : ∀ x ∈ c.store.elems, x < i) :
    ∃ c', c.pushUnchecked dbg i = some c' ∧ c'.key = c.key ∧ c'.store.Canon ∧
      c'.store.elems = c.store.elems ++ [i] := by
  obtain ⟨st', p1, p2, p3⟩ := Store.pushUnchecked_spec dbg c.store h i hi hmax
  obtain ⟨e1, e2, e3⟩ := ensureCorrectStore_spec { c with store := st' } p2
  refine ⟨ensureCorrectStore { c with store := st' }, by simp [Container.pushUnchecked, p1], e3, e1, ?_⟩
  rw [e2]; exact p3

/-- a bitset that shrinks to at most 4096 values is rewritten as an array on the spot, otherwise the store-level
    operation runs and the kind stays -/
theorem removeSmallest_spec (c : Container) (h : c.store.Canon) (n : Nat) (hn : n < c.len) :
    (c.removeSmallest n).key = c.key ∧ (c.removeSmallest n).store.Canon ∧
    (c.removeSmallest n).store.elems = c.store.elems.drop n := by
  have hinv := Store.canon_inv _ h
  unfold Container.removeSmallest
  cases hs : c.store with
  | array v =>
    rw [hs] at h hinv
    have hn' : n ≤ v.length := by rw [Container.len, hs] at hn; exact Nat.le_of_lt hn
    obtain ⟨r1, r2⟩ := Arr.removeSmallest_spec v hinv n hn'
    show _ ∧ (Store.array (Arr.removeSmallest v n)).Canon ∧ Arr.removeSmallest v n = v.drop n
    rw [r1]
    exact ⟨rfl, ⟨r2, by rw [List.length_drop]; exact Nat.le_trans (Nat.sub_le _ _) h.2⟩, rfl⟩
  | bitmap b =>
    rw [hs] at h hinv
    have hbl := BStore.length_toArray b hinv
    obtain ⟨r1, r2⟩ := BStore.removeSmallest_spec b hinv n
    dsimp only
    split
    · rename_i hsmall
      refine ⟨rfl, ⟨Arr.inv_sublist (BStore.inv_toArray b hinv) (List.drop_sublist n _), ?_⟩, rfl⟩
      rw [List.length_drop, hbl]; exact hsmall
    · rename_i hbig
      refine ⟨rfl, ⟨r1, ?_⟩, r2⟩
      show 4096 < (b.removeSmallest n).len
      rw [← BStore.length_toArray _ r1, r2, List.length_drop, hbl]; exact Nat.lt_of_not_le hbig

theorem removeBiggest_spec (c : Container) (h : c.store.Canon) (n : Nat) (hn : n < c.len) :
    (c.removeBiggest n).key = c.key ∧ (c.removeBiggest n).store.Canon ∧
    (c.removeBiggest n).store.elems = c.store.elems.take (c.store.elems.length - n) := by
  have hinv := Store.canon_inv _ h
  have _ := hn
  unfold Container.removeBiggest
  cases hs : c.store with
  | array v =>
    rw [hs] at h hinv
    exact ⟨rfl, ⟨Arr.inv_sublist hinv (List.take_sublist _ v), Nat.le_trans (List.take_sublist _ v).length_le h.2⟩, rfl⟩
  | bitmap b =>
    rw [hs] at h hinv
    have hbl := BStore.length_toArray b hinv
    obtain ⟨r1, r2⟩ := BStore.removeBiggest_spec b hinv n
    dsimp only
    split
    · rename_i hsmall
      refine ⟨rfl, ⟨Arr.inv_sublist (BStore.inv_toArray b hinv) (List.take_sublist _ _), ?_⟩, ?_⟩
      · exact Nat.le_trans (List.length_take_le _ _) hsmall
      · show List.take (b.len - n) b.toArray = List.take (b.toArray.length - n) b.toArray
        rw [hbl]
    · rename_i hbig
      refine ⟨rfl, ⟨r1, ?_⟩, r2⟩
      show 4096 < (b.removeBiggest n).len
      rw [← BStore.length_toArray _ r1, r2, List.length_take, hbl, Nat.min_eq_left (Nat.sub_le _ _)]
      exact Nat.lt_of_not_le hbig

theorem new_canon (key : Nat) : (Container.new key).store.Canon := Store.new_canon
theorem new_elems (key : Nat) : (Container.new key).store.elems = [] := rfl

end Container
end Roaring
