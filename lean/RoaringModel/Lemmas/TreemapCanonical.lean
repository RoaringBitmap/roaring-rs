import RoaringModel.Lemmas.TreemapDir
import RoaringModel.Lemmas.Canonical
/-!
# Canonical form of a `RoaringTreemap`: a well-formed treemap is determined by its set of `u64` (C04, 64-bit half)

Well-formed is `TWF` = `WFd Bitmap.WF` (Lemmas/TreemapWF.lean, Lemmas/TreemapDir.lean).
-/
namespace Roaring
namespace Treemap
open TL

/-- what the partition-directory lemmas need from `Bitmap.WF` -/
theorem elems32 : Elems32 Bitmap.WF :=
  ⟨fun b h => Bitmap.sorted_elems b h.dir, fun b h => Bitmap.elems_lt b h.dir⟩

/-- `==` on treemaps (derived `PartialEq` over the `BTreeMap`) is structural equality of the model value -/
theorem eq_iff (s t : Treemap) : Treemap.eq s t = true ↔ s = t := by
  induction s generalizing t with
  | nil => cases t <;> simp [Treemap.eq]
  | cons p s ih =>
    cases t with
    | nil => simp [Treemap.eq]
    | cons q t =>
      simp only [Treemap.eq, Bool.and_eq_true, beq_iff_eq, List.cons.injEq, Prod.ext_iff, ih, Bitmap.eq_iff]

/-- **Canonical form (64-bit).** Two well-formed treemaps with the same elements are the same value: key and values
    determine a partition, by the 32-bit canonical form. -/
theorem canonical : ∀ (s t : Treemap), WFd Bitmap.WF s → WFd Bitmap.WF t → elems s = elems t → s = t := by
  intro s t hs ht h
  rw [elems_eq_blk (hs.lt elems32), elems_eq_blk (ht.lt elems32)] at h
  exact Blk.canonical (hs.ok elems32) (ht.ok elems32) (fun p hp => (hs.parts p hp).2.2) (fun p hp => (ht.parts p hp).2.2)
    (fun p hp q hq hk hl => Prod.ext hk (Bitmap.canonical _ _ (hs.parts p hp).2.1 (ht.parts q hq).2.1 hl)) h

/-- `==` holds exactly when the two treemaps contain the same integers -/
theorem eq_iff_elems (s t : Treemap) (hs : WFd Bitmap.WF s) (ht : WFd Bitmap.WF t) :
    Treemap.eq s t = true ↔ elems s = elems t := by
  rw [eq_iff]
  exact ⟨fun h => by rw [h], canonical s t hs ht⟩

end Treemap
end Roaring
