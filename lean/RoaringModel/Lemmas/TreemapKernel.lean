import RoaringModel.Lemmas.TreemapKernel32
import RoaringModel.Lemmas.TreemapWF
import RoaringModel.Lemmas.BitmapQuery
import RoaringModel.Lemmas.BitmapMut2
/-!
# `kernel32 : Kernel32` — the 32-bit hypotheses of the `C10_*_partial` theorems, proved from the core library

`WF := Bitmap.WF` (Inv.lean); mutators from Lemmas/BitmapMut.lean + BitmapMut2.lean (C01), queries from
Lemmas/BitmapQuery.lean (C07), sortedness and the `u32` bound from Lemmas/Dir.lean, and `RoaringBitmap::full()`
(2^16 full bitset chunks) proved here.
-/
namespace Roaring
namespace Treemap

theorem fullBitmap_WF : Bitmap.WF fullBitmap := by
  unfold fullBitmap
  refine ⟨?_, ?_⟩
  · have : ((List.range 65536).map Container.full).map Container.key = List.range 65536 := by
      rw [List.map_map]
      have : (Container.key ∘ Container.full) = id := by funext k; rfl
      rw [this, List.map_id]
    rw [this]
    exact List.pairwise_lt_range
  · intro c hc
    obtain ⟨k, hk, rfl⟩ := List.mem_map.mp hc
    exact ⟨List.mem_range.mp hk, BStore.inv_full, by show 4096 < 65536; omega⟩

theorem mem_elems_fullBitmap (x : Nat) : x ∈ Bitmap.elems fullBitmap ↔ x < 4294967296 := by
  rw [Bitmap.mem_elems_iff_exists]
  constructor
  · rintro ⟨c, hc, hx⟩
    obtain ⟨k, hk, rfl⟩ := List.mem_map.mp hc
    have hkey : x / 65536 = k := ((Bitmap.mem_cElems (Container.full k) BStore.inv_full x).mp hx).1
    exact Nat.lt_of_div_lt_div (c := 65536) (hkey ▸ List.mem_range.mp hk)
  · intro hx
    refine ⟨Container.full (x / 65536), List.mem_map.mpr ⟨x / 65536,
      List.mem_range.mpr (Nat.div_lt_of_lt_mul hx), rfl⟩, ?_⟩
    rw [Bitmap.mem_cElems (Container.full (x / 65536)) BStore.inv_full]
    exact ⟨rfl, (BStore.mem_toArray_full _).mpr (Nat.mod_lt _ (by omega))⟩

theorem elems_fullBitmap : Bitmap.elems fullBitmap = List.range' 0 4294967296 := by
  apply TL.sorted_ext (Bitmap.sorted_elems _ fullBitmap_WF.dir) List.pairwise_lt_range'
  intro x
  rw [mem_elems_fullBitmap, List.mem_range'_1]
  omega

theorem len_fullBitmap : Bitmap.len fullBitmap = 4294967296 := by
  rw [Bitmap.len_spec _ fullBitmap_WF, elems_fullBitmap, List.length_range']

/-! ### the interval forms of the 32-bit range mutators -/

private theorem le_u32 {e : Nat} (he : e < 4294967296) : e ≤ u32Max := Nat.le_of_lt_succ he

private theorem interval_incl {s e : Nat} (hse : s ≤ e) (he : e < 4294967296) :
    Spec.interval u32Max (.incl s) (.incl e) = some (s, e) := by
  simp [Spec.interval, Spec.upper, Spec.lower, Nat.min_eq_left (le_u32 he), hse]

def kernel32 : Kernel32 where
  WF := Bitmap.WF
  new_WF := ⟨List.Pairwise.nil, fun _ hc => absurd hc (by simp [Bitmap.new])⟩
  elems_sorted := fun b h => Bitmap.sorted_elems b h.dir
  elems_lt := fun b h => Bitmap.elems_lt b h.dir
  isEmpty_spec := fun b h => by rw [Bitmap.isEmpty_spec b h]; exact List.isEmpty_iff
  insert_spec := fun b v h hv => Bitmap.insert_spec b h v hv
  remove_spec := fun b v h _ => Bitmap.remove_spec b h v
  insertRange_spec := fun b s e h hse he => by
    have := Bitmap.insertRange_spec b h (.incl s) (.incl e) (le_u32 (Nat.lt_of_le_of_lt hse he)) (le_u32 he)
    simpa only [Spec.insertRange, interval_incl hse he] using this
  removeRange_spec := fun b s e h hse he => by
    have := Bitmap.removeRange_spec b h (.incl s) (.incl e) (le_u32 (Nat.lt_of_le_of_lt hse he)) (le_u32 he)
    simpa only [Spec.removeRange, interval_incl hse he] using this
  push_spec := fun b v h hv => Bitmap.push_spec b h v hv
  pushUnchecked_spec := fun dbg b v h hv hmax => Bitmap.pushUnchecked_spec dbg b h v hv hmax
  contains_spec := fun b v h _ => Bitmap.contains_spec b h v
  len_spec := fun b h => Bitmap.len_spec b h
  min_spec := fun b h => Bitmap.min?_spec b h
  max_spec := fun b h => Bitmap.max?_spec b h
  rank_spec := fun b v h hv => Bitmap.rank_spec b h v hv
  select_spec := fun b n h _ => Bitmap.select_spec b h n
  full_spec := ⟨fullBitmap_WF, elems_fullBitmap⟩

theorem WF_kernel32 (t : Treemap) : WF kernel32 t ↔ TWF t := Iff.rfl

end Treemap
end Roaring
