import RoaringModel.Lemmas.IterLemmas
/-!
# C03: `size_hint`, `len`, `count`, `fold`, `rfold`, `iter()` on top of the kernel `cKernel`
-/
namespace Roaring
namespace Iter

/-! ### `size_hint_impl` (iter.rs:250) -/

theorem sizeHint_go_spec (cs : List Container) (size : Nat) (hok : ∀ c ∈ cs, c.IterOK)
    (hle : size + (mid cs).length ≤ usizeMax) :
    sizeHint.go cs size = (size + (mid cs).length, some (size + (mid cs).length)) := by
  induction cs generalizing size with
  | nil => rfl
  | cons c cs ih =>
    obtain ⟨_, _, k3⟩ := cKernel.ofContainer c (hok c List.mem_cons_self)
    rw [mid_cons, List.length_append, ← Nat.add_assoc, ← k3] at hle ⊢
    rw [sizeHint.go, if_neg (Nat.not_lt.mpr (Nat.le_trans (Nat.le_add_right _ _) hle))]
    exact ih (size + c.len) (fun d hd => hok d (List.mem_cons_of_mem _ hd)) hle

theorem sizeHint_mk (fr : Option CIter) (cs : List Container) (bk : Option CIter) :
    Iter.sizeHint ⟨fr, cs, bk⟩ = sizeHint.go cs (fr.elim 0 CIter.len + bk.elim 0 CIter.len) := by
  cases fr <;> cases bk <;> rfl

/-- `len()` and `count()` of the optional front / back iterator -/
theorem olen_spec (o : Option CIter) (ho : ∀ c, o = some c → c.Inv) :
    o.elim 0 CIter.len = (orem o).length ∧ o.elim 0 CIter.count = (orem o).length := by
  cases o with
  | none => exact ⟨rfl, rfl⟩
  | some c => exact ⟨CIter.len_spec c (ho c rfl), cKernel.count c (ho c rfl)⟩

/-- `size_hint` is exact (the `checked_add` overflow arm needs more than `usize::MAX` remaining values) -/
theorem sizeHint_spec (it : Iter) (hi : it.Inv) (hlen : it.rem.length ≤ usizeMax) :
    it.sizeHint = (it.rem.length, some it.rem.length) := by
  obtain ⟨fr, cs, bk⟩ := it
  simp only [rem_mk, List.length_append] at hlen ⊢
  rw [sizeHint_mk, (olen_spec fr hi.fi).1, (olen_spec bk hi.bi).1, sizeHint_go_spec cs _ hi.cok (Nat.add_right_comm .. ▸ hlen),
    Nat.add_right_comm]

theorem len?_spec (it : Iter) (hi : it.Inv) (hlen : it.rem.length ≤ usizeMax) :
    it.len? = some it.rem.length := by
  unfold len?
  rw [sizeHint_spec it hi hlen]
  simp

/-! ### `count` (iter.rs:305) -/

theorem sum_len (cs : List Container) (a : Nat) (hok : ∀ c ∈ cs, c.IterOK) :
    (cs.map Container.len).foldl (· + ·) a = a + (mid cs).length := by
  induction cs generalizing a with
  | nil => rfl
  | cons c cs ih =>
    obtain ⟨_, _, k3⟩ := cKernel.ofContainer c (hok c List.mem_cons_self)
    simp only [List.map_cons, List.foldl_cons, mid_cons, List.length_append]
    rw [ih _ (fun d hd => hok d (List.mem_cons_of_mem _ hd)), k3, Nat.add_assoc]

theorem count_mk (fr : Option CIter) (cs : List Container) (bk : Option CIter) :
    Iter.count ⟨fr, cs, bk⟩ =
      fr.elim 0 CIter.count + (cs.map Container.len).foldl (· + ·) 0 + bk.elim 0 CIter.count := by
  cases fr <;> cases bk <;> rfl

theorem count_spec (it : Iter) (hi : it.Inv) : it.count = it.rem.length := by
  obtain ⟨fr, cs, bk⟩ := it
  rw [count_mk, (olen_spec fr hi.fi).2, (olen_spec bk hi.bi).2, sum_len cs _ hi.cok, Nat.zero_add, rem_mk,
    List.length_append, List.length_append]

/-! ### `fold` (iter.rs:287) and `rfold` (iter.rs:357) -/

theorem fold_mid {β : Type} (f : β → Nat → β) (cs : List Container) (acc : β) (hok : ∀ c ∈ cs, c.IterOK) :
    cs.foldl (fun acc c => (CIter.ofContainer c).fold acc f) acc = (mid cs).foldl f acc := by
  induction cs generalizing acc with
  | nil => rfl
  | cons c cs ih =>
    obtain ⟨k1, k2, _⟩ := cKernel.ofContainer c (hok c List.mem_cons_self)
    simp only [List.foldl_cons, mid_cons, List.foldl_append]
    rw [CIter.fold_spec _ k1, k2]
    exact ih _ (fun d hd => hok d (List.mem_cons_of_mem _ hd))

/-- the `frontiter` / `backiter` step of `fold` / `rfold`, if there is such an iterator -/
theorem ofold_spec {β : Type} (o : Option CIter) (ho : ∀ c, o = some c → c.Inv) (init : β) (f : β → Nat → β) :
    (match (generalizing := false) o with | some c => c.fold init f | none => init) = (orem o).foldl f init := by
  cases o with
  | none => rfl
  | some c => exact CIter.fold_spec c (ho c rfl) init f

theorem orfold_spec {β : Type} (o : Option CIter) (ho : ∀ c, o = some c → c.Inv) (init : β) (f : β → Nat → β) :
    (match (generalizing := false) o with | some c => c.rfold init f | none => init) =
      (orem o).reverse.foldl f init := by
  cases o with
  | none => rfl
  | some c => exact CIter.rfold_spec c (ho c rfl) init f

theorem fold_spec {β : Type} (it : Iter) (hi : it.Inv) (init : β) (f : β → Nat → β) :
    it.fold init f = it.rem.foldl f init := by
  unfold Iter.rem
  rw [List.foldl_append, List.foldl_append, ← ofold_spec _ hi.fi, ← fold_mid f _ _ hi.cok, ← ofold_spec _ hi.bi]
  rfl

theorem mid_reverse (cs : List Container) :
    (mid cs).reverse = cs.reverse.flatMap (fun c => c.elems.reverse) := by
  simp only [mid, List.reverse_flatMap]; rfl

theorem rfold_mid {β : Type} (f : β → Nat → β) (rcs : List Container) (acc : β) (hok : ∀ c ∈ rcs, c.IterOK) :
    rcs.foldl (fun acc c => (CIter.ofContainer c).rfold acc f) acc =
      (rcs.flatMap (fun c => c.elems.reverse)).foldl f acc := by
  induction rcs generalizing acc with
  | nil => rfl
  | cons c cs ih =>
    obtain ⟨k1, k2, _⟩ := cKernel.ofContainer c (hok c List.mem_cons_self)
    simp only [List.foldl_cons, List.flatMap_cons, List.foldl_append]
    rw [CIter.rfold_spec _ k1, k2]
    exact ih _ (fun d hd => hok d (List.mem_cons_of_mem _ hd))

theorem rfold_spec {β : Type} (it : Iter) (hi : it.Inv) (init : β) (f : β → Nat → β) :
    it.rfold init f = it.rem.reverse.foldl f init := by
  unfold Iter.rem
  rw [List.reverse_append, List.reverse_append, List.foldl_append, List.foldl_append, mid_reverse,
    ← orfold_spec _ hi.bi, ← rfold_mid f _ _ fun c hc => hi.cok c (List.mem_reverse.mp hc), ← orfold_spec _ hi.fi]
  rfl

theorem iter_spec (b : Bitmap) (hb : b.IterOK) : (Bitmap.iter b).Inv ∧ (Bitmap.iter b).rem = Bitmap.elems b :=
  ⟨⟨hb.1, hb.2, nofun, nofun, nofun, nofun, nofun⟩, List.append_nil _⟩

theorem empty_spec : Iter.empty.Inv ∧ Iter.empty.rem = [] := iter_spec [] ⟨List.Pairwise.nil, nofun⟩

end Iter
end Roaring
