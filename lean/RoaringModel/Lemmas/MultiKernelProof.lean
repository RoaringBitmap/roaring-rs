import RoaringModel.Lemmas.MultiTop
import RoaringModel.Lemmas.BitmapSearchOps
/-!
# C09: the hypothesis structure `Multi.Kernel` holds

`Multi.Kernel` (`Lemmas/MultiKernel.lean`) bundles the facts about code that multiops.rs merely calls.  Here it
is proved — `Multi.kernel : Kernel` — from

* the core library (`Lemmas/StoreFacts.lean`: `Store.sorted_elems`, `Store.elems_lt`, `Store.isEmpty_spec`,
  `Container.ensureCorrectStore_spec`, `Store.wf_of_canon`; `BStore.arrToBitmap_spec`),
* the store-level theorems of the binary algebra (`Store.orAssignOwned_spec` … `Store.xorAssignRef_spec`,
  `Lemmas/StoreOps.lean`, instantiated with `bKernel`), and
* the whole-bitmap theorems of C02 (`Bitmap.andAO_exact`, `andAR_exact`, `subAR_exact`, `Lemmas/BitmapSearchOps.lean`;
  `C02_and_ao`, `C02_and_ar`, `C02_sub_ar` are these), after showing that the copies
  `Multi.andAssignOwned / andAssignRef / subAssignRef` in `MultiOps.lean` *are* the functions
  `Bitmap.andAO / andAR / subAR` of `Ops.lean` (`andAssignOwned_eq`, `andAssignRef_eq`, `subAssignRef_eq`).

With the record inhabited, the file ends with the unconditional statements about the trait impls on an error-free
sequence (`tryMultiOwned_ok`, `tryMultiRef_ok`, `multiOwned_law`, `multiRef_law`): a `Bitmap.WF` value with the elements of
`Spec.multi`.
-/
namespace Roaring.Multi
open Roaring

/-! ## the copies of the three whole-bitmap operators in `MultiOps.lean` are the ones of `Ops.lean` -/

theorem andAssignRef_eq : andAssignRef = Bitmap.andAR := rfl

theorem subAssignRef_eq : subAssignRef = Bitmap.subAR := rfl

theorem subAssignOwned_eq : subAssignOwned = Bitmap.subAO := rfl

/-- the `foldl` over `(kept-so-far reversed, rhs)` of `MultiOps.lean` is the recursion `andAOLoop` of `Ops.lean` -/
theorem andAssignOwned_loop (s : List Container) : ∀ (acc r : List Container),
    (s.foldl (fun (st : List Container × List Container) cont =>
      match Bitmap.search st.2 cont.key with
      | (true, loc) =>
        match st.2[loc]? with
        | some rc =>
          let rhs' := st.2.set loc (Container.new rc.key)
          let c := cont.andAssignOwned rc
          if !c.isEmpty then (c :: st.1, rhs') else (st.1, rhs')
        | none => st
      | (false, _) => st) (acc, r)).1.reverse = acc.reverse ++ Bitmap.andAOLoop s r := by
  induction s with
  | nil => intro acc r; exact (List.append_nil _).symm
  | cons cont cs ih =>
    intro acc r
    rw [List.foldl_cons]
    unfold Bitmap.andAOLoop
    rcases Bitmap.search r cont.key with ⟨_ | _, loc⟩
    · exact ih acc r
    · dsimp only
      cases r[loc]? with
      | none => exact ih acc r
      | some rc =>
        dsimp only
        cases (cont.andAssignOwned rc).isEmpty
        · exact (ih _ _).trans (by rw [List.reverse_cons, List.append_assoc]; rfl)
        · exact ih _ _

theorem andAssignOwned_eq (a b : Bitmap) : andAssignOwned a b = Bitmap.andAO a b := by
  unfold andAssignOwned Bitmap.andAO
  refine (andAssignOwned_loop _ [] _).trans ?_
  by_cases h : b.length < a.length <;> simp [h]

theorem opLaw_of_opSpec {P Q : Prop → Prop → Prop} {op : Store → Store → Store} (h : Store.OpSpec Q op)
    (hPQ : ∀ p q, Q p q ↔ P p q) : OpLaw P op := by
  intro a b ha hb
  have := h a b ((storeValid_iff a).1 ha) ((storeValid_iff b).1 hb)
  exact ⟨(storeValid_iff _).2 this.1, fun i => (this.2 i).trans (hPQ _ _)⟩

theorem por_iff (p q : Prop) : Store.POr p q ↔ POr p q := Iff.rfl

theorem pxor_iff (p q : Prop) : Store.PXor p q ↔ PXor p q := by
  unfold Store.PXor
  show _ ↔ ¬ (p ↔ q)
  by_cases hp : p <;> by_cases hq : q <;> simp [hp, hq]

/-- a whole-bitmap theorem of C02, for the local copy of the operator and the local invariant -/
theorem exact_of_C02 {f g : Bitmap → Bitmap → Bitmap} (hfg : f = g) {sop : List Nat → List Nat → List Nat}
    (h : C02.Exact g sop) (a b : Bitmap) (ha : WF a) (hb : WF b) :
    WF (f a b) ∧ Bitmap.elems (f a b) = sop (Bitmap.elems a) (Bitmap.elems b) := by
  subst hfg
  have := h a b ((wf_iff a).1 ha) ((wf_iff b).1 hb)
  exact ⟨(wf_iff _).2 this.1, this.2⟩

theorem kernel : Kernel where
  elems_sorted := fun s hs => Store.sorted_elems s ((storeValid_iff s).1 hs)
  elems_lt := fun s hs => Store.elems_lt s ((storeValid_iff s).1 hs)
  isEmpty_iff := fun s hs => by
    rw [Store.isEmpty_spec s ((storeValid_iff s).1 hs), List.isEmpty_iff]
  toBitmap := fun s hs => ⟨(toBitmap_spec s hs).1, fun i => by rw [(toBitmap_spec s hs).2]⟩
  orOwned := opLaw_of_opSpec Store.orAssignOwned_spec por_iff
  orRef := opLaw_of_opSpec Store.orAssignRef_spec por_iff
  xorOwned := opLaw_of_opSpec Store.xorAssignOwned_spec pxor_iff
  xorRef := opLaw_of_opSpec Store.xorAssignRef_spec pxor_iff
  ensure := fun c hc hne => by
    have hi := (storeValid_iff _).1 hc
    obtain ⟨h1, h2, _⟩ := Container.ensureCorrectStore_spec c hi
    refine ⟨(storeWF_iff _).2 (Store.wf_of_canon _ h1 ?_), fun i => by rw [h2]⟩
    rw [h2]
    intro hnil
    have : c.isEmpty = true := by
      show c.store.isEmpty = true
      rw [Store.isEmpty_spec _ hi, hnil]; rfl
    rw [this] at hne; exact Bool.noConfusion hne
  andOwned := exact_of_C02 (funext fun a => funext (andAssignOwned_eq a)) Bitmap.andAO_exact
  andRef := exact_of_C02 andAssignRef_eq Bitmap.andAR_exact
  subRef := exact_of_C02 subAssignRef_eq Bitmap.subAR_exact

/-! ## the eight `try_multi_*` functions on an error-free sequence: a well-formed value with the elements of the fold -/

open Roaring.Spec
variable {ε : Type}

theorem tryMultiOwned_ok (op : Op) (h : Hint) (xs : List (Except ε Bitmap)) (hh : Hint.Admissible h xs.length)
    (hwf : ∀ b ∈ okValues xs, Bitmap.WF b) (hfe : firstError xs = none) :
    Outcome (tryMultiOwned op h xs) none (Spec.multi (specOp op) ((okValues xs).map Bitmap.elems)) := by
  have hwf := wf_of_all hwf
  cases op
  · have := orWith_outcome (ownedEngine ε mergeLaw_or kernel.orOwned) sortDesc_isSortDesc hh hwf
    rwa [hfe, ← orOwned_bridge kernel.orOwned] at this
  · exact andWith_ok (andOwnedLaw kernel) sortAsc_isSortAsc hh hwf hfe
  · exact subWith_ok (subOwnedLaw kernel) hwf hfe
  · have := xorWith_outcome (ownedEngine ε mergeLaw_xor kernel.xorOwned) hwf
    rwa [hfe, ← xorOwned_bridge kernel.xorOwned] at this

theorem tryMultiRef_ok (op : Op) (h : Hint) (xs : List (Except ε Bitmap)) (hh : Hint.Admissible h xs.length)
    (hwf : ∀ b ∈ okValues xs, Bitmap.WF b) (hfe : firstError xs = none) :
    Outcome (tryMultiRef op h xs) none (Spec.multi (specOp op) ((okValues xs).map Bitmap.elems)) := by
  have hwf := wf_of_all hwf
  cases op
  · have := orWith_outcome (refEngine ε mergeLaw_or kernel.orRef) sortDesc_isSortDesc hh hwf
    rwa [hfe, ← orRef_bridge kernel.orRef] at this
  · exact andWith_ok (andRefLaw kernel) sortAsc_isSortAsc hh hwf hfe
  · exact subWith_ok (subRefLaw kernel) hwf hfe
  · have := xorWith_outcome (refEngine ε mergeLaw_xor kernel.xorRef) hwf
    rwa [hfe, ← xorRef_bridge kernel.xorRef] at this

/-- the plain trait impls (`impl MultiOps<RoaringBitmap> for I`): a well-formed bitmap with the elements of the fold -/
theorem multiOwned_law (op : Op) (h : Hint) (l : List Bitmap) (hh : Hint.Admissible h l.length)
    (hwf : ∀ b ∈ l, Bitmap.WF b) :
    Bitmap.WF (multiOwned op h l) ∧ Bitmap.elems (multiOwned op h l) = Spec.multi (specOp op) (l.map Bitmap.elems) := by
  have := (tryMultiOwned_ok op h (l.map (Except.ok (ε := Empty))) (by rwa [List.length_map])
    (by rwa [okValues_map_ok]) (firstError_map_ok l)).ok (eq_ok_unwrapInfallible _)
  rw [okValues_map_ok] at this
  exact ⟨(wf_iff _).1 this.1, this.2⟩

theorem multiRef_law (op : Op) (h : Hint) (l : List Bitmap) (hh : Hint.Admissible h l.length)
    (hwf : ∀ b ∈ l, Bitmap.WF b) :
    Bitmap.WF (multiRef op h l) ∧ Bitmap.elems (multiRef op h l) = Spec.multi (specOp op) (l.map Bitmap.elems) := by
  have := (tryMultiRef_ok op h (l.map (Except.ok (ε := Empty))) (by rwa [List.length_map])
    (by rwa [okValues_map_ok]) (firstError_map_ok l)).ok (eq_ok_unwrapInfallible _)
  rw [okValues_map_ok] at this
  exact ⟨(wf_iff _).1 this.1, this.2⟩

end Roaring.Multi
