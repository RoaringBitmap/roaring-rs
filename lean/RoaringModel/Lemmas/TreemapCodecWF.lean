import RoaringModel.Lemmas.TreemapEncodeSpec
import RoaringModel.Lemmas.SpecRoundTrip
import RoaringModel.Lemmas.TreemapCanonical
import RoaringModel.Lemmas.TreemapWF
/-!
# The treemap codec lemmas instantiated at the shared invariant `Bitmap.WF` (`Treemap.WFd Bitmap.WF` = `TWF`)

`Lemmas/TreemapCodec.lean` / `TreemapEncodeSpec.lean` are generic in the 32-bit invariant and in the 32-bit
facts.  Here the 32-bit facts are supplied (`serialize_eq_encode`, `post_deserialize`, `decode_spec`,
`specDecode_serialize`) and the codec's `SerWF` is replaced by the directory invariant `WFd Bitmap.WF` used by every
other treemap family (the two are equivalent for `Bitmap.WF`: a well-formed non-empty bitmap has an element).

Then the strict reference decoder of the portable format, `Spec.decode64`: it accepts what the writer writes
(`specDecode64_serialize`), both treemap decoders follow it through the bucket loop (`decode64_spec`, the 64-bit
C06), and so they invert the writer (`deserialize_serialize_wf`).
-/
namespace Roaring
namespace Treemap
open Parser TL

theorem SerWF.mono {P Q : Bitmap → Prop} (hPQ : ∀ b, P b → Q b) {t : Treemap} (h : SerWF P t) : SerWF Q t :=
  ⟨h.sorted, fun p hp => ⟨(h.parts p hp).1, hPQ _ (h.parts p hp).2.1, (h.parts p hp).2.2⟩⟩

theorem wf_elems_ne_nil {b : Bitmap} (h : Bitmap.WF b) (hne : b ≠ []) : Bitmap.elems b ≠ [] := by
  cases b with
  | nil => exact absurd rfl hne
  | cons c cs =>
    rw [Bitmap.elems_cons]
    exact fun he => Store.wf_elems_ne _ (h.2 c List.mem_cons_self).2
      (List.map_eq_nil_iff.mp (List.append_eq_nil_iff.mp he).1)

theorem serWF_iff (t : Treemap) : SerWF Bitmap.WF t ↔ WFd Bitmap.WF t :=
  ⟨fun h => h.to_WFd (fun _ hb hne => wf_elems_ne_nil hb hne), SerWF.of_WFd⟩

theorem WFd.toSer {t : Treemap} (h : WFd Bitmap.WF t) : SerWF Bitmap.WF t := SerWF.of_WFd h

theorem WFd.length_le {t : Treemap} (h : WFd Bitmap.WF t) : t.length ≤ 4294967296 := h.toSer.length_lt

theorem WFd.insertKV {t : Treemap} (h : WFd Bitmap.WF t) {k : Nat} {b : Bitmap}
    (hk : k < 4294967296) (hb : Bitmap.WF b) (hne : b ≠ []) : WFd Bitmap.WF (insertKV t k b) :=
  (serWF_iff _).mp (h.toSer.insertKV hk hb hne)

theorem WFd.partsOK {t : Treemap} (h : WFd Bitmap.WF t) : PartsOK t :=
  fun p hp => ⟨(h.parts p hp).1, (h.parts p hp).2.2, elems32.lt p.2 (h.parts p hp).2.1⟩

theorem serialize_length_wf (t : Treemap) (h : WFd Bitmap.WF t) :
    (serialize t).length = serializedSize t :=
  serialize_length t fun p hp => Bitmap.serialize_length p.2 (h.parts p hp).2.1.toCodec

theorem serialize_eq_encode64_wf (t : Treemap) (h : WFd Bitmap.WF t) :
    serialize t = Spec.encode64 (elems t) :=
  serialize_eq_encode64 t h.partsOK h.sorted
    (fun p hp => serialize_eq_encode p.2 (h.parts p hp).2.1.toCodec)

theorem post_deserialize_wf (dbg : Bool) : Post (WFd Bitmap.WF) (Treemap.deserializeG readN true dbg) :=
  postG_weaken _ (post_deserializeG true dbg (post_deserialize dbg))
    (fun _ h => (serWF_iff _).mp (h.mono (fun _ hb => hb.toWF)))

theorem decodeBuckets_bucketBytes (t : Treemap) (prev : Option Nat) (rest : List Nat) (h : WFd Bitmap.WF t)
    (hprev : ∀ pk, prev = some pk → ∀ q ∈ t, pk < q.1) :
    Spec.decodeBuckets t.length prev (bucketBytes t ++ rest) = some (elems t, rest) := by
  induction t generalizing prev with
  | nil => rfl
  | cons p t ih =>
    obtain ⟨hk, hwf, _⟩ := h.parts p List.mem_cons_self
    simp only [List.length_cons, bucketBytes, List.flatMap_cons, List.append_assoc]
    unfold Spec.decodeBuckets
    have hg : (guard (prev.all (· < p.1) = true) : Option Unit) = some () := by
      apply guard_true
      cases hp : prev with
      | none => rfl
      | some pk => simpa using hprev pk hp p List.mem_cons_self
    have hrec := ih (some p.1) h.tail
      (fun pk hpk q hq => by
        simp only [Option.some.injEq] at hpk
        rw [← hpk]
        exact (keysSorted_cons.mp h.sorted).1 q hq)
    simp only [bucketBytes] at hrec
    have hel : (Bitmap.elems p.2).map (fun x => p.1 * 4294967296 + x) ++ elems t = elems (p :: t) := by
      rw [elems_cons]
      congr 1
      apply List.map_congr_left
      intro x hx
      exact (join_eq (elems32.lt p.2 hwf x hx)).symm
    simp only [bind, Option.bind, takeN_append _ _ 4 (u32le_length _), leNat_eq, leVal_u32le _ hk, hg,
      specDecode_serialize p.2 hwf.toCodec, hrec, pure, hel]

theorem specDecode64_serialize (t : Treemap) (h : WFd Bitmap.WF t) (rest : List Nat) :
    Spec.decode64 (serialize t ++ rest) = some (elems t, rest) := by
  unfold Spec.decode64
  rw [serialize_eq, List.append_assoc]
  have hn : leVal (u64le t.length) = t.length := leVal_u64le _ (Nat.lt_of_le_of_lt h.length_le (by decide))
  simp only [bind, Option.bind, takeN_append _ _ 8 (u64le_length _), leNat_eq, hn]
  exact decodeBuckets_bucketBytes t none rest h (by simp)

/-- one round of the decoder's bucket loop, `if !b.is_empty() { insert(k, b) }` with `k` above every key so far:
    the bucket's values, under the key, are appended -/
theorem insertBucket_spec {acc : Treemap} (hacc : WFd Bitmap.WF acc) {k : Nat} (hk : k < 4294967296)
    (hlt : ∀ q ∈ acc, q.1 < k) {b : Bitmap} (hwf : Bitmap.WF b) :
    WFd Bitmap.WF (if Bitmap.isEmpty b then acc else insertKV acc k b) ∧
    (∀ q ∈ (if Bitmap.isEmpty b then acc else insertKV acc k b), q.1 ≤ k) ∧
    elems (if Bitmap.isEmpty b then acc else insertKV acc k b) =
      elems acc ++ (Bitmap.elems b).map (k * 4294967296 + ·) := by
  cases hb : b with
  | nil => exact ⟨hacc, fun q hq => Nat.le_of_lt (hlt q hq), (List.append_nil _).symm⟩
  | cons c cs =>
    rw [← hb, show Bitmap.isEmpty b = false by rw [hb]; rfl]
    refine ⟨hacc.insertKV hk hwf (by rw [hb]; exact List.cons_ne_nil _ _), ?_, ?_⟩
    · rw [insertKV_append_last acc k b hlt]
      intro q hq
      rcases List.mem_append.mp hq with hq | hq
      · exact Nat.le_of_lt (hlt q hq)
      · rw [List.mem_singleton.mp hq]
        exact Nat.le_refl _
    · rw [if_neg Bool.false_ne_true, insertKV_append_last acc k b hlt, elems_append, elems_cons]
      simp only [elems, List.flatMap_nil, List.append_nil]
      congr 1
      exact List.map_congr_left fun x hx => join_eq (elems32.lt b hwf x hx)

/-- the bucket loop: `prev` bounds the keys collected so far -/
theorem decodeBuckets_spec (n : Nat) (prev : Option Nat) (bs S rest : List Nat) (acc : Treemap)
    (hb : IsBytes bs) (h : Spec.decodeBuckets n prev bs = some (S, rest)) (hacc : WFd Bitmap.WF acc)
    (hprev : ∀ q ∈ acc, ∃ pk, prev = some pk ∧ q.1 ≤ pk) :
    ∃ t, (∀ chk dbg, decodeParts readN chk dbg n acc bs = .ok (t, rest)) ∧ WFd Bitmap.WF t ∧
      elems t = elems acc ++ S := by
  induction n generalizing prev bs S acc with
  | zero =>
    cases h
    exact ⟨acc, fun _ _ => rfl, hacc, (List.append_nil _).symm⟩
  | succ n ih =>
    unfold Spec.decodeBuckets at h
    simp only [bind, Option.bind_eq_some_iff, Prod.exists, guard_some_iff, pure] at h
    obtain ⟨kb, r1, h1, _, hg, lows, r2, h2, more, r3, h3, h4⟩ := h
    simp only [Option.some.injEq, Prod.mk.injEq] at h4
    obtain ⟨rfl, rfl⟩ := h4
    obtain ⟨hrd, hlen, _⟩ := takeN_some h1
    obtain ⟨hkbB, hr1B⟩ := takeN_bytes hb h1
    rw [leNat_eq] at hg h3
    have hk : leVal kb < 256 ^ 4 := hlen ▸ leVal_lt kb hkbB
    obtain ⟨b, hd, hwf, hel⟩ := decode_spec r1 lows r2 hr1B h2
    have hr2B : IsBytes r2 :=
      isBytes_suffix (rest_suffix _ (Parser.mono_deserializeG false false) r1 b r2 (hd false false)) hr1B
    have hlt : ∀ q ∈ acc, q.1 < leVal kb := by
      intro q hq
      obtain ⟨pk, hpk, hle⟩ := hprev q hq
      rw [hpk] at hg
      simp only [Option.all_some, decide_eq_true_eq] at hg
      exact Nat.lt_of_le_of_lt hle hg
    obtain ⟨hw', hk', he'⟩ := insertBucket_spec hacc hk hlt hwf
    obtain ⟨t, ht, htw, hte⟩ := ih (some (leVal kb)) r2 more _ hr2B h3 hw' fun q hq => ⟨_, rfl, hk' q hq⟩
    refine ⟨t, fun chk dbg => ?_, htw, ?_⟩
    · have hd := hd chk dbg
      unfold decodeParts
      unfold Roaring.deserialize at hd
      rw [bind_ok _ _ _ _ _ hrd, bind_ok _ _ _ _ _ hd]
      exact ht chk dbg
    · rw [hte, he', hel, List.append_assoc, leNat_eq]

theorem decode64_spec (bs S rest : List Nat) (hb : IsBytes bs) (h : Spec.decode64 bs = some (S, rest)) :
    ∃ t, (∀ chk dbg, Treemap.deserialize chk dbg bs = .ok (t, rest)) ∧ WFd Bitmap.WF t ∧ elems t = S := by
  unfold Spec.decode64 at h
  simp only [bind, Option.bind_eq_some_iff, Prod.exists] at h
  obtain ⟨cb, r, h1, h2⟩ := h
  rw [leNat_eq] at h2
  obtain ⟨t, ht, htw, hte⟩ :=
    decodeBuckets_spec (leVal cb) none r S rest [] (takeN_bytes hb h1).2 h2 WFd.nil (by simp)
  refine ⟨t, fun chk dbg => ?_, htw, by simpa [elems] using hte⟩
  unfold Treemap.deserialize Treemap.deserializeG
  rw [bind_ok _ _ _ _ _ (takeN_some h1).1]
  exact ht chk dbg

theorem serialize_isBytes (t : Treemap) : IsBytes (serialize t) :=
  isBytes_append (u64le_bytes _)
    (isBytes_flatMap _ _ fun p _ => isBytes_append (u32le_bytes _) (Roaring.serialize_isBytes p.2))

/-- both decoders, both build configurations, invert the writer and leave what follows: the reference decoder
    accepts the stream with the value's elements, so the decoder returns a well-formed value with these elements,
    which is the value itself; what follows the stream is not looked at -/
theorem deserialize_serialize_wf (chk dbg : Bool) (t : Treemap) (h : WFd Bitmap.WF t) (rest : List Nat) :
    Treemap.deserialize chk dbg (serialize t ++ rest) = .ok (t, rest) := by
  have hs := specDecode64_serialize t h []
  rw [List.append_nil] at hs
  obtain ⟨t', hd, hwf, he⟩ := decode64_spec _ _ _ (serialize_isBytes t) hs
  rw [canonical t' t hwf h he] at hd
  exact append_rest _ (mono_deserializeG chk dbg) _ t (hd chk dbg) rest

end Treemap
end Roaring
