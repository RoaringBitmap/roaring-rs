import RoaringModel.IterStep
import RoaringModel.Lemmas.BIterDefs
/-!
# C03: abstraction (`rem`), invariants and the container-level kernel interface

* `SIter.rem / CIter.rem / Iter.rem` — the values an iterator has still to yield, ascending.
* `Store.IterOK / Container.IterOK / Bitmap.IterOK` — the part of well-formedness that iteration relies on
  (implied by `Bitmap.WF`: no 4096 threshold and no non-emptiness is needed here).
* `Iter.Inv` — keys of front < middle chunks < back, every part well-formed.
* `CKernel` — the facts about one `container::Iter` that the bitmap-level proofs use (the "named kernel
  hypothesis" of DESIGN §5); it is *proved* in `Lemmas/CIterLemmas.lean` (`cKernel : CKernel`), so no theorem
  of `Props/C03.lean` keeps it as a hypothesis.
-/
namespace Roaring

abbrev SortedLt (l : List Nat) : Prop := l.Pairwise (· < ·)

/-! ### what iteration needs from a store / container / bitmap -/

def Store.IterOK : Store → Prop
  | .array v => SortedLt v ∧ ∀ x ∈ v, x < 65536
  | .bitmap b => b.bits.length = 1024 ∧ (∀ w ∈ b.bits, w < 2^64) ∧ b.len = BStore.popSum b.bits

def Container.IterOK (c : Container) : Prop := c.store.IterOK

def Bitmap.IterOK (b : Bitmap) : Prop :=
  SortedLt (b.map (·.key)) ∧ ∀ c ∈ b, c.IterOK

/-! ### remaining values -/

namespace BIter
open BStore (word)

/-- invariant of a `BitmapIter` (established by `new` on 1024 words `< 2^64`, preserved by every method) -/
structure Inv (it : BIter) : Prop where
  v : it.value < 2^64
  vb : it.valueBack < 2^64
  ws : ∀ k, word it.bits k < 2^64
  /-- "if key_back <= key, current back value is actually in `value`" -/
  live : it.keyBack ≤ it.key → it.keyBack = it.key ∨ it.value = 0
  kb : it.keyBack ≤ 1023

end BIter

def SIter.rem : SIter → List Nat
  | .array w => w
  | .bitmap it => it.rem

def SIter.Inv : SIter → Prop
  | .array w => SortedLt w ∧ ∀ x ∈ w, x < 65536
  | .bitmap it => it.Inv

def CIter.rem (c : CIter) : List Nat := c.inner.rem.map (fun i => c.key * 65536 + i)
def CIter.Inv (c : CIter) : Prop := c.inner.Inv

/-- remaining values of an optional front / back iterator -/
def orem : Option CIter → List Nat
  | none => []
  | some c => c.rem

/-- the values of the untouched middle chunks -/
def mid (cs : List Container) : List Nat := cs.flatMap Container.elems

def Iter.rem (it : Iter) : List Nat := orem it.front ++ mid it.containers ++ orem it.back

structure Iter.Inv (it : Iter) : Prop where
  sorted : SortedLt (it.containers.map (·.key))
  cok : ∀ c ∈ it.containers, c.IterOK
  fi : ∀ f, it.front = some f → f.Inv
  bi : ∀ b, it.back = some b → b.Inv
  fr : ∀ f, it.front = some f → ∀ c ∈ it.containers, f.key < c.key
  bk : ∀ b, it.back = some b → ∀ c ∈ it.containers, c.key < b.key
  fb : ∀ f b, it.front = some f → it.back = some b → f.key < b.key

/-! ### container-level kernel interface -/

structure CKernel : Prop where
  next : ∀ c : CIter, c.Inv →
    c.next.2 = c.rem.head? ∧ c.next.1.rem = c.rem.tail ∧ c.next.1.Inv ∧ c.next.1.key = c.key
  nextBack : ∀ c : CIter, c.Inv →
    c.nextBack.2 = c.rem.getLast? ∧ c.nextBack.1.rem = c.rem.dropLast ∧ c.nextBack.1.Inv ∧ c.nextBack.1.key = c.key
  nth : ∀ (c : CIter) (n : Nat), c.Inv →
    (c.nth n).2 = c.rem[n]? ∧ (c.nth n).1.rem = c.rem.drop (n + 1) ∧ (c.nth n).1.Inv ∧ (c.nth n).1.key = c.key
  advanceTo : ∀ (c : CIter) (i : Nat), c.Inv → i < 65536 →
    (c.advanceTo i).rem = c.rem.filter (fun x => decide (c.key * 65536 + i ≤ x)) ∧ (c.advanceTo i).Inv
      ∧ (c.advanceTo i).key = c.key
  advanceBackTo : ∀ (c : CIter) (i : Nat), c.Inv → i < 65536 →
    (c.advanceBackTo i).rem = c.rem.filter (fun x => decide (x ≤ c.key * 65536 + i)) ∧ (c.advanceBackTo i).Inv
      ∧ (c.advanceBackTo i).key = c.key
  sizeHint : ∀ c : CIter, c.Inv → c.sizeHint = (c.rem.length, some c.rem.length)
  count : ∀ c : CIter, c.Inv → c.count = c.rem.length
  rem_hi : ∀ c : CIter, c.Inv → ∀ x ∈ c.rem, x / 65536 = c.key
  rem_sorted : ∀ c : CIter, c.Inv → SortedLt c.rem
  ofContainer : ∀ c : Container, c.IterOK →
    (CIter.ofContainer c).Inv ∧ (CIter.ofContainer c).rem = c.elems ∧ c.len = c.elems.length

end Roaring
