import RoaringModel.Lemmas.TreemapIntoIter
import RoaringModel.Lemmas.TreemapIter32
import RoaringModel.Lemmas.IterFoldLemmas
/-!
# The specialised `fold` / `rfold` / `len` of `treemap::IntoIter`

`IntoIter::fold` (iter.rs:328) does not loop over `next()`: it is `FlattenCompat::fold` over `To64IntoIter::fold`
over the 32-bit `bitmap::IntoIter::fold`, and rebuilds each value with `+` instead of `join`'s `|`
(`IntoIter.fold`, TreemapIter.lean).  Here it is proved equal to the fold over the remaining values, hence to the
`while let Some(x) = self.next()` loop (`IntoIter.foldNext`) — `fold_mirror_eq` / `rfold_mirror_eq`.
-/
namespace Roaring
namespace TIter
open TL Treemap

/-! ### the default loops over `next` / `next_back` (any inner cursor) -/

section generic
variable {K : Inner} (S : InnerSpec K)

/-- the `while let Some(x) = self.next()` loop folds exactly the remaining values, front to back -/
theorem IntoIter.foldNext_spec {β : Type} (f : β → Nat → β) (fuel : Nat) (it : IntoIter K) (acc : β)
    (h : it.Inv S) (hl : (it.rem S).length ≤ fuel) : IntoIter.foldNext f fuel it acc = (it.rem S).foldl f acc := by
  induction fuel generalizing it acc with
  | zero => rw [List.eq_nil_of_length_eq_zero (Nat.le_zero.mp hl)]; rfl
  | succ n ih =>
    obtain ⟨h1, h2, h3⟩ := IntoIter.next_spec S it h
    unfold IntoIter.foldNext
    cases hr : it.rem S with
    | nil =>
      rw [hr] at h3
      rw [show it.next = (it.next.1, none) from Prod.ext rfl h3]
      rfl
    | cons x r =>
      rw [hr] at h2 h3 hl
      rw [show it.next = (it.next.1, some x) from Prod.ext rfl h3]
      exact (ih _ _ h1 (by rw [h2]; exact Nat.le_of_succ_le_succ hl)).trans (by rw [h2]; rfl)

/-- the `while let Some(x) = self.next_back()` loop folds exactly the remaining values, back to front -/
theorem IntoIter.rfoldNextBack_spec {β : Type} (f : β → Nat → β) (fuel : Nat) (it : IntoIter K) (acc : β)
    (h : it.Inv S) (hl : (it.rem S).length ≤ fuel) :
    IntoIter.rfoldNextBack f fuel it acc = (it.rem S).reverse.foldl f acc := by
  induction fuel generalizing it acc with
  | zero => rw [List.eq_nil_of_length_eq_zero (Nat.le_zero.mp hl)]; rfl
  | succ n ih =>
    obtain ⟨h1, h2, h3⟩ := IntoIter.nextBack_spec S it h
    unfold IntoIter.rfoldNextBack
    rcases eq_nil_or_snoc (it.rem S) with hr | ⟨r, x, hr⟩
    · rw [hr] at h3 ⊢
      rw [show it.nextBack = (it.nextBack.1, none) from Prod.ext rfl h3]
      rfl
    · rw [hr, List.dropLast_concat] at h2
      rw [hr, List.getLast?_concat] at h3
      rw [hr, List.length_append] at hl
      rw [show it.nextBack = (it.nextBack.1, some x) from Prod.ext rfl h3, hr, List.reverse_append]
      exact (ih _ _ h1 (by rw [h2]; exact Nat.le_of_succ_le_succ hl)).trans (by rw [h2]; rfl)

/-- `ExactSizeIterator::len` (`self.size_hint as usize`) agrees with `size_hint().0` as long as the counter is a
    `u64` (it is the `u64` sum of the partition cardinalities, decremented) -/
theorem IntoIter.exactLen_eq (it : IntoIter K) (h : it.sizeHint < 18446744073709551616) :
    it.exactLen = it.sizeHintPair.1 := by
  unfold IntoIter.exactLen IntoIter.sizeHintPair usizeMax
  rw [Nat.mod_eq_of_lt h]
  by_cases h' : it.sizeHint < 18446744073709551615
  · rw [if_pos h']
  · rw [if_neg h']
    exact Nat.le_antisymm (Nat.le_of_lt_succ h) (Nat.le_of_not_lt h')

/-- … and is the exact number of remaining values -/
theorem IntoIter.exactLen_spec (it : IntoIter K) (h : it.Inv S) (hfit : (it.rem S).length < 18446744073709551616) :
    it.exactLen = (it.rem S).length := by
  unfold IntoIter.exactLen; rw [h.size, Nat.mod_eq_of_lt hfit]

end generic

/-! ### the specialised folds over the mirrored 32-bit iterator -/

/-- `((hi as u64) << 32) + (lo as u64)` is `util::join(hi, lo)` for a `u32` low half -/
theorem shl_add_eq_join {hi lo : Nat} (h : lo < 4294967296) : (hi <<< 32) + lo = join hi lo := by
  rw [Treemap.join_eq h, Nat.shiftLeft_eq]

theorem foldl_congr_mem {β : Type} (g h : β → Nat → β) (l : List Nat) (a : β)
    (hx : ∀ x ∈ l, ∀ b, g b x = h b x) : l.foldl g a = l.foldl h a := by
  induction l generalizing a with
  | nil => rfl
  | cons x l ih =>
    rw [List.foldl_cons, List.foldl_cons, hx x (List.mem_cons_self ..) a]
    exact ih _ fun y hy => hx y (List.mem_cons_of_mem _ hy)

private abbrev S32 : InnerSpec Inner.iter32 := InnerSpec.iter32

/-- iter.rs:77 `To64IntoIter::fold` folds the remaining values of the partition cursor, front to back -/
theorem To64.fold32_spec {β : Type} (c : To64 Inner.iter32) (h : CInv S32 c) (init : β) (f : β → Nat → β) :
    c.fold32 init f = (crem S32 c).foldl f init := by
  have hw : C03.IterWF (show _root_.Roaring.Iter from c.inner) := h.1
  unfold To64.fold32
  rw [Iter.fold_spec _ hw.1]
  show _ = ((show _root_.Roaring.Iter from c.inner).rem.map (join c.hi)).foldl f init
  rw [List.foldl_map]
  apply foldl_congr_mem
  intro x hx b
  rw [shl_add_eq_join (S32.rem_lt c.inner h.1 x hx)]

/-- iter.rs:92 `To64IntoIter::rfold` folds them back to front -/
theorem To64.rfold32_spec {β : Type} (c : To64 Inner.iter32) (h : CInv S32 c) (init : β) (f : β → Nat → β) :
    c.rfold32 init f = (crem S32 c).reverse.foldl f init := by
  have hw : C03.IterWF (show _root_.Roaring.Iter from c.inner) := h.1
  unfold To64.rfold32
  rw [Iter.rfold_spec _ hw.1]
  show _ = ((show _root_.Roaring.Iter from c.inner).rem.map (join c.hi)).reverse.foldl f init
  rw [← List.map_reverse, List.foldl_map]
  apply foldl_congr_mem
  intro x hx b
  rw [shl_add_eq_join (S32.rem_lt c.inner h.1 x (List.mem_reverse.mp hx))]

/-- the middle of `FlattenCompat::fold`: every untouched partition through `to64intoiter(p).fold` -/
theorem fold_mid {β : Type} (f : β → Nat → β) (r : Treemap) (acc : β) (h : RInv S32 r) :
    r.foldl (fun acc p => (to64 Inner.iter32 p).fold32 acc f) acc = (elems r).foldl f acc := by
  induction r generalizing acc with
  | nil => rfl
  | cons p r ih =>
    have hp := h.parts p (List.mem_cons_self ..)
    rw [List.foldl_cons, To64.fold32_spec _ (to64_inv S32 hp).1, (to64_inv S32 hp).2, ih _ h.tail,
      elems_cons, List.foldl_append]

/-- the middle of `FlattenCompat::rfold`: the untouched partitions in reverse through `to64intoiter(p).rfold` -/
theorem rfold_mid {β : Type} (f : β → Nat → β) (r : Treemap) (acc : β) (h : RInv S32 r) :
    r.reverse.foldl (fun acc p => (to64 Inner.iter32 p).rfold32 acc f) acc = (elems r).reverse.foldl f acc := by
  induction r generalizing acc with
  | nil => rfl
  | cons p r ih =>
    have hp := h.parts p (List.mem_cons_self ..)
    rw [List.reverse_cons, List.foldl_append, List.foldl_cons, List.foldl_nil, ih _ h.tail,
      To64.rfold32_spec _ (to64_inv S32 hp).1, (to64_inv S32 hp).2, elems_cons, List.reverse_append,
      List.foldl_append]

/-- the `frontiter` / `backiter` step of `FlattenCompat::fold` / `rfold`, if there is such a cursor -/
theorem ofold32_spec {β : Type} (o : Option (To64 Inner.iter32)) (h : ∀ c, o = some c → CInv S32 c) (init : β)
    (f : β → Nat → β) :
    (match (generalizing := false) o with | some c => c.fold32 init f | none => init) = (orem S32 o).foldl f init := by
  cases o with
  | none => rfl
  | some c => exact To64.fold32_spec c (h c rfl) init f
theorem orfold32_spec {β : Type} (o : Option (To64 Inner.iter32)) (h : ∀ c, o = some c → CInv S32 c) (init : β)
    (f : β → Nat → β) :
    (match (generalizing := false) o with | some c => c.rfold32 init f | none => init) =
      (orem S32 o).reverse.foldl f init := by
  cases o with
  | none => rfl
  | some c => exact To64.rfold32_spec c (h c rfl) init f

/-- **iter.rs:328 `IntoIter::fold`** folds exactly the remaining values, in ascending order -/
theorem IntoIter.fold_spec {β : Type} (it : IntoIter Inner.iter32) (h : it.Inv S32) (init : β) (f : β → Nat → β) :
    it.fold init f = (it.rem S32).foldl f init := by
  unfold IntoIter.rem
  rw [List.foldl_append, List.foldl_append, ← ofold32_spec _ h.fr, ← fold_mid f _ _ h.range, ← ofold32_spec _ h.bk]
  rfl

/-- **iter.rs:344 `IntoIter::rfold`** folds exactly the remaining values, in descending order -/
theorem IntoIter.rfold_spec {β : Type} (it : IntoIter Inner.iter32) (h : it.Inv S32) (init : β) (f : β → Nat → β) :
    it.rfold init f = (it.rem S32).reverse.foldl f init := by
  unfold IntoIter.rem
  rw [List.reverse_append, List.reverse_append, List.foldl_append, List.foldl_append, ← orfold32_spec _ h.bk,
    ← rfold_mid f _ _ h.range, ← orfold32_spec _ h.fr]
  rfl

/-- **mirror equality**: the specialised `IntoIter::fold` returns what the default `while let Some(x) = next()`
    loop returns (any fuel that covers the remaining values) -/
theorem IntoIter.fold_mirror_eq {β : Type} (it : IntoIter Inner.iter32) (h : it.Inv S32) (init : β) (f : β → Nat → β)
    (fuel : Nat) (hf : (it.rem S32).length ≤ fuel) :
    it.fold init f = IntoIter.foldNext f fuel it init := by
  rw [IntoIter.fold_spec it h, IntoIter.foldNext_spec S32 f fuel it init h hf]

/-- **mirror equality** for `rfold` / the `next_back()` loop -/
theorem IntoIter.rfold_mirror_eq {β : Type} (it : IntoIter Inner.iter32) (h : it.Inv S32) (init : β) (f : β → Nat → β)
    (fuel : Nat) (hf : (it.rem S32).length ≤ fuel) :
    it.rfold init f = IntoIter.rfoldNextBack f fuel it init := by
  rw [IntoIter.rfold_spec it h, IntoIter.rfoldNextBack_spec S32 f fuel it init h hf]

end TIter
end Roaring
