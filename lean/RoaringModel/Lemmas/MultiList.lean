import RoaringModel.MultiOps
import RoaringModel.SpecMulti
/-!
# C09: the control skeleton of multiops.rs — collection, sorting, loops, `Result` plumbing

Pure list reasoning, independent of the store kernels.
-/
namespace Roaring.Multi
open Roaring Roaring.Spec

variable {ε α : Type}

theorem eq_map_ok_of_firstError_none : ∀ (xs : List (Except ε α)), firstError xs = none → xs = (okValues xs).map .ok
  | [], _ => rfl
  | .ok a :: r, h => congrArg (.ok a :: ·) (eq_map_ok_of_firstError_none r h)

@[simp] theorem firstError_map_ok : ∀ l : List α, firstError (l.map (Except.ok (ε := ε))) = none
  | [] => rfl
  | _ :: l => firstError_map_ok l

@[simp] theorem okValues_map_ok : ∀ l : List α, okValues (l.map (Except.ok (ε := ε))) = l
  | [] => rfl
  | a :: l => congrArg (a :: ·) (okValues_map_ok l)

theorem firstError_append (a b : List (Except ε α)) : firstError (a ++ b) = (firstError a).or (firstError b) := by
  induction a with
  | nil => rfl
  | cons x a ih =>
    cases x with
    | error e => rfl
    | ok x => exact ih

theorem okValues_append (a b : List (Except ε α)) : okValues (a ++ b) = okValues a ++ okValues b := by
  induction a with
  | nil => rfl
  | cons x a ih =>
    cases x with
    | error e => exact ih
    | ok x => exact congrArg (x :: ·) ih

theorem mem_okValues {r : α} {xs : List (Except ε α)} (h : Except.ok r ∈ xs) : r ∈ okValues xs := by
  induction xs with
  | nil => cases h
  | cons x xs ih =>
    rcases List.mem_cons.1 h with rfl | h'
    · exact List.mem_cons_self ..
    · cases x with
      | error e => exact ih h'
      | ok a => exact List.mem_cons_of_mem _ (ih h')

theorem firstError_eq_some {xs : List (Except ε α)} {e : ε} (h : firstError xs = some e) :
    (∃ t, xs = .error e :: t) ∨ ∃ a t, xs = .ok a :: t ∧ firstError t = some e :=
  match xs, h with
  | .error _ :: t, h => .inl ⟨t, by cases h; rfl⟩
  | .ok a :: t, h => .inr ⟨a, t, rfl, h⟩

theorem firstError_take_drop (n : Nat) (xs : List (Except ε α)) :
    firstError xs = (firstError (xs.take n)).or (firstError (xs.drop n)) := by
  rw [← firstError_append, List.take_append_drop]

theorem okValues_split (n : Nat) (xs : List (Except ε α)) :
    okValues xs = okValues (xs.take n) ++ okValues (xs.drop n) := by
  rw [← okValues_append, List.take_append_drop]

theorem eq_ok_unwrapInfallible : ∀ r : Except Empty α, r = .ok (unwrapInfallible r)
  | .ok _ => rfl

theorem collectLoop_eq (n : Nat) (xs : List (Except ε α)) :
    collectLoop n xs = match firstError (xs.take n) with
      | some e => .error e
      | none => .ok (okValues (xs.take n), xs.drop n) := by
  induction n generalizing xs with
  | zero => rfl
  | succ n ih =>
    match xs with
    | [] => rfl
    | .error _ :: _ => rfl
    | .ok x :: rest =>
      rw [collectLoop, ih rest]
      simp only [List.take_succ_cons, List.drop_succ_cons, firstError, okValues]
      cases firstError (rest.take n) <;> rfl

theorem collectStart_eq (h : Hint) (xs : List (Except ε α)) :
    collectStart h xs = match firstError (xs.take (toCollect h xs.length)) with
      | some e => .error e
      | none => .ok (okValues (xs.take (toCollect h xs.length)), xs.drop (toCollect h xs.length)) :=
  collectLoop_eq _ _

theorem collectStart_nil (h : Hint) : collectStart (ε := ε) (α := α) h [] = .ok ([], []) := by
  unfold collectStart
  cases toCollect h _ <;> rfl

/-- the `size_hint`s under which `to_collect` is not zero on a non-empty iterator; every truthful one is
    (`admissible_none`, `admissible_upper`, `admissible_exact` below) -/
def Hint.Admissible (h : Hint) (n : Nat) : Prop := 0 < toCollect h n ∨ n = 0

/-- `to_collect` is zero only when the iterator answers `Some(0)` -/
theorem toCollect_pos {h : Hint} {n : Nat} (hb : h.upperBound n ≠ some 0) : 0 < toCollect h n := by
  unfold toCollect
  dsimp only
  split
  · decide
  · cases hu : h.upperBound n with
    | none => decide
    | some k => exact Nat.pos_of_ne_zero fun hk => hb (hk ▸ hu)

theorem Hint.admissible_none (n : Nat) : Hint.Admissible .none n := .inl (toCollect_pos nofun)

/-- every positive upper bound is admissible, truthful or not … -/
theorem Hint.admissible_upper_pos (k n : Nat) (hk : 0 < k) : Hint.Admissible (.upper k) n :=
  .inl (toCollect_pos fun e => by cases e; exact Nat.lt_irrefl 0 hk)

/-- … and so is every *truthful* one (`n ≤ k`) -/
theorem Hint.admissible_upper (k n : Nat) (hk : n ≤ k) : Hint.Admissible (.upper k) n := by
  rcases Nat.eq_zero_or_pos k with rfl | hp
  · exact .inr (Nat.le_zero.1 hk)
  · exact Hint.admissible_upper_pos k n hp

theorem Hint.admissible_exact (n : Nat) : Hint.Admissible .exact n := by
  rcases Nat.eq_zero_or_pos n with rfl | hp
  · exact .inr rfl
  · exact .inl (toCollect_pos fun e => by cases e; exact Nat.lt_irrefl 0 hp)

/-- What `collect_starting_elements` hands over: the first error of the sequence if it is among the items
    collected; otherwise the collected values `start` and the rest of the iterator — with the same first error and
    the same `Ok` values as the whole, and, under an admissible `size_hint`, `start` empty only for the empty
    sequence. -/
theorem collectStart_cases (h : Hint) (xs : List (Except ε α)) :
    (∃ e, collectStart h xs = .error e ∧ firstError xs = some e) ∨
    ∃ start iter, collectStart h xs = .ok (start, iter) ∧ firstError iter = firstError xs ∧
      okValues xs = start ++ okValues iter ∧ (Hint.Admissible h xs.length → start = [] → xs = []) := by
  rw [collectStart_eq]
  have hfe := firstError_take_drop (toCollect h xs.length) xs
  unfold Hint.Admissible
  generalize toCollect h xs.length = t at *
  cases h1 : firstError (xs.take t) with
  | some e => exact .inl ⟨e, rfl, by rw [hfe, h1]; rfl⟩
  | none =>
    refine .inr ⟨_, _, rfl, by rw [hfe, h1]; rfl, okValues_split t xs, fun hh h0 => ?_⟩
    have htake := eq_map_ok_of_firstError_none _ h1
    rw [h0, List.map_nil, List.take_eq_nil_iff] at htake
    rcases htake with rfl | rfl
    · exact List.length_eq_zero_iff.1 (hh.resolve_left (Nat.lt_irrefl 0))
    · rfl

/-- what is assumed of `sort_unstable_by_key(key)`: *some* permutation that is ascending in the key -/
structure IsSortAsc (key : α → Nat) (sort : List α → List α) : Prop where
  perm : ∀ l, (sort l).Perm l
  sorted : ∀ l, (sort l).Pairwise (fun a b => key a ≤ key b)

/-- what is assumed of `sort_unstable_by_key(Reverse(key))` -/
structure IsSortDesc (key : α → Nat) (sort : List α → List α) : Prop where
  perm : ∀ l, (sort l).Perm l
  sorted : ∀ l, (sort l).Pairwise (fun a b => key b ≤ key a)

theorem insertByKey_perm (key : α → Nat) (x : α) (l : List α) : (insertByKey key x l).Perm (x :: l) := by
  induction l with
  | nil => exact .refl _
  | cons y ys ih =>
    unfold insertByKey
    split
    · exact .refl _
    · exact (ih.cons y).trans (.swap x y ys)

theorem insertByKey_sorted (key : α → Nat) (x : α) (l : List α)
    (h : l.Pairwise (fun a b => key a ≤ key b)) : (insertByKey key x l).Pairwise (fun a b => key a ≤ key b) := by
  induction l with
  | nil => exact List.pairwise_singleton ..
  | cons y ys ih =>
    obtain ⟨hy, hys⟩ := List.pairwise_cons.1 h
    unfold insertByKey
    split
    · next hxy =>
      exact List.pairwise_cons.2 ⟨List.forall_mem_cons.2 ⟨hxy, fun z hz => Nat.le_trans hxy (hy z hz)⟩, h⟩
    · next hxy =>
      refine List.pairwise_cons.2 ⟨fun z hz => ?_, ih hys⟩
      rcases List.mem_cons.1 ((insertByKey_perm key x ys).mem_iff.1 hz) with rfl | hz
      · exact Nat.le_of_not_le hxy
      · exact hy z hz

theorem sortByKey_isSortAsc (key : α → Nat) : IsSortAsc key (sortByKey key) where
  perm l := by
    induction l with
    | nil => exact .refl _
    | cons x xs ih => exact (insertByKey_perm key x _).trans (ih.cons x)
  sorted l := by
    induction l with
    | nil => exact .nil
    | cons x xs ih => exact insertByKey_sorted key x _ ih

theorem insertByKeyRev_perm (key : α → Nat) (x : α) (l : List α) : (insertByKeyRev key x l).Perm (x :: l) := by
  induction l with
  | nil => exact .refl _
  | cons y ys ih =>
    unfold insertByKeyRev
    split
    · exact .refl _
    · exact (ih.cons y).trans (.swap x y ys)

theorem insertByKeyRev_sorted (key : α → Nat) (x : α) (l : List α)
    (h : l.Pairwise (fun a b => key b ≤ key a)) : (insertByKeyRev key x l).Pairwise (fun a b => key b ≤ key a) := by
  induction l with
  | nil => exact List.pairwise_singleton ..
  | cons y ys ih =>
    obtain ⟨hy, hys⟩ := List.pairwise_cons.1 h
    unfold insertByKeyRev
    split
    · next hxy =>
      exact List.pairwise_cons.2 ⟨List.forall_mem_cons.2 ⟨hxy, fun z hz => Nat.le_trans (hy z hz) hxy⟩, h⟩
    · next hxy =>
      refine List.pairwise_cons.2 ⟨fun z hz => ?_, ih hys⟩
      rcases List.mem_cons.1 ((insertByKeyRev_perm key x ys).mem_iff.1 hz) with rfl | hz
      · exact Nat.le_of_not_le hxy
      · exact hy z hz

theorem sortByKeyRev_isSortDesc (key : α → Nat) : IsSortDesc key (sortByKeyRev key) where
  perm l := by
    induction l with
    | nil => exact .refl _
    | cons x xs ih => exact (insertByKeyRev_perm key x _).trans (ih.cons x)
  sorted l := by
    induction l with
    | nil => exact .nil
    | cons x xs ih => exact insertByKeyRev_sorted key x _ ih

theorem sortAsc_isSortAsc : IsSortAsc nContainers sortAsc := sortByKey_isSortAsc _
theorem sortDesc_isSortDesc : IsSortDesc nContainers sortDesc := sortByKeyRev_isSortDesc _

theorem isEmpty_iff_nil (b : Bitmap) : Bitmap.isEmpty b = true ↔ b = [] := by
  cases b <;> simp [Bitmap.isEmpty]

theorem all_empty_of_desc {c : Bitmap} {st : List Bitmap}
    (hs : (c :: st).Pairwise (fun a b => nContainers b ≤ nContainers a)) (hc : Bitmap.isEmpty c = true) :
    ∀ b ∈ st, b = [] := by
  intro b hb
  have := (List.pairwise_cons.1 hs).1 b hb
  rw [(isEmpty_iff_nil c).1 hc] at this
  exact List.length_eq_zero_iff.1 (Nat.le_zero.1 this)

/-- The start of `try_multi_or_*`: the first error, if it is among the items collected; `None` — under an
    admissible `size_hint` only for the empty sequence; otherwise a first operand and a rest with the same first
    error, whose `Ok` values are operands — and, when the sort is descending in the container count, leave out
    only empty operands (the `nth(start_size)` shortcut). -/
theorem orStartWith_cases {sort : List Bitmap → List Bitmap} (hp : ∀ l, (sort l).Perm l) (h : Hint)
    (xs : List (Except ε Bitmap)) :
    (∃ e, orStartWith sort h xs = .error e ∧ firstError xs = some e) ∨
    (orStartWith sort h xs = .ok none ∧ (Hint.Admissible h xs.length → xs = [])) ∨
    ∃ c rest, orStartWith sort h xs = .ok (some (c, rest)) ∧ firstError rest = firstError xs ∧
      (∀ b ∈ c :: okValues rest, b ∈ okValues xs) ∧
      ((∀ l, (sort l).Pairwise (fun a b => nContainers b ≤ nContainers a)) →
        ∀ b ∈ okValues xs, b ∈ c :: okValues rest ∨ b = []) := by
  unfold orStartWith
  rcases collectStart_cases h xs with ⟨e, hc, hfe⟩ | ⟨start, iter, hc, hfe, hov, h0⟩
  · exact .inl ⟨e, by rw [hc], hfe⟩
  · rw [hc]
    simp only
    have hperm := hp start
    cases hsort : sort start with
    | nil => rw [hsort] at hperm; exact .inr (.inl ⟨rfl, fun hh => h0 hh hperm.nil_eq.symm⟩)
    | cons c st =>
      rw [hsort] at hperm
      refine .inr (.inr ⟨c, _, rfl, ?_, ?_, fun hsd b hb => ?_⟩)
      · rw [firstError_append, firstError_map_ok, hfe]; rfl
      · rw [okValues_append, okValues_map_ok, hov]
        intro b hb
        rcases List.mem_cons.1 hb with rfl | hb
        · exact List.mem_append_left _ (hperm.mem_iff.1 (List.mem_cons_self ..))
        · refine (List.mem_append.1 hb).elim (fun hb => List.mem_append_left _ (hperm.mem_iff.1 ?_)) (List.mem_append_right _)
          split at hb
          · exact List.mem_cons_of_mem _ (List.mem_of_mem_drop hb)
          · exact List.mem_cons_of_mem _ hb
      · rw [okValues_append, okValues_map_ok]
        rw [hov] at hb
        rcases List.mem_append.1 hb with hb | hb
        · rcases List.mem_cons.1 (hperm.mem_iff.2 hb) with rfl | hb
          · exact .inl (List.mem_cons_self ..)
          · split
            · next hce => exact .inr (all_empty_of_desc (hsort ▸ hsd start) hce b hb)
            · exact .inl (List.mem_cons_of_mem _ (List.mem_append_left _ hb))
        · exact .inl (List.mem_cons_of_mem _ (List.mem_append_right _ hb))

/-- The start of `try_multi_and_*`: the first error, if it is among the items collected; `None` — under an
    admissible `size_hint` only for the empty sequence; otherwise a first operand and a rest with the same first
    error which together hold the operands, in some order. -/
theorem andStartWith_cases {sort : List Bitmap → List Bitmap} (hp : ∀ l, (sort l).Perm l) (h : Hint)
    (xs : List (Except ε Bitmap)) :
    (∃ e, andStartWith sort h xs = .error e ∧ firstError xs = some e) ∨
    (andStartWith sort h xs = .ok none ∧ (Hint.Admissible h xs.length → xs = [])) ∨
    ∃ a rest, andStartWith sort h xs = .ok (some (a, rest)) ∧ firstError rest = firstError xs ∧
      (a :: okValues rest).Perm (okValues xs) := by
  unfold andStartWith
  rcases collectStart_cases h xs with ⟨e, hc, hfe⟩ | ⟨start, iter, hc, hfe, hov, h0⟩
  · exact .inl ⟨e, by rw [hc], hfe⟩
  · rw [hc]
    simp only
    have hperm := hp start
    cases hsort : sort start with
    | nil => rw [hsort] at hperm; exact .inr (.inl ⟨rfl, fun hh => h0 hh hperm.nil_eq.symm⟩)
    | cons a st =>
      rw [hsort] at hperm
      refine .inr (.inr ⟨a, _, rfl, ?_, ?_⟩)
      · rw [firstError_append, firstError_map_ok, hfe]; rfl
      · rw [okValues_append, okValues_map_ok, hov]
        exact List.Perm.append_right _ hperm

theorem orStartWith_mem {sort : List Bitmap → List Bitmap} (hs : ∀ l, (sort l).Perm l) {h : Hint}
    {xs : List (Except ε Bitmap)} {c : Bitmap} {rest : List (Except ε Bitmap)}
    (he : orStartWith sort h xs = .ok (some (c, rest))) :
    c ∈ okValues xs ∧ ∀ b ∈ okValues rest, b ∈ okValues xs := by
  rcases orStartWith_cases hs h xs with ⟨e, h1, _⟩ | ⟨h1, _⟩ | ⟨c', rest', h1, _, hin, _⟩
  · cases h1.symm.trans he
  · cases h1.symm.trans he
  · cases h1.symm.trans he
    exact List.forall_mem_cons.1 hin

theorem andStartWith_mem {sort : List Bitmap → List Bitmap} (hs : ∀ l, (sort l).Perm l) {h : Hint}
    {xs : List (Except ε Bitmap)} {c : Bitmap} {rest : List (Except ε Bitmap)}
    (he : andStartWith sort h xs = .ok (some (c, rest))) :
    c ∈ okValues xs ∧ ∀ b ∈ okValues rest, b ∈ okValues xs := by
  rcases andStartWith_cases hs h xs with ⟨e, h1, _⟩ | ⟨h1, _⟩ | ⟨c', rest', h1, _, hp⟩
  · cases h1.symm.trans he
  · cases h1.symm.trans he
  · cases h1.symm.trans he
    exact List.forall_mem_cons.1 fun b hb => hp.subset hb

theorem mergeLoopOwned_eq (op : Store → Store → Store) (cs : List Container) (xs : List (Except ε Bitmap)) :
    mergeLoopOwned op cs xs = match firstError xs with
      | some e => .error e
      | none => .ok ((okValues xs).foldl (mergeContainerOwned op) cs) := by
  induction xs generalizing cs with
  | nil => rfl
  | cons x rest ih =>
    cases x with
    | error e => rfl
    | ok b => exact ih _

theorem mergeLoopRef_eq (op : Store → Store → Store) (cs : List Cow) (xs : List (Except ε Bitmap)) :
    mergeLoopRef op cs xs = match firstError xs with
      | some e => .error e
      | none => .ok ((okValues xs).foldl (mergeContainerRef op) cs) := by
  induction xs generalizing cs with
  | nil => rfl
  | cons x rest ih =>
    cases x with
    | error e => rfl
    | ok b => exact ih _

theorem foldl_absorb (f : Bitmap → Bitmap → Bitmap) (hf : ∀ r, f [] r = []) (l : List Bitmap) :
    l.foldl f [] = [] := by
  induction l with
  | nil => rfl
  | cons x xs ih => simp [hf, ih]

/-- without errors the loop with its early return computes the plain left fold, provided the operator
    keeps an empty accumulator empty (true of `&=` and `-=`, see `andAssignOwned_nil` …) -/
theorem assignLoop_ok (f : Bitmap → Bitmap → Bitmap) (hf : ∀ r, f [] r = []) (lhs : Bitmap)
    (xs : List (Except ε Bitmap)) (hx : firstError xs = none) :
    assignLoop f lhs xs = .ok ((okValues xs).foldl f lhs) := by
  fun_induction assignLoop f lhs xs
  · simp [okValues]
  · rename_i lhs rhs rest he
    have : lhs = [] := (isEmpty_iff_nil lhs).1 he
    subst this
    rw [foldl_absorb f hf]
  · simp [firstError] at hx
  · rename_i lhs rest he r ih
    simp only [firstError] at hx
    simp [okValues, ih hx]

/-- with an error somewhere the loop either reports the *first* error or has returned early — and then
    the value is the empty set -/
theorem assignLoop_err (f : Bitmap → Bitmap → Bitmap) (lhs : Bitmap) (xs : List (Except ε Bitmap)) (e : ε)
    (hx : firstError xs = some e) :
    assignLoop f lhs xs = .error e ∨ assignLoop f lhs xs = .ok [] := by
  fun_induction assignLoop f lhs xs
  · simp [firstError] at hx
  · rename_i lhs rhs rest he
    right; rw [(isEmpty_iff_nil lhs).1 he]
  · left; simp_all [firstError]
  · rename_i lhs rest he r ih
    simp only [firstError] at hx
    exact ih hx

theorem andAssignOwned_nil (r : Bitmap) : andAssignOwned [] r = [] := rfl

theorem andAssignRef_nil (r : Bitmap) : andAssignRef [] r = [] := rfl

theorem subAssignRef_nil (r : Bitmap) : subAssignRef [] r = [] := rfl

theorem subAssignOwned_nil (r : Bitmap) : subAssignOwned [] r = [] := subAssignRef_nil r

end Roaring.Multi
