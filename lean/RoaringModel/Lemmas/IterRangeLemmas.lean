import RoaringModel.Lemmas.IterFoldLemmas
import RoaringModel.Lemmas.RangeLemmas
/-!
# C03: the remaining values of an iterator are strictly ascending (hence at most 2^32 of them);
`range()` / `into_range()` (iter.rs:594, 651)
-/
namespace Roaring
namespace Iter
open Spec

theorem mid_sorted (cs : List Container) (hs : SortedLt (cs.map (·.key))) (hok : ∀ c ∈ cs, c.IterOK) :
    SortedLt (mid cs) := by
  induction cs with
  | nil => exact List.Pairwise.nil
  | cons c cs ih =>
    have hs2 := List.pairwise_cons.mp (show SortedLt (c.key :: cs.map (·.key)) from hs)
    obtain ⟨k1, k2, _⟩ := cKernel.ofContainer c (hok c List.mem_cons_self)
    have hok' : ∀ d ∈ cs, d.IterOK := fun d hd => hok d (List.mem_cons_of_mem _ hd)
    rw [mid_cons, ← k2]
    refine List.pairwise_append.mpr ⟨cKernel.rem_sorted _ k1, ih hs2.2 hok', fun a ha b hb =>
      Nat.lt_of_div_lt_div (c := 65536) ?_⟩
    rw [cKernel.rem_hi _ k1 a ha]
    exact mid_hi hok' (c.key < ·) (fun d hd => hs2.1 d.key (List.mem_map_of_mem hd)) b hb

/-- the remaining values are strictly ascending: each part is, and the parts are ordered by their keys -/
theorem rem_sorted (it : Iter) (hi : it.Inv) : SortedLt it.rem := by
  obtain ⟨fr, cs, bk⟩ := it
  have hmid : SortedLt (Iter.rem ⟨none, cs, none⟩) := by
    rw [rem_mk, orem_none, List.nil_append, List.append_nil]
    exact mid_sorted cs hi.sorted hi.cok
  have hback : SortedLt (Iter.rem ⟨none, cs, bk⟩) := by
    cases bk with
    | none => exact hmid
    | some b =>
      rw [rem_some_back]
      refine List.pairwise_append.mpr ⟨hmid, cKernel.rem_sorted b (hi.bi b rfl), fun x hx y hy =>
        Nat.lt_of_div_lt_div (c := 65536) ?_⟩
      rw [cKernel.rem_hi b (hi.bi b rfl) y hy]
      exact rem_hi hi.clearFront.clearBack (· < b.key) (by simp) (hi.bk b rfl) (by simp) x hx
  cases fr with
  | none => exact hback
  | some f =>
    rw [rem_some_front]
    refine List.pairwise_append.mpr ⟨cKernel.rem_sorted f (hi.fi f rfl), hback, fun x hx y hy =>
      Nat.lt_of_div_lt_div (c := 65536) ?_⟩
    rw [cKernel.rem_hi f (hi.fi f rfl) x hx]
    exact rem_hi hi.clearFront (f.key < ·) (by simp) (hi.fr f rfl) (fun b hb => hi.fb f b rfl hb) y hy

theorem length_le_of_sorted (l : List Nat) (M : Nat) (hs : SortedLt l) (hM : ∀ x ∈ l, x ≤ M) : l.length ≤ M + 1 :=
  (Arr.sorted_bounded_length l hs 0 (M + 1) fun x hx =>
    ⟨Nat.zero_le x, (Nat.zero_add (M + 1)).symm ▸ Nat.lt_succ_of_le (hM x hx)⟩).1

/-- the two trims of `range` are skipped when they would discard nothing: `start = 0`, `end = u32::MAX` -/
theorem advanceTo_opt (it : Iter) (hi : it.Inv) (s : Nat) :
    (if s ≠ 0 then it.advanceTo s else it).Inv ∧
    (if s ≠ 0 then it.advanceTo s else it).rem = it.rem.filter (fun x => decide (s ≤ x)) := by
  by_cases hs : s = 0
  · rw [if_neg (not_not_intro hs), hs]
    exact ⟨hi, (List.filter_eq_self.mpr fun x _ => decide_eq_true (Nat.zero_le x)).symm⟩
  · rw [if_pos hs]
    exact (advanceTo_spec it hi s).symm

theorem advanceBackTo_opt (it : Iter) (hi : it.Inv) (e M : Nat) (hM : ∀ x ∈ it.rem, x ≤ M) :
    (if e ≠ M then it.advanceBackTo e else it).Inv ∧
    (if e ≠ M then it.advanceBackTo e else it).rem = it.rem.filter (fun x => decide (x ≤ e)) := by
  by_cases he : e = M
  · rw [if_neg (not_not_intro he), he]
    exact ⟨hi, (List.filter_eq_self.mpr fun x hx => decide_eq_true (hM x hx)).symm⟩
  · rw [if_pos he]
    exact (advanceBackTo_spec it hi e).symm

/-- `range(r)` panics exactly on the documented inputs and otherwise is a cursor over the elements inside `r` -/
theorem range_spec (b : Bitmap) (hb : b.IterOK) (hU : ∀ x ∈ Bitmap.elems b, x ≤ u32Max)
    (lo hi : Bound) (hhi : ∀ v, hi = .incl v ∨ hi = .excl v → v ≤ u32Max) :
    if Bound.inverted lo hi then Bitmap.range b lo hi = none
    else ∃ it, Bitmap.range b lo hi = some it ∧ it.Inv ∧
      it.rem = (Bitmap.elems b).filter (fun x => decide (Bound.mem lo hi x)) := by
  have hc := convertRange_spec u32Max lo hi hhi
  unfold Bitmap.range
  revert hc
  cases convertRange u32Max lo hi with
  | error e =>
    cases e with
    | empty =>
      rintro ⟨h0, hemp⟩
      rw [if_neg (Bool.eq_false_iff.mp h0)]
      exact ⟨_, rfl, empty_spec.1, empty_spec.2.trans
        (List.filter_eq_nil_iff.mpr fun x hx => by simp [hemp x (hU x hx)]).symm⟩
    | startGreaterThanEnd => exact fun hc => (if_pos hc).symm ▸ rfl
    | startAndEndEqualExcluded => exact fun hc => (if_pos hc).symm ▸ rfl
  | ok p =>
    obtain ⟨s, e⟩ := p
    rintro ⟨h0, _, _, hmem, _, _⟩
    rw [if_neg (Bool.eq_false_iff.mp h0)]
    obtain ⟨i0, r0⟩ := iter_spec b hb
    obtain ⟨i1, r1⟩ := advanceTo_opt (Bitmap.iter b) i0 s
    obtain ⟨i2, r2⟩ := advanceBackTo_opt _ i1 e u32Max fun x hx => hU x (r0 ▸ (List.mem_filter.mp (r1 ▸ hx)).1)
    refine ⟨_, rfl, i2, r2.trans ?_⟩
    rw [r1, r0, List.filter_filter]
    exact List.filter_congr fun x hx => by
      rw [← Bool.decide_and]
      exact decide_eq_decide.mpr (and_comm.trans (hmem x (hU x hx)).symm)

end Iter
end Roaring
