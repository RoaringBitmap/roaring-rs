import RoaringModel.Lemmas.ArrFacts
import RoaringModel.Lemmas.BStoreRange
/-!
# Store-level facts, independent of the store kind

Everything is phrased through `Store.elems` (the ascending list of low 16-bit values) under `Store.Inv`.
At the end: `Store.Canon` / `Store.WF` against `Inv`, and `Container.ensureCorrectStore_spec` (the one place where the
store kind matters: the result is canonical for its cardinality).
-/
namespace Roaring
namespace Store

/-! The two store invariants of `Inv.lean` conjunct by conjunct, per store kind: what the flat predicates of the codec,
    statistics and iterator lemmas spell out. -/

theorem inv_bitmap (b : BStore) : (Store.bitmap b).Inv ↔
    b.bits.length = 1024 ∧ (∀ w ∈ b.bits, w < 2^64) ∧ b.len = BStore.popSum b.bits :=
  ⟨fun h => ⟨h.1, h.2, h.3⟩, fun h => ⟨h.1, h.2.1, h.2.2⟩⟩

theorem wf_array (v : List Nat) : (Store.array v).WF ↔
    v.Pairwise (· < ·) ∧ (∀ x ∈ v, x < 65536) ∧ 0 < v.length ∧ v.length ≤ 4096 := and_assoc

theorem wf_bitmap (b : BStore) : (Store.bitmap b).WF ↔
    b.bits.length = 1024 ∧ (∀ w ∈ b.bits, w < 2^64) ∧ b.len = BStore.popSum b.bits ∧ 4096 < b.len :=
  (and_congr_left' (inv_bitmap b)).trans (and_assoc.trans (and_congr_right' and_assoc))

theorem inv_elems (st : Store) (h : st.Inv) : Arr.Inv st.elems := by
  cases st with
  | array v => exact h
  | bitmap b => exact BStore.inv_toArray b h

theorem len_eq (st : Store) (h : st.Inv) : st.len = st.elems.length := by
  cases st with
  | array v => rfl
  | bitmap b => exact (BStore.length_toArray b h).symm

theorem mem_elems_bitmap (b : BStore) (hb : b.Inv) (x : Nat) :
    x ∈ (Store.bitmap b).elems ↔ x < 65536 ∧ b.test x = true := BStore.mem_toArray b hb x

theorem elems_lt (st : Store) (h : st.Inv) : ∀ x ∈ st.elems, x < 65536 := (inv_elems st h).2

theorem sorted_elems (st : Store) (h : st.Inv) : Sorted st.elems := (inv_elems st h).1

/-- a store cut down to the values with `p` -/
theorem elems_eq_filter {s t : Store} (hs : s.Inv) (ht : t.Inv) (p : Nat → Bool)
    (h : ∀ x, x ∈ t.elems ↔ x ∈ s.elems ∧ p x = true) : t.elems = s.elems.filter p :=
  Arr.sorted_ext _ _ (sorted_elems _ ht) (Arr.sorted_filter (sorted_elems _ hs) _) fun x => by
    rw [h, List.mem_filter]

/-- The bitset operations are specified bit by bit (`b'.test x = g x (b.test x)`); membership in the element list then
    follows the same Boolean function. -/
theorem mem_of_test {b b' : BStore} (hb : b.Inv) (hb' : b'.Inv) {g : Nat → Bool → Bool}
    (h : ∀ x, b'.test x = g x (b.test x)) (x : Nat) : x ∈ b'.toArray ↔ g x (decide (x ∈ b.toArray)) = true := by
  rw [← decide_eq_true_iff (p := x ∈ b'.toArray), ← BStore.test_eq_decide b' hb', h, BStore.test_eq_decide b hb]

theorem insert_spec (st : Store) (h : st.Inv) (i : Nat) (hi : i < 65536) :
    (st.insert i).1.Inv ∧ (∀ x, x ∈ (st.insert i).1.elems ↔ x = i ∨ x ∈ st.elems) ∧
    (st.insert i).2 = !decide (i ∈ st.elems) := by
  cases st with
  | array v => exact Arr.insert_spec v h i hi
  | bitmap b =>
    obtain ⟨h1, h2, h3⟩ := BStore.insert_spec b h i hi
    refine ⟨h1, fun x => (mem_of_test h h1 h2 x).trans ?_, h3.trans (by rw [BStore.test_eq_decide b h i]; rfl)⟩
    simp only [Bool.or_eq_true, decide_eq_true_eq]; rfl

theorem remove_spec (st : Store) (h : st.Inv) (i : Nat) (hi : i < 65536) :
    (st.remove i).1.Inv ∧ (∀ x, x ∈ (st.remove i).1.elems ↔ x ∈ st.elems ∧ x ≠ i) ∧
    (st.remove i).2 = decide (i ∈ st.elems) := by
  cases st with
  | array v => exact Arr.remove_spec v h i
  | bitmap b =>
    obtain ⟨h1, h2, h3⟩ := BStore.remove_spec b h i hi
    refine ⟨h1, fun x => (mem_of_test h h1 h2 x).trans ?_, h3.trans (BStore.test_eq_decide b h i)⟩
    simp only [Bool.and_eq_true, decide_eq_true_eq]
    exact And.comm

/-- number of elements of a sorted list inside `[s, e]` -/
def countIn (l : List Nat) (s e : Nat) : Nat := (l.filter (fun x => decide (s ≤ x) && decide (x ≤ e))).length

theorem insertRange_empty (st : Store) (s e : Nat) (h : s > e) : st.insertRange s e = (st, 0) := by
  unfold Store.insertRange; simp [h]

theorem removeRange_empty (st : Store) (s e : Nat) (h : s > e) : st.removeRange s e = (st, 0) := by
  unfold Store.removeRange; simp [h]

theorem insertRange_spec (st : Store) (h : st.Inv) (s e : Nat) (hse : s ≤ e) (he : e < 65536) :
    (st.insertRange s e).1.Inv ∧
    (∀ x, x ∈ (st.insertRange s e).1.elems ↔ (s ≤ x ∧ x ≤ e) ∨ x ∈ st.elems) ∧
    (st.insertRange s e).2 = (e - s + 1) - countIn st.elems s e := by
  unfold Store.insertRange
  rw [if_neg (Nat.not_lt.mpr hse)]
  cases st with
  | array v => exact Arr.insertRange_spec v h s e hse he
  | bitmap b =>
    obtain ⟨h1, h2, h3⟩ := BStore.insertRange_spec b h s e hse he
    refine ⟨h1, fun x => (mem_of_test h h1 h2 x).trans ?_, h3⟩
    simp only [Bool.or_eq_true, Bool.and_eq_true, decide_eq_true_eq]; rfl

theorem removeRange_spec (st : Store) (h : st.Inv) (s e : Nat) (hse : s ≤ e) (he : e < 65536) :
    (st.removeRange s e).1.Inv ∧
    (∀ x, x ∈ (st.removeRange s e).1.elems ↔ x ∈ st.elems ∧ ¬ (s ≤ x ∧ x ≤ e)) ∧
    (st.removeRange s e).2 = countIn st.elems s e := by
  unfold Store.removeRange
  rw [if_neg (Nat.not_lt.mpr hse)]
  cases st with
  | array v => exact Arr.removeRange_spec v h s e hse
  | bitmap b =>
    obtain ⟨h1, h2, h3⟩ := BStore.removeRange_spec b h s e hse he
    refine ⟨h1, fun x => (mem_of_test h h1 h2 x).trans ?_, h3⟩
    simp only [Bool.and_eq_true, Bool.not_eq_true', Bool.and_eq_false_imp, decide_eq_true_eq,
      decide_eq_false_iff_not, not_and]
    exact And.comm

theorem contains_spec (st : Store) (h : st.Inv) (i : Nat) : st.contains i = decide (i ∈ st.elems) := by
  cases st with
  | array v => exact Arr.contains_spec v h.1 i
  | bitmap b =>
    exact (BStore.contains_eq_test b i).trans (BStore.test_eq_decide b h i)

theorem containsRange_spec (st : Store) (h : st.Inv) (s e : Nat) (hse : s ≤ e) (he : e < 65536) :
    st.containsRange s e = true ↔ ∀ x, s ≤ x → x ≤ e → x ∈ st.elems := by
  cases st with
  | array v => exact Arr.containsRange_spec v h s e hse
  | bitmap b =>
    show b.containsRange s e = true ↔ ∀ x, s ≤ x → x ≤ e → x ∈ b.toArray
    simp only [BStore.containsRange_spec b h s e hse he, BStore.test_eq_decide b h, decide_eq_true_eq]

theorem rank_spec (st : Store) (h : st.Inv) (i : Nat) (hi : i < 65536) :
    st.rank i = (st.elems.filter (· ≤ i)).length := by
  cases st with
  | array v => exact Arr.rank_spec v h.1 i
  | bitmap b => exact BStore.rank_spec b h i hi

theorem select_spec (st : Store) (h : st.Inv) (n : Nat) : st.select n = st.elems[n]? := by
  cases st with
  | array v => rfl
  | bitmap b => exact BStore.select_spec b h n

theorem min?_spec (st : Store) (h : st.Inv) : st.min? = st.elems.head? := by
  cases st with
  | array v => rfl
  | bitmap b => exact BStore.min?_spec b h

theorem max?_spec (st : Store) (h : st.Inv) : st.max? = st.elems.getLast? := by
  cases st with
  | array v => rfl
  | bitmap b => exact BStore.max?_spec b h

theorem isEmpty_spec (st : Store) (h : st.Inv) : st.isEmpty = st.elems.isEmpty := by
  cases st with
  | array v => rfl
  | bitmap b =>
    show (b.len == 0) = b.toArray.isEmpty
    rw [← BStore.length_toArray b h]
    cases b.toArray <;> simp

theorem insert_max (b : BStore) (h : b.Inv) (i : Nat) (hi : i < 65536) (hmax : ∀ x ∈ b.toArray, x < i) :
    (b.insert i).1.Inv ∧ (b.insert i).1.toArray = b.toArray ++ [i] := by
  obtain ⟨i1, i2, _⟩ := BStore.insert_spec b h i hi
  refine ⟨i1, Arr.sorted_ext _ _ (BStore.sorted_toArray _ i1)
    (Arr.inv_append_singleton _ (BStore.inv_toArray b h) i hi hmax).1 fun x => (mem_of_test h i1 i2 x).trans ?_⟩
  simp only [Bool.or_eq_true, decide_eq_true_eq, List.mem_append, List.mem_singleton]
  exact Or.comm

theorem push_spec (st : Store) (h : st.Inv) (i : Nat) (hi : i < 65536) :
    (st.push i).1.Inv ∧
    ((st.push i).2 = decide (∀ x ∈ st.elems, x < i)) ∧
    ((st.push i).1.elems = if (∀ x ∈ st.elems, x < i) then st.elems ++ [i] else st.elems) := by
  cases st with
  | array v =>
    show (Store.array (Arr.push v i).1).Inv ∧ (Arr.push v i).2 = decide (∀ x ∈ v, x < i) ∧
      (Arr.push v i).1 = if (∀ x ∈ v, x < i) then v ++ [i] else v
    rw [Arr.push_eq v h.1 i]
    by_cases hc : ∀ x ∈ v, x < i
    · rw [if_pos hc, if_pos hc]
      exact ⟨Arr.inv_append_singleton v h i hi hc, (decide_eq_true hc).symm, rfl⟩
    · rw [if_neg hc, if_neg hc]
      exact ⟨h, (decide_eq_false hc).symm, rfl⟩
  | bitmap b =>
    show (Store.bitmap (b.push i).1).Inv ∧ (b.push i).2 = decide (∀ x ∈ b.toArray, x < i) ∧
      (b.push i).1.toArray = if (∀ x ∈ b.toArray, x < i) then b.toArray ++ [i] else b.toArray
    rw [BStore.push_spec b h i hi]
    by_cases hc : ∀ x ∈ b.toArray, x < i
    · rw [if_pos hc, if_pos hc]
      exact ⟨(insert_max b h i hi hc).1, (decide_eq_true hc).symm, (insert_max b h i hi hc).2⟩
    · rw [if_neg hc, if_neg hc]
      exact ⟨h, (decide_eq_false hc).symm, rfl⟩

theorem pushUnchecked_spec (dbg : Bool) (st : Store) (h : st.Inv) (i : Nat) (hi : i < 65536)
    (hmax : ∀ x ∈ st.elems, x < i) :
    ∃ st', st.pushUnchecked dbg i = some st' ∧ st'.Inv ∧ st'.elems = st.elems ++ [i] := by
  cases st with
  | array v =>
    obtain ⟨h1, h2⟩ := Arr.pushUnchecked_spec dbg v h i hi hmax
    exact ⟨.array (v ++ [i]), by simp [Store.pushUnchecked, h1], h2, rfl⟩
  | bitmap b =>
    have hp := BStore.pushUnchecked_spec dbg b h i hi hmax
    exact ⟨.bitmap (b.insert i).1, by simp [Store.pushUnchecked, hp], insert_max b h i hi hmax⟩

theorem removeSmallest_spec (st : Store) (h : st.Inv) (n : Nat) (hn : n ≤ st.len) :
    (st.removeSmallest n).Inv ∧ (st.removeSmallest n).elems = st.elems.drop n := by
  cases st with
  | array v =>
    obtain ⟨h1, h2⟩ := Arr.removeSmallest_spec v h n hn
    show Arr.Inv (Arr.removeSmallest v n) ∧ Arr.removeSmallest v n = v.drop n
    rw [h1]
    exact ⟨h2, rfl⟩
  | bitmap b => exact BStore.removeSmallest_spec b h n

theorem removeBiggest_spec (st : Store) (h : st.Inv) (n : Nat) :
    (st.removeBiggest n).Inv ∧ (st.removeBiggest n).elems = st.elems.take (st.elems.length - n) := by
  cases st with
  | array v => exact ⟨(Arr.removeBiggest_spec v h n).2, rfl⟩
  | bitmap b => exact BStore.removeBiggest_spec b h n

theorem new_inv : Store.new.Inv := ⟨List.Pairwise.nil, by simp⟩
theorem new_elems : Store.new.elems = [] := rfl

theorem canon_inv (st : Store) (h : st.Canon) : st.Inv := by
  cases st with
  | array v => exact h.1
  | bitmap b => exact h.1

theorem wf_canon (st : Store) (h : st.WF) : st.Canon := by
  cases st with
  | array v => exact ⟨h.1, h.2.2⟩
  | bitmap b => exact h

theorem wf_inv (st : Store) (h : st.WF) : st.Inv := canon_inv st (wf_canon st h)

theorem wf_of_canon (st : Store) (h : st.Canon) (hne : st.elems ≠ []) : st.WF := by
  cases st with
  | array v =>
    refine ⟨h.1, ?_, h.2⟩
    cases v with
    | nil => exact absurd rfl hne
    | cons a l => simp
  | bitmap b => exact h

theorem canon_elems_nil {s : Store} (h : s.Canon) (he : s.elems = []) : s = .array [] := by
  cases s with
  | array v => simp only [Store.elems] at he; rw [he]
  | bitmap b =>
    exfalso
    have h1 := BStore.length_toArray b h.1
    have h2 : 4096 < b.len := h.2
    simp only [Store.elems] at he
    rw [he] at h1; simp at h1; omega

theorem wf_elems_ne (st : Store) (h : st.WF) : st.elems ≠ [] := by
  intro hc
  have hl := len_eq st (wf_inv st h)
  rw [hc] at hl
  cases st with
  | array v => exact absurd hl (Nat.ne_of_gt h.2.1)
  | bitmap b => exact absurd hl (Nat.ne_of_gt (Nat.lt_trans (Nat.zero_lt_succ _) h.2))

theorem new_canon : Store.new.Canon := ⟨new_inv, by simp⟩

end Store

namespace Container

theorem ensureCorrectStore_spec (c : Container) (h : c.store.Inv) :
    (ensureCorrectStore c).store.Canon ∧ (ensureCorrectStore c).store.elems = c.store.elems ∧
    (ensureCorrectStore c).key = c.key := by
  unfold ensureCorrectStore
  cases hs : c.store with
  | array v =>
    rw [hs] at h
    dsimp only
    by_cases hl : v.length > ARRAY_LIMIT
    · rw [if_pos hl]
      exact ⟨⟨(BStore.arrToBitmap_spec v h).1, hl⟩, (BStore.arrToBitmap_spec v h).2, rfl⟩
    · rw [if_neg hl, hs]
      exact ⟨⟨h, Nat.le_of_not_lt hl⟩, rfl, rfl⟩
  | bitmap b =>
    rw [hs] at h
    dsimp only
    by_cases hl : b.len ≤ ARRAY_LIMIT
    · rw [if_pos hl]
      exact ⟨⟨BStore.inv_toArray b h, Nat.le_trans (Nat.le_of_eq (BStore.length_toArray b h)) hl⟩, rfl, rfl⟩
    · rw [if_neg hl, hs]
      exact ⟨⟨h, Nat.lt_of_not_le hl⟩, rfl, rfl⟩

end Container
end Roaring
