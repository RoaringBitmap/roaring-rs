import RoaringModel.Lemmas.CodecWF
import RoaringModel.Lemmas.ContainerFacts
/-!
# Facts about the store library for the codec proofs

* `bitmap_toArray : Kernel.bitmap_toArray` (encoder side) — the values listed by `to_array_store`'s loop for a
  well-formed bitset are `len` values `< 65536` that re-assemble (`Spec.wordsOf`) into exactly the stored words;
* `withCapacity_inv` / `withCapacity_elems`, `replayRuns_spec`, `runStore_spec` (decoder side) — what replaying a run
  list through `Store::insert_range` from `Store::with_capacity(_)` gives; with `ensure_correct_store` it is
  `runStore_wf : Kernel.runStore_wf`, a well-formed store, or the empty array when there was no run.
-/
namespace Roaring

theorem sum_bits_mod (w n : Nat) :
    (((List.range n).filter (fun i => w.testBit i)).map (fun i => 2 ^ i)).sum = w % 2 ^ n := by
  induction n with
  | zero => exact (Nat.mod_one w).symm
  | succ n ih =>
    rw [List.range_succ, List.filter_append, List.map_append, List.sum_append, ih, Nat.mod_pow_succ]
    congr 1
    have ht : w.testBit n = decide (w / 2 ^ n % 2 = 1) := Nat.testBit_eq_decide_div_mod_eq
    by_cases h : w / 2 ^ n % 2 = 1
    · simp [ht, h]
    · have h0 : w / 2 ^ n % 2 = 0 := (Nat.mod_two_eq_zero_or_one _).resolve_right h
      simp [ht, h0]

theorem sum_bitPos (w : Nat) (h : w < 2 ^ 64) : ((bitPos w).map (fun i => 2 ^ i)).sum = w := by
  unfold bitPos
  rw [sum_bits_mod w 64, Nat.mod_eq_of_lt h]

theorem sum_bitsOf (k w : Nat) (h : w < 2 ^ 64) : ((bitsOf k w).map (fun v => 2 ^ (v % 64))).sum = w := by
  unfold bitsOf
  rw [List.map_map]
  have : (bitPos w).map ((fun v => 2 ^ (v % 64)) ∘ fun i => 64 * k + i) = (bitPos w).map (fun i => 2 ^ i) := by
    apply List.map_congr_left
    intro i hi
    have := ((mem_bitPos w i).mp hi).1
    simp only [Function.comp]
    congr 1; omega
  rw [this, sum_bitPos w h]

theorem takeWhile_eq_nil_of_forall {α : Type} (p : α → Bool) : ∀ (l : List α), (∀ a ∈ l, p a = false) →
    l.takeWhile p = []
  | [], _ => rfl
  | a :: l, h => by simp [h a List.mem_cons_self]

theorem dropWhile_eq_self_of_forall {α : Type} (p : α → Bool) : ∀ (l : List α), (∀ a ∈ l, p a = false) →
    l.dropWhile p = l
  | [], _ => rfl
  | a :: l, h => by simp [h a List.mem_cons_self]

theorem wordsOf_toArrayFrom (ws : List Nat) (k : Nat) (h : ∀ w ∈ ws, w < 2 ^ 64) :
    Spec.wordsOf k ws.length (BStore.toArrayFrom k ws) = ws := by
  induction ws generalizing k with
  | nil => rfl
  | cons w ws ih =>
    have hw : w < 2 ^ 64 := h w List.mem_cons_self
    have hws : ∀ w ∈ ws, w < 2 ^ 64 := fun v hv => h v (List.mem_cons_of_mem _ hv)
    rw [BStore.toArrayFrom_cons k w ws hw, List.length_cons, Spec.wordsOf]
    have h1 : ∀ a ∈ bitsOf k w, decide (a / 64 = k) = true := by
      intro a ha; simp [((Word.mem_bitsOf k w a).mp ha).1]
    have h2 : ∀ a ∈ BStore.toArrayFrom (k + 1) ws, decide (a / 64 = k) = false := by
      intro a ha
      have := ((BStore.mem_toArrayFrom ws hws (k + 1) a).mp ha).1
      simp; omega
    rw [List.takeWhile_append_of_pos h1, List.dropWhile_append_of_pos h1,
      takeWhile_eq_nil_of_forall _ _ h2, dropWhile_eq_self_of_forall _ _ h2, List.append_nil,
      sum_bitsOf k w hw, ih (k + 1) hws]

def Kernel.bitmap_toArray : Prop := ∀ b : BStore, StoreWF (.bitmap b) →
  b.toArray.length = b.len ∧ (∀ x ∈ b.toArray, x < 65536) ∧ Spec.wordsOf 0 1024 b.toArray = b.bits

theorem bitmap_toArray : Kernel.bitmap_toArray := by
  intro b h
  have hb : b.Inv := ((storeWF_iff _).mp h).1
  refine ⟨BStore.length_toArray b hb, BStore.toArray_lt b hb, ?_⟩
  have := wordsOf_toArrayFrom b.bits 0 hb.words
  rw [hb.length] at this
  exact this

theorem withCapacity_inv (cap : Nat) : (Store.withCapacity cap).Inv := by
  unfold Store.withCapacity
  split
  · exact Store.new_inv
  · exact BStore.inv_new

theorem withCapacity_elems (cap : Nat) : (Store.withCapacity cap).elems = [] := by
  unfold Store.withCapacity
  split
  · rfl
  · exact BStore.toArray_new

theorem replayRuns_spec (runs : List (Nat × Nat)) (st st' : Store) (hst : st.Inv)
    (h : replayRuns st runs = .ok st') :
    st'.Inv ∧ (∀ r ∈ runs, r.1 + r.2 ≤ 65535) ∧
      ∀ x, x ∈ st'.elems ↔ x ∈ st.elems ∨ ∃ r ∈ runs, r.1 ≤ x ∧ x ≤ r.1 + r.2 := by
  induction runs generalizing st with
  | nil =>
    cases h
    exact ⟨hst, by simp, by simp⟩
  | cons r rs ih =>
    obtain ⟨s, len⟩ := r
    unfold replayRuns at h
    split at h
    · simp at h
    · rename_i hle
      obtain ⟨i1, i2, _⟩ := Store.insertRange_spec st hst s (s + len) (Nat.le_add_right _ _) (by omega)
      obtain ⟨j1, j2, j3⟩ := ih _ i1 h
      refine ⟨j1, ?_, ?_⟩
      · intro r hr
        rcases List.mem_cons.mp hr with rfl | hr
        · show s + len ≤ 65535; omega
        · exact j2 r hr
      · intro x
        rw [j3 x, i2 x]
        constructor
        · rintro ((hx | hx) | ⟨r, hr, hx⟩)
          · exact Or.inr ⟨(s, len), List.mem_cons_self, hx⟩
          · exact Or.inl hx
          · exact Or.inr ⟨r, List.mem_cons_of_mem _ hr, hx⟩
        · rintro (hx | ⟨r, hr, hx⟩)
          · exact Or.inl (Or.inr hx)
          · rcases List.mem_cons.mp hr with rfl | hr
            · exact Or.inl (Or.inl hx)
            · exact Or.inr ⟨r, hr, hx⟩

/-- what a run chunk decodes to (after `ensure_correct_store`): canonical, with exactly the union of the
    intervals -/
theorem runStore_spec (cap : Nat) (runs : List (Nat × Nat)) (st : Store)
    (h : replayRuns (Store.withCapacity cap) runs = .ok st) :
    (Container.ensureCorrectStore { key := 0, store := st }).store.Canon ∧
    (∀ r ∈ runs, r.1 + r.2 ≤ 65535) ∧
    ∀ x, x ∈ (Container.ensureCorrectStore { key := 0, store := st }).store.elems ↔
      ∃ r ∈ runs, r.1 ≤ x ∧ x ≤ r.1 + r.2 := by
  obtain ⟨h1, h2, h3⟩ := replayRuns_spec runs _ st (withCapacity_inv cap) h
  obtain ⟨e1, e2, _⟩ := Container.ensureCorrectStore_spec { key := 0, store := st } h1
  refine ⟨e1, h2, ?_⟩
  intro x
  rw [e2, h3 x, withCapacity_elems]
  simp

/-- a store that is well-formed, or the empty array (a run chunk with zero runs; rejected afterwards by the
    checked decoder) -/
def StoreWFOrEmpty (s : Store) : Prop := StoreWF s ∨ s = .array []

def Kernel.runStore_wf : Prop :=
  ∀ (cap : Nat) (runs : List (Nat × Nat)) (st : Store),
    replayRuns (Store.withCapacity cap) runs = .ok st →
      StoreWFOrEmpty (Container.ensureCorrectStore { key := 0, store := st }).store

theorem runStore_wf : Kernel.runStore_wf := by
  intro cap runs st h
  obtain ⟨e1, _, _⟩ := runStore_spec cap runs st h
  by_cases hne : (Container.ensureCorrectStore { key := 0, store := st }).store.elems = []
  · exact Or.inr (Store.canon_elems_nil e1 hne)
  · exact Or.inl ((storeWF_iff _).mpr (Store.wf_of_canon _ e1 hne))

end Roaring
