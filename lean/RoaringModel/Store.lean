import RoaringModel.BitmapStore
/-!
# `Store` — kind dispatch (store/mod.rs) and `Container` (container.rs)
-/
namespace Roaring

def ARRAY_LIMIT : Nat := 4096

inductive Store where
  | array (v : List Nat)
  | bitmap (b : BStore)
deriving Repr, BEq, DecidableEq

namespace Store

def new : Store := .array []
/-- store/mod.rs:42 `with_capacity` -/
def withCapacity (cap : Nat) : Store := if cap ≤ ARRAY_LIMIT then .array [] else .bitmap BStore.new
def full : Store := .bitmap BStore.full

def insert : Store → Nat → Store × Bool
  | .array v, i => let r := Arr.insert v i; (.array r.1, r.2)
  | .bitmap b, i => let r := b.insert i; (.bitmap r.1, r.2)

/-- store/mod.rs:91 `insert_range` on `s..=e` (`RangeInclusive::is_empty` ⇔ `s > e`) -/
def insertRange (st : Store) (s e : Nat) : Store × Nat :=
  if s > e then (st, 0) else
  match st with
  | .array v => let r := Arr.insertRange v s e; (.array r.1, r.2)
  | .bitmap b => let r := b.insertRange s e; (.bitmap r.1, r.2)

def push : Store → Nat → Store × Bool
  | .array v, i => let r := Arr.push v i; (.array r.1, r.2)
  | .bitmap b, i => let r := b.push i; (.bitmap r.1, r.2)

def pushUnchecked (dbg : Bool) : Store → Nat → Option Store
  | .array v, i => (Arr.pushUnchecked dbg v i).map .array
  | .bitmap b, i => (b.pushUnchecked dbg i).map .bitmap

def remove : Store → Nat → Store × Bool
  | .array v, i => let r := Arr.remove v i; (.array r.1, r.2)
  | .bitmap b, i => let r := b.remove i; (.bitmap r.1, r.2)

def removeRange (st : Store) (s e : Nat) : Store × Nat :=
  if s > e then (st, 0) else
  match st with
  | .array v => let r := Arr.removeRange v s e; (.array r.1, r.2)
  | .bitmap b => let r := b.removeRange s e; (.bitmap r.1, r.2)

def removeSmallest : Store → Nat → Store
  | .array v, n => .array (Arr.removeSmallest v n)
  | .bitmap b, n => .bitmap (b.removeSmallest n)

def removeBiggest : Store → Nat → Store
  | .array v, n => .array (Arr.removeBiggest v n)
  | .bitmap b, n => .bitmap (b.removeBiggest n)

def contains : Store → Nat → Bool
  | .array v, i => Arr.contains v i
  | .bitmap b, i => b.contains i

def containsRange : Store → Nat → Nat → Bool
  | .array v, s, e => Arr.containsRange v s e
  | .bitmap b, s, e => b.containsRange s e

def len : Store → Nat
  | .array v => v.length
  | .bitmap b => b.len

def isEmpty : Store → Bool
  | .array v => v.isEmpty
  | .bitmap b => b.len == 0

def isFull (s : Store) : Bool := s.len == 65536

def min? : Store → Option Nat
  | .array v => Arr.min? v
  | .bitmap b => b.min?

def max? : Store → Option Nat
  | .array v => Arr.max? v
  | .bitmap b => b.max?

def rank : Store → Nat → Nat
  | .array v, i => Arr.rank v i
  | .bitmap b, i => b.rank i

def select : Store → Nat → Option Nat
  | .array v, n => Arr.select v n
  | .bitmap b, n => b.select n

/-- array_store/mod.rs:224 `to_bitmap_store` (before `from_unchecked`) -/
def arrToBitmapBits (v : List Nat) : List Nat :=
  v.foldl (fun bits i => bits.set (wkey i) (BStore.word bits (wkey i) ||| (1 <<< wbit i))) BStore.zeros

def arrToBitmap (v : List Nat) : BStore := { len := v.length, bits := arrToBitmapBits v }

/-- array_store/mod.rs:224-232 `to_bitmap_store` *with* its closing `BitmapStore::from_unchecked(len, bits)` (`none` =
    the debug `try_from(..).unwrap()` panics).  `Lemmas/MirrorLemmas.lean`: `= some (arrToBitmap v)` for every
    `Arr.Inv v` (this is the second conjunct of `Arr.Safe_toBitmap`, C16). (fidelity audit) -/
def arrToBitmapOp (dbg : Bool) (v : List Nat) : Option BStore :=
  BStore.fromUnchecked dbg v.length (arrToBitmapBits v)

def isDisjoint : Store → Store → Bool
  | .array a, .array b => Arr.isDisjoint a b
  | .bitmap a, .bitmap b => a.isDisjoint b
  | .array v, .bitmap b => v.all (fun i => !b.contains i)
  | .bitmap b, .array v => v.all (fun i => !b.contains i)

def isSubset : Store → Store → Bool
  | .array a, .array b => Arr.isSubset a b
  | .bitmap a, .bitmap b => a.isSubset b
  | .array v, .bitmap b => v.all (fun i => b.contains i)
  | .bitmap _, .array _ => false

def interLen : Store → Store → Nat
  | .array a, .array b => Arr.interLen a b
  | .bitmap a, .bitmap b => a.interLenBitmap b
  | .array v, .bitmap b => b.interLenArray v
  | .bitmap b, .array v => b.interLenArray v

/-- `ArrayStore &= &BitmapStore` : `retain(|x| rhs.contains(x))` -/
def arrAndBitmap (v : List Nat) (b : BStore) : List Nat := v.filter (fun x => b.contains x)
/-- `ArrayStore -= &BitmapStore` -/
def arrSubBitmap (v : List Nat) (b : BStore) : List Nat := v.filter (fun x => !b.contains x)

/-! ### `|` -/
/-- store/mod.rs:307 `BitOrAssign<&Store>` -/
def orAssignRef : Store → Store → Store
  | .array a, .array b => .array (Arr.or a b)
  | .bitmap a, .array v => .bitmap (a.orArr v)
  | .bitmap a, .bitmap b => .bitmap (a.orB b)
  | .array v, .bitmap b => .bitmap (b.orArr v)

/-- store/mod.rs:287 `BitOrAssign<Store>` (owned rhs; the `Array |= Bitmap` case swaps) -/
def orAssignOwned : Store → Store → Store
  | .array a, .array b => .array (Arr.or a b)
  | .bitmap a, .array v => .bitmap (a.orArr v)
  | .bitmap a, .bitmap b => .bitmap (a.orB b)
  | .array v, .bitmap b => .bitmap (b.orArr v)

/-- store/mod.rs:262 `&Store | &Store` -/
def orRef : Store → Store → Store
  | .array a, .array b => .array (Arr.or a b)
  | .bitmap a, .array v => .bitmap (a.orArr v)
  | .bitmap a, .bitmap b => .bitmap (a.orB b)
  | .array v, .bitmap b => .bitmap (b.orArr v)

/-! ### `&` -/
/-- store/mod.rs:373 `BitAndAssign<&Store>` -/
def andAssignRef : Store → Store → Store
  | .array a, .array b =>
    if b.length < a.length then .array (Arr.andAssign b a) else .array (Arr.andAssign a b)
  | .bitmap a, .bitmap b => .bitmap (a.andB b)
  | .array v, .bitmap b => .array (arrAndBitmap v b)
  | .bitmap b, .array v => .array (arrAndBitmap v b)

/-- store/mod.rs:349 `BitAndAssign<Store>` -/
def andAssignOwned : Store → Store → Store
  | .array a, .array b =>
    if b.length < a.length then .array (Arr.andAssign b a) else .array (Arr.andAssign a b)
  | .bitmap a, .bitmap b => .bitmap (a.andB b)
  | .array v, .bitmap b => .array (arrAndBitmap v b)
  | .bitmap b, .array v => .array (arrAndBitmap v b)

/-- store/mod.rs:329 `&Store & &Store` -/
def andRef : Store → Store → Store
  | .array a, .array b => .array (Arr.and a b)
  | .bitmap b, .array v => .array (arrAndBitmap v b)
  | l, r => andAssignRef l r

/-! ### `-` -/
/-- store/mod.rs:417 `SubAssign<&Store>` -/
def subAssignRef : Store → Store → Store
  | .array a, .array b => .array (Arr.subAssign a b)
  | .bitmap a, .array v => .bitmap (a.subArr v)
  | .bitmap a, .bitmap b => .bitmap (a.subB b)
  | .array v, .bitmap b => .array (arrSubBitmap v b)

/-- store/mod.rs:402 `&Store - &Store` -/
def subRef : Store → Store → Store
  | .array a, .array b => .array (Arr.sub a b)
  | l, r => subAssignRef l r

/-! ### `^` -/
/-- store/mod.rs:476 `BitXorAssign<&Store>` -/
def xorAssignRef : Store → Store → Store
  | .array a, .array b => .array (Arr.xor a b)
  | .bitmap a, .array v => .bitmap (a.xorArr v)
  | .bitmap a, .bitmap b => .bitmap (a.xorB b)
  | .array v, .bitmap b => .bitmap (b.xorArr v)

/-- store/mod.rs:456 `BitXorAssign<Store>` -/
def xorAssignOwned : Store → Store → Store
  | .array a, .array b => .array (Arr.xor a b)
  | .bitmap a, .array v => .bitmap (a.xorArr v)
  | .bitmap a, .bitmap b => .bitmap (a.xorB b)
  | .array v, .bitmap b => .bitmap (b.xorArr v)

/-- store/mod.rs:436 `&Store ^ &Store` -/
def xorRef : Store → Store → Store
  | .array a, .array b => .array (Arr.xor a b)
  | .array v, .bitmap b => .bitmap (b.xorArr v)
  | l, r => xorAssignRef l r

/-- store/mod.rs:520 `PartialEq` -/
def eq : Store → Store → Bool
  | .array a, .array b => a == b
  | .bitmap a, .bitmap b => a.len == b.len && a.bits == b.bits
  | _, _ => false

/-- the values of a store in ascending order (what `iter()` yields: `BIter.new_rem`,
    `BStore.iterAll_eq` for the bitset iterator) -/
def elems : Store → List Nat
  | .array v => v
  | .bitmap b => b.toArray

end Store

/-! ## `Container` (container.rs) -/

structure Container where
  key : Nat
  store : Store
deriving Repr, BEq, DecidableEq

namespace Container

def new (key : Nat) : Container := { key, store := Store.new }
def full (key : Nat) : Container := { key, store := Store.full }
def len (c : Container) : Nat := c.store.len
def isEmpty (c : Container) : Bool := c.store.isEmpty

/-- container.rs:177 `ensure_correct_store` -/
def ensureCorrectStore (c : Container) : Container :=
  match c.store with
  | .bitmap b => if b.len ≤ ARRAY_LIMIT then { c with store := .array b.toArray } else c
  | .array v => if v.length > ARRAY_LIMIT then { c with store := .bitmap (Store.arrToBitmap v) } else c

/-- container.rs:50 -/
def insert (c : Container) (i : Nat) : Container × Bool :=
  let r := c.store.insert i
  if r.2 then (ensureCorrectStore { c with store := r.1 }, true) else ({ c with store := r.1 }, false)

/-- container.rs:59; `range.len()` of a `RangeInclusive<u16>` is `e - s + 1` (0 when empty) -/
def insertRange (c : Container) (s e : Nat) : Container × Nat :=
  let rlen := if s ≤ e then e - s + 1 else 0
  let st := if rlen > ARRAY_LIMIT then
      (match c.store with
       | .array v => Store.bitmap (Store.arrToBitmap v)
       | st => st)
    else c.store
  let r := st.insertRange s e
  (ensureCorrectStore { c with store := r.1 }, r.2)

/-- container.rs:74 -/
def push (c : Container) (i : Nat) : Container × Bool :=
  let r := c.store.push i
  if r.2 then (ensureCorrectStore { c with store := r.1 }, true) else ({ c with store := r.1 }, false)

/-- container.rs:90 -/
def pushUnchecked (dbg : Bool) (c : Container) (i : Nat) : Option Container :=
  (c.store.pushUnchecked dbg i).map fun st => ensureCorrectStore { c with store := st }

/-- container.rs:95 -/
def remove (c : Container) (i : Nat) : Container × Bool :=
  let r := c.store.remove i
  if r.2 then (ensureCorrectStore { c with store := r.1 }, true) else ({ c with store := r.1 }, false)

/-- container.rs:104 -/
def removeRange (c : Container) (s e : Nat) : Container × Nat :=
  let r := c.store.removeRange s e
  (ensureCorrectStore { c with store := r.1 }, r.2)

/-- container.rs:110 (callers guarantee `n < len`) -/
def removeSmallest (c : Container) (n : Nat) : Container :=
  match c.store with
  | .bitmap b =>
    if b.len - n ≤ ARRAY_LIMIT then { c with store := .array (b.toArray.drop n) }
    else { c with store := c.store.removeSmallest n }
  | .array _ => { c with store := c.store.removeSmallest n }

/-- container.rs:125 -/
def removeBiggest (c : Container) (n : Nat) : Container :=
  match c.store with
  | .bitmap b =>
    if b.len - n ≤ ARRAY_LIMIT then { c with store := .array (b.toArray.take (b.len - n)) }
    else { c with store := c.store.removeBiggest n }
  | .array _ => { c with store := c.store.removeBiggest n }

def contains (c : Container) (i : Nat) : Bool := c.store.contains i
def containsRange (c : Container) (s e : Nat) : Bool := c.store.containsRange s e
def isFull (c : Container) : Bool := c.store.isFull
def isDisjoint (a b : Container) : Bool := a.store.isDisjoint b.store
/-- container.rs:156 (the `len` shortcut) -/
def isSubset (a b : Container) : Bool := a.len ≤ b.len && a.store.isSubset b.store
def interLen (a b : Container) : Nat := a.store.interLen b.store
def min? (c : Container) : Option Nat := c.store.min?
def max? (c : Container) : Option Nat := c.store.max?
def rank (c : Container) (i : Nat) : Nat := c.store.rank i

def orRef (a b : Container) : Container := ensureCorrectStore { key := a.key, store := a.store.orRef b.store }
def orAssignOwned (a b : Container) : Container := ensureCorrectStore { a with store := a.store.orAssignOwned b.store }
def orAssignRef (a b : Container) : Container := ensureCorrectStore { a with store := a.store.orAssignRef b.store }
def andRef (a b : Container) : Container := ensureCorrectStore { key := a.key, store := a.store.andRef b.store }
def andAssignOwned (a b : Container) : Container := ensureCorrectStore { a with store := a.store.andAssignOwned b.store }
def andAssignRef (a b : Container) : Container := ensureCorrectStore { a with store := a.store.andAssignRef b.store }
def subRef (a b : Container) : Container := ensureCorrectStore { key := a.key, store := a.store.subRef b.store }
def subAssignRef (a b : Container) : Container := ensureCorrectStore { a with store := a.store.subAssignRef b.store }
def xorRef (a b : Container) : Container := ensureCorrectStore { key := a.key, store := a.store.xorRef b.store }
def xorAssignOwned (a b : Container) : Container := ensureCorrectStore { a with store := a.store.xorAssignOwned b.store }
def xorAssignRef (a b : Container) : Container := ensureCorrectStore { a with store := a.store.xorAssignRef b.store }

/-- the `u32` values of a container, ascending -/
def elems (c : Container) : List Nat := c.store.elems.map (fun i => c.key * 65536 + i)

end Container
end Roaring
