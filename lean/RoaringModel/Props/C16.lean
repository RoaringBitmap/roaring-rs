import RoaringModel.Bitmap
import RoaringModel.Spec
import RoaringModel.Fmt
import RoaringModel.Lemmas.MiscWF
import RoaringModel.Lemmas.SpecFacts
import RoaringModel.Lemmas.BitmapQuery
import RoaringModel.Props.C01
import RoaringModel.Props.C03
import RoaringModel.Props.C17
import RoaringModel.Safe
import RoaringModel.Lemmas.SafeLemmas
import RoaringModel.Lemmas.FidelityFmt
import RoaringModel.Props.C10
import RoaringModel.Props.C12
import RoaringModel.SafeCodec
import RoaringModel.Lemmas.SafeCodecLemmas
import RoaringModel.SafeCompose
import RoaringModel.Lemmas.SafeComposeLemmas
import RoaringModel.SafeMulti
import RoaringModel.Lemmas.SafeMultiLemmas
import RoaringModel.SafeTreemapIter
import RoaringModel.Lemmas.SafeTreemapIterLemmas
import RoaringModel.SafeBinOps
import RoaringModel.Lemmas.SafeBinOpsLemmas
import RoaringModel.Lemmas.Concrete
/-!
# C16 — public operations are total: only the documented panics (property theorems)

The model makes every Rust panic site an explicit `none` (outer `Option`); C16 collects, in one place, the facts
that for a well-formed value (`Bitmap.WF`) and arguments of the right integer type none of these is reached except
at the documented panics:
* range conversion: `C16_ranges`, `C16_convertRange_*` (empty / inverted ranges are the empty set, never a panic);
* `Debug`: `C16_debug_total`, `C16_debug_spec`, and the same for the formatter that runs the mirrored iterators
  (`C16_debug_mirror_*`, `C16_tdebug_*`);
* every mutator, in both build configurations: `C16_mutators_total`, `C16_history_total` (thin corollaries of C01);
* `range` / `into_range` panic exactly on the two documented inputs: `C16_range_panics` (corollary of C03);
* `from_lsb0_bytes` panics only past `2^32`, and exactly then for a multiple-of-8 offset: `C16_lsb0_panics`
  (corollary of C17);
* the `Option`-valued queries return `None` exactly when the set has no such element: `C16_select_total`,
  `C16_min_max_total`;
* **no arithmetic panic / wrap**: the `C16_safe_*` theorems (the sections from "No arithmetic overflow" on).  `RoaringModel/Safe.lean` states,
  for every `-`, `+=`, `<<`, `>>`, slice index / slice range and narrowing `as` cast of `bitmap_store.rs`,
  `array_store/mod.rs`, `container.rs`, `inherent.rs`, `util.rs`, `serialization.rs` (writer), `statistics.rs` and of
  the treemap's `len/rank/select/split/join`, the side condition under which the Rust expression (which panics with
  overflow checks on and wraps with them off; indexing panics in both) and the model's total `Nat` expression agree —
  a decidable predicate `Safe_*` with the `file:line` of every conjunct; the theorems here derive each of them from
  the invariant of the receiver (`BStore.Inv` / `Arr.Inv` / `Store.Inv` / `Bitmap.WF`) and the integer type of the
  arguments.  The only side conditions that are NOT consequences of well-formedness are caller obligations of
  crate-private functions (`ArrayStore::remove_smallest/remove_biggest`: `n ≤ len`, discharged at the public entry
  points in `C16_safe_removeSmallest/Biggest`) and the `u64` sums of a treemap holding all `2^64` values
  (`C16_safe_treemap_len_iff`, `C16_treemap_len_2p64_observation`).
* **codec area** (section "Codec area"; predicates in `RoaringModel/SafeCodec.lean`): `deserialize_from_impl` on arbitrary input
  bytes over any reader (`C16_safe_deserialize*`), `intersection_with_serialized_unchecked` on arbitrary bytes
  (`C16_safe_interSer`), `from_lsb0_bytes` with its store constructors on the documented domain (`C16_safe_fromLsb0`,
  `C16_safe_lsb0_store`), the treemap `serialized_size` / `serialize_into` / `deserialize_from`
  (`C16_safe_treemap_serialize`, `C16_safe_treemap_deserialize*`).
* **compositions** (`SafeCompose.lean`): the public methods as wholes, loops included, for `RoaringBitmap`, then
  `RoaringTreemap`, then the size arithmetic of the iterators and the indexings of the multi-operand merges;
  `treemap::Iter::advance_to` / `advance_back_to` (`SafeTreemapIter.lean`); the multi-operand merges
  (`SafeMulti.lean`); the by-reference `&=` / `-=` and the multi-operand folds over them (`SafeBinOps.lean`).
-/
namespace Roaring.C16
open Roaring Roaring.MiscLemmas

/-- Empty, inverted and equal-excluded ranges are the empty set for the four range operations, and the
    bitmap is left unchanged — for every bitmap (no well-formedness needed) and every bound pair that
    `convert_range_to_inclusive` rejects. -/
theorem C16_ranges (b : Bitmap) (lo hi : Bound) (e : ConvErr)
    (h : convertRange u32Max lo hi = .error e) :
    Bitmap.insertRange b lo hi = (b, 0) ∧ Bitmap.removeRange b lo hi = (b, 0) ∧
    Bitmap.rangeCardinality b lo hi = 0 ∧ Bitmap.containsRange b lo hi = true := by
  simp [Bitmap.insertRange, Bitmap.removeRange, Bitmap.rangeCardinality, Bitmap.containsRange, h]

/-- Non-vacuity of `C16_ranges`: `5..5`, `7..=3`, `(Excluded 9, Excluded 9)`, `(Excluded MAX, Unbounded)`, `..0`. -/
example : convertRange u32Max (.incl 5) (.excl 5) = .error .empty
    ∧ convertRange u32Max (.incl 7) (.incl 3) = .error .startGreaterThanEnd
    ∧ convertRange u32Max (.excl 9) (.excl 9) = .error .startAndEndEqualExcluded
    ∧ convertRange u32Max (.excl u32Max) .unb = .error .empty
    ∧ convertRange u32Max .unb (.excl 0) = .error .empty := ⟨rfl, rfl, rfl, rfl, rfl⟩

/-- a bound whose value fits the integer type -/
def Bound.fits (maxV : Nat) : Bound → Prop
  | .incl n => n ≤ maxV
  | .excl n => n ≤ maxV
  | .unb => True

/-- `convert_range_to_inclusive` succeeds exactly on the non-empty intervals, with the interval's end points
    (`Spec.interval` is the spec-side meaning of a bound pair). -/
theorem C16_convertRange_ok (maxV : Nat) (lo hi : Bound) (hlo : Bound.fits maxV lo) (hhi : Bound.fits maxV hi)
    (a b : Nat) : convertRange maxV lo hi = .ok (a, b) ↔ Spec.interval maxV lo hi = some (a, b) := by
  have hl : Roaring.Bound.le maxV lo := by cases lo <;> exact hlo
  have hh : Roaring.Bound.le maxV hi := by cases hi <;> exact hhi
  have := convertRange_interval maxV lo hi hl hh
  cases hc : convertRange maxV lo hi with
  | ok r => rw [hc] at this; simp only [Except.ok.injEq]; rw [← this]; simp
  | error e => rw [hc] at this; rw [← this]; simp

/-- Non-vacuity: `(Excluded 3, Included 10)` is `[4, 10]`, `..` is the whole universe. -/
example : convertRange u32Max (.excl 3) (.incl 10) = .ok (4, 10) ∧ convertRange u32Max .unb .unb = .ok (0, u32Max) :=
  ⟨rfl, rfl⟩

/-- The conversion fails exactly when the interval is empty. -/
theorem C16_convertRange_error (maxV : Nat) (lo hi : Bound) (hlo : Bound.fits maxV lo) (hhi : Bound.fits maxV hi) :
    (∃ e, convertRange maxV lo hi = .error e) ↔ Spec.interval maxV lo hi = none := by
  constructor
  · rintro ⟨e, he⟩
    cases hi' : Spec.interval maxV lo hi with
    | none => rfl
    | some p =>
      have := (C16_convertRange_ok maxV lo hi hlo hhi p.1 p.2).2 hi'
      rw [he] at this; cases this
  · intro hn
    cases hc : convertRange maxV lo hi with
    | error e => exact ⟨e, rfl⟩
    | ok p =>
      have := (C16_convertRange_ok maxV lo hi hlo hhi p.1 p.2).1 hc
      rw [hn] at this; cases this

/-- `convert_range_to_inclusive` never fails on a non-empty range: if some `x ≤ maxV` lies within the
    bounds, the conversion succeeds and `x` is inside the resulting inclusive interval. -/
theorem C16_convertRange_nonempty (maxV : Nat) (lo hi : Bound) (hlo : Bound.fits maxV lo) (hhi : Bound.fits maxV hi)
    (x : Nat) (hx : x ≤ maxV) (hm : Spec.Bound.mem lo hi x) :
    ∃ a b, convertRange maxV lo hi = .ok (a, b) ∧ a ≤ x ∧ x ≤ b := by
  suffices h : ∃ a b, Spec.interval maxV lo hi = some (a, b) ∧ a ≤ x ∧ x ≤ b by
    obtain ⟨a, b, h1, h2, h3⟩ := h
    exact ⟨a, b, (C16_convertRange_ok maxV lo hi hlo hhi a b).2 h1, h2, h3⟩
  cases hi' : Spec.interval maxV lo hi with
  | none => exact absurd ⟨hm, hx⟩ (Spec.interval_none maxV lo hi hi' x)
  | some p =>
    obtain ⟨a, b⟩ := p
    have := (Spec.interval_some maxV lo hi a b hi').2.2 x
    exact ⟨a, b, rfl, (this.mpr ⟨hm, hx⟩).1, (this.mpr ⟨hm, hx⟩).2⟩

/-- Non-vacuity: 7 lies in `(Excluded 3, Excluded 8)`. -/
example : Spec.Bound.mem (.excl 3) (.excl 8) 7 := by decide

/-- Non-vacuity: a well-formed 17-element bitmap takes the summary branch. -/
example : Bitmap.WF [⟨0, .array (List.range 17)⟩] ∧
    Bitmap.debugFmt [⟨0, .array (List.range 17)⟩] = some "RoaringBitmap<17 values between 0 and 16>" := by
  exact ⟨(bitmapWF_iff _).1 ⟨by decide, List.forall_mem_singleton.2
    ⟨by decide +kernel, by decide +kernel, by decide +kernel, by decide +kernel⟩⟩, by decide +kernel⟩

/-- `Debug` output is determined by the element set: it is the SPEC string (`Spec.debugString`). -/
theorem C16_debug_spec (b : Bitmap) (hwf : Bitmap.WF b) :
    Bitmap.debugFmt b = some (Spec.debugString (Bitmap.elems b)) := by
  unfold Bitmap.debugFmt Spec.debugString
  rw [Bitmap.len_spec b hwf, Bitmap.min?_spec b hwf, Bitmap.max?_spec b hwf]
  unfold Spec.min? Spec.max?
  split
  · rfl
  · rename_i hlen
    obtain ⟨lo, hi, e1, e2⟩ := exists_head_getLast hlen
    rw [e1, e2]
    rfl

/-- `Debug` formatting is total: for a well-formed bitmap neither `unwrap()` of `fmt.rs` can fail
    (`min()` / `max()` are `Some` whenever the summary branch `len() >= 16` is taken); for fewer than 16
    values the list branch has no partial operation at all. -/
theorem C16_debug_total (b : Bitmap) (hwf : Bitmap.WF b) : (Bitmap.debugFmt b).isSome = true := by
  rw [C16_debug_spec b hwf]; rfl

/-! ### `Debug` as the driver executes it: the list branch runs the mirrored iterators (fidelity audit)

`Bitmap.debugFmtM` / `Treemap.debugFmtM` (Fmt.lean, TreemapFmt.lean) print `self.iter().collect::<Vec<_>>()` by
driving the mirrored `bitmap::Iter` / `treemap::Iter` with `next()` until `None`, as `Vec::from_iter` does; the
definitions above (`debugFmt`) print the abstraction `elems`.  They agree on every well-formed value. -/

theorem C16_debug_mirror_eq (b : Bitmap) (hwf : Bitmap.WF b) : Bitmap.debugFmtM b = Bitmap.debugFmt b :=
  have h := C03.C03_BitmapOK_of_WF b hwf
  Fidelity.debugFmtM_eq b h.1 (C03.C03_elems_u32 b h)

/-- `Debug` formatting — the executed definition — is total … -/
theorem C16_debug_mirror_total (b : Bitmap) (hwf : Bitmap.WF b) : (Bitmap.debugFmtM b).isSome = true := by
  rw [C16_debug_mirror_eq b hwf]; exact C16_debug_total b hwf

/-- … and is the SPEC string of the element set. -/
theorem C16_debug_mirror_spec (b : Bitmap) (hwf : Bitmap.WF b) :
    Bitmap.debugFmtM b = some (Spec.debugString (Bitmap.elems b)) := by
  rw [C16_debug_mirror_eq b hwf]; exact C16_debug_spec b hwf

/-- Non-vacuity: both branches of the executed definition on concrete well-formed values
    (3 values: the iterator is drained; 17 values: the summary). -/
example : Bitmap.debugFmtM [⟨0, .array [1, 2, 70]⟩] = some "RoaringBitmap<[1, 2, 70]>"
    ∧ Bitmap.debugFmtM [⟨0, .array (List.range 17)⟩] = some "RoaringBitmap<17 values between 0 and 16>" := by
  decide +kernel

theorem C16_tdebug_mirror_eq (t : Treemap) (h : Treemap.TWF t) : Treemap.debugFmtM t = Treemap.debugFmt t :=
  Fidelity.tdebugFmtM_eq t h

/-- **`Debug` of a `RoaringTreemap` is determined by the element set** — stated for the executed definition
    (`debugFmtM`): for a well-formed treemap neither `unwrap()` of treemap/fmt.rs can fail (the result is `some`;
    `C16_tdebug_total` below) and the output is the SPEC string. -/
theorem C16_tdebug_spec (t : Treemap) (h : Treemap.TWF t) :
    Treemap.debugFmtM t = some (Spec.debugString64 (Treemap.elems t)) := by
  rw [C16_tdebug_mirror_eq t h]
  unfold Treemap.debugFmt Spec.debugString64
  rw [C10.C10_len t h, C10.C10_min t h, C10.C10_max t h]
  unfold Spec.min? Spec.max?
  split
  · rfl
  · rename_i hlen
    obtain ⟨lo, hi, e1, e2⟩ := exists_head_getLast hlen
    rw [e1, e2]
    rfl

theorem C16_tdebug_total (t : Treemap) (h : Treemap.TWF t) : (Treemap.debugFmtM t).isSome = true := by
  rw [C16_tdebug_spec t h]; rfl

/-- Non-vacuity: the three-partition treemap of C12 is well-formed; the executed formatter drains its iterator. -/
example : Treemap.TWF C12.tEx ∧
    Treemap.debugFmtM C12.tEx = some "RoaringTreemap<[1, 5, 8589934595, 8589934642, 17179869191]>" :=
  ⟨C12.tEx_TWF, by decide +kernel⟩

/-! ### the panic sites of the other operations (thin corollaries of C01 / C03 / C17 and of the query
    lemmas of Lemmas/BStoreBasic.lean, Lemmas/BitmapQuery.lean) -/

/-- **Mutators are total.**  `insert`, `remove`, `insert_range`, `remove_range`, `push`, `append`, `extend`,
    `clear`, `remove_smallest`, `remove_biggest` on a well-formed value with `u32` arguments never panic, in
    either build configuration (no debug validation fires), and the value stays well-formed — so the next call
    cannot panic either. -/
theorem C16_mutators_total (dbg : Bool) (b : Bitmap) (h : Bitmap.WF b) (op : Op32) (hv : op.Valid) :
    ∃ b' r, Bitmap.step dbg b op = some (b', r) ∧ Bitmap.WF b' := by
  obtain ⟨b', h1, h2, _⟩ := C01.C01_step dbg b h op hv
  exact ⟨b', _, h1, h2⟩

/-- ... along every history starting from `new()`. -/
theorem C16_history_total (dbg : Bool) (ops : List Op32) (hv : ∀ op ∈ ops, op.Valid) :
    (Bitmap.run dbg Bitmap.new ops).isSome = true := by
  obtain ⟨b', h1, _⟩ := C01.C01_run dbg ops Bitmap.new C01.C01_new.1 hv
  rw [h1]; rfl

/-- the part of well-formedness that iteration relies on -/
theorem bitmapOK_of_wf (b : Bitmap) (h : Bitmap.WF b) : C03.BitmapOK b := C03.C03_BitmapOK_of_WF b h

/-- **`range` / `into_range` panic exactly on the two documented inputs** (both bounds given and start > end, or
    both excluded and equal — `Bound.inverted`); on every other bound pair the cursor is created. -/
theorem C16_range_panics (b : Bitmap) (h : Bitmap.WF b) (lo hi : Bound)
    (hlo : C03.BoundU32 lo) (hhi : C03.BoundU32 hi) :
    Bitmap.range b lo hi = none ↔ Spec.Bound.inverted lo hi = true := by
  rw [(C03.C03_range_WF b h lo hi hlo hhi).1]
  unfold Spec.range
  split <;> simp_all

/-- **`from_lsb0_bytes`**: no panic whenever `offset + 8·len ≤ 2^32` (any offset); a panic only past `2^32`; and
    for a multiple-of-8 offset a panic exactly for a non-empty slice that extends past `2^32` (the documented
    one). -/
theorem C16_lsb0_panics (dbg : Bool) (off : Nat) (bytes : List Nat) (hb : ∀ b ∈ bytes, b < 256) :
    (off + 8 * bytes.length ≤ 4294967296 → (Lsb0.fromLsb0 dbg off bytes).isSome = true) ∧
    (Lsb0.fromLsb0 dbg off bytes = none → off + 8 * bytes.length > 4294967296) ∧
    (off % 8 = 0 → (Lsb0.fromLsb0 dbg off bytes = none ↔ bytes ≠ [] ∧ off + 8 * bytes.length > 4294967296)) := by
  refine ⟨?_, C17.C17_panic_only_outside dbg off bytes hb, C17.C17_panics_iff_aligned dbg off bytes hb⟩
  intro hfit
  obtain ⟨b, h1, _⟩ := C17.C17 dbg off bytes hb hfit
  rw [h1]; rfl

/-- **`select(n)`** is `None` exactly when `n ≥ len()`: the store-level `select` inside never comes back empty
    for an index the container claims to have. -/
theorem C16_select_total (b : Bitmap) (h : Bitmap.WF b) (n : Nat) :
    (Bitmap.select b n = none ↔ (Bitmap.elems b).length ≤ n) ∧
    (n < Bitmap.len b → (Bitmap.select b n).isSome = true) := by
  rw [Bitmap.select_spec b h n, Bitmap.len_spec b h]
  unfold Spec.select
  refine ⟨by simp, ?_⟩
  intro hn
  rw [List.getElem?_eq_getElem hn]; rfl

/-- **`min()` / `max()`** are `None` exactly for the empty set. -/
theorem C16_min_max_total (b : Bitmap) (h : Bitmap.WF b) :
    (Bitmap.min? b = none ↔ Bitmap.elems b = []) ∧ (Bitmap.max? b = none ↔ Bitmap.elems b = []) := by
  rw [Bitmap.min?_spec b h, Bitmap.max?_spec b h]
  unfold Spec.min? Spec.max?
  exact ⟨List.head?_eq_none_iff, List.getLast?_eq_none_iff⟩


/-! ## No arithmetic overflow / underflow / out-of-range index on well-formed values (`Safe_*`, Safe.lean)

Running examples: `exBits` (a `BitmapStore` holding 0..=65535), `exB` (one array chunk, one full bitset chunk). -/

/-- strict sortedness and bound-fitting of concrete values are decidable -/
local instance (l : List Nat) : Decidable (Sorted l) := by unfold Sorted; infer_instance
local instance (v : List Nat) : Decidable (Arr.Inv v) := by unfold Arr.Inv; infer_instance
local instance (m : Nat) (b : Bound) : Decidable (Roaring.Bound.le m b) := by
  cases b <;> unfold Roaring.Bound.le <;> infer_instance
attribute [local instance] Concrete.decBitmapWF

/-- a well-formed two-chunk bitmap: chunk 0 = array `{1,2,3}`, chunk 2 = full bitset -/
def exB : Bitmap := [⟨0, .array [1, 2, 3]⟩, ⟨2, .bitmap BStore.full⟩]

theorem exB_wf : Bitmap.WF exB := by
  refine ⟨by decide, ?_⟩
  intro c hc
  simp only [exB, List.mem_cons, List.not_mem_nil, or_false] at hc
  rcases hc with rfl | rfl
  · exact ⟨by decide, by decide, by decide, by decide⟩
  · exact ⟨by decide, BStore.inv_full, by decide⟩

/-! ### (a) `BitmapStore` (bitmap_store.rs) -/

/-- `insert`: `self.bits[key]`, `1 << bit`, `>> bit`, `self.len += inserted` (bitmap_store.rs:106-114). -/
theorem C16_safe_bstore_insert (b : BStore) (hb : b.Inv) (i : Nat) (hi : i < 65536) : b.Safe_insert i :=
  BStore.safe_insert b hb i hi
example : BStore.full.Safe_insert 65535 := C16_safe_bstore_insert _ BStore.inv_full _ (by decide)
/-- the predicate has teeth: on a store whose cached `len` is wrong (`u64::MAX`) `self.len += 1` overflows -/
example : ¬ BStore.Safe_insert { len := wMax, bits := BStore.zeros } 5 := fun h => absurd h.2.2 (by decide)

/-- `remove`: `self.bits[key]`, `1 << bit`, `self.len -= removed` (bitmap_store.rs:188-196). -/
theorem C16_safe_bstore_remove (b : BStore) (hb : b.Inv) (i : Nat) (hi : i < 65536) : b.Safe_remove i :=
  BStore.safe_remove b hb i hi
example : BStore.full.Safe_remove 0 := C16_safe_bstore_remove _ BStore.inv_full _ (by decide)
/-- teeth: with a cached `len` of 0 over a non-empty word, `self.len -= 1` underflows -/
example : ¬ BStore.Safe_remove { len := 0, bits := List.replicate 1024 wMax } 5 := fun h => absurd h.2.2 (by decide)

/-- `contains`: `self.bits[key(index)] & (1 << bit(index))` (bitmap_store.rs:237-239). -/
theorem C16_safe_bstore_contains (b : BStore) (hb : b.Inv) (i : Nat) (hi : i < 65536) : b.Safe_contains i :=
  BStore.safe_contains b hb i hi
example : BStore.new.Safe_contains 65535 := C16_safe_bstore_contains _ BStore.inv_new _ (by decide)

/-- `insert_range`: word indexing, `1 << start_bit`, `1 << (end_bit + 1)`, `end - start + 1` in `u16`, the `u32` counter
    `existed`, `u64::from(end - start + 1) - u64::from(existed)`, `end as u64 - start as u64 + 1 - existed as u64`,
    `self.len += inserted` (bitmap_store.rs:116-161). -/
theorem C16_safe_bstore_insertRange (b : BStore) (hb : b.Inv) (s e : Nat) (hse : s ≤ e) (he : e < 65536) :
    b.Safe_insertRange s e := BStore.safe_insertRange b hb s e hse he
example : BStore.full.Safe_insertRange 0 65535 := C16_safe_bstore_insertRange _ BStore.inv_full _ _ (by decide) (by decide)
example : BStore.new.Safe_insertRange 63 64 := C16_safe_bstore_insertRange _ BStore.inv_new _ _ (by decide) (by decide)

/-- `remove_range`: word indexing, the slices `self.bits[start_key + 1..end_key]`, `u64::MAX << start_bit`,
    `u64::MAX >> (63 - end_bit)`, the `u32` counter `removed`, `self.len -= removed` (bitmap_store.rs:198-235). -/
theorem C16_safe_bstore_removeRange (b : BStore) (hb : b.Inv) (s e : Nat) (hse : s ≤ e) (he : e < 65536) :
    b.Safe_removeRange s e := BStore.safe_removeRange b hb s e hse he
example : BStore.full.Safe_removeRange 1 65534 := C16_safe_bstore_removeRange _ BStore.inv_full _ _ (by decide) (by decide)

/-- `contains_range`: `end - start`, `1 << start_bit`, `64 - (end_bit + 1)` and the shift by it, the slice
    `self.bits[start_i..=end_i]` is in range and non-empty (`[] => unreachable!()`) (bitmap_store.rs:241-270). -/
theorem C16_safe_bstore_containsRange (b : BStore) (hb : b.Inv) (s e : Nat) (hse : s ≤ e) (he : e < 65536) :
    b.Safe_containsRange s e := BStore.safe_containsRange b hb s e hse he
example : BStore.full.Safe_containsRange 64 127 := C16_safe_bstore_containsRange _ BStore.inv_full _ _ (by decide) (by decide)

/-- `min` / `max` / `to_array_store`: `63 - bit.leading_zeros()` only on a non-zero word; the casts
    `(index * 64 + …) as u16`, `(trailing_zeros + 64 * index as u32) as u16` are lossless (bitmap_store.rs:280-315). -/
theorem C16_safe_bstore_min_max_toArray (b : BStore) (hb : b.Inv) : b.Safe_min ∧ b.Safe_max ∧ b.Safe_toArray :=
  ⟨BStore.safe_min b hb, BStore.safe_max b hb, BStore.safe_toArray b hb⟩
example : BStore.full.Safe_min ∧ BStore.full.Safe_max ∧ BStore.full.Safe_toArray :=
  C16_safe_bstore_min_max_toArray _ BStore.inv_full

/-- `rank`: `self.bits[..key]`, `self.bits[key]`, `63 - bit`, `<< (63 - bit)`, the `u64` sum (bitmap_store.rs:317-322). -/
theorem C16_safe_bstore_rank (b : BStore) (hb : b.Inv) (i : Nat) (hi : i < 65536) : b.Safe_rank i :=
  BStore.safe_rank b hb i hi
example : BStore.full.Safe_rank 65535 := C16_safe_bstore_rank _ BStore.inv_full _ (by decide)

/-- the word loops `value &= value - 1` (`select(value, n)`, `remove_smallest`) and
    `*word &= !(1 << (63 - word.leading_zeros()))` (`remove_biggest`) may run up to `count_ones()` times:
    the word is non-zero at every iteration (bitmap_store.rs:384, :407, :425). -/
theorem C16_safe_word_loops (w : Nat) (hw : w < 2^64) (n : Nat) (hn : n ≤ popcount w) :
    Safe_popLowN w n ∧ Safe_popHighN w n := ⟨safe_popLowN n w hw hn, safe_popHighN n w hw hn⟩
example : Safe_popLowN 0b1011 3 ∧ Safe_popHighN 0b1011 3 := by decide
/-- teeth: a fourth iteration would compute `0 - 1` / `63 - 64` -/
example : ¬ Safe_popLowN 0b1011 4 ∧ ¬ Safe_popHighN 0b1011 4 := by decide

/-- `select` (every `n : u16`, also `n ≥ len`): `select(value, n)` runs `value &= value - 1` only `n < count_ones`
    times, `n -= len` is guarded, `(64 * key as u64 + index) as u16` is lossless (bitmap_store.rs:324-337, :422-428). -/
theorem C16_safe_bstore_select (b : BStore) (hb : b.Inv) (n : Nat) : b.Safe_select n := BStore.safe_select b hb n
example : BStore.full.Safe_select 65535 := C16_safe_bstore_select _ BStore.inv_full _

/-- `remove_smallest` / `remove_biggest` (every `n : u64`): `self.len -= clear_bits` behind the early return,
    `clear_bits -= count`, `*word - 1` and `63 - word.leading_zeros()` only on non-zero words
    (bitmap_store.rs:374-417). -/
theorem C16_safe_bstore_removeSmallest_Biggest (b : BStore) (hb : b.Inv) (n : Nat) :
    b.Safe_removeSmallest n ∧ b.Safe_removeBiggest n :=
  ⟨BStore.safe_removeSmallest b hb n, BStore.safe_removeBiggest b hb n⟩
example : BStore.full.Safe_removeSmallest 100 ∧ BStore.full.Safe_removeBiggest 100 :=
  C16_safe_bstore_removeSmallest_Biggest _ BStore.inv_full _

/-- `op_bitmaps` (`|=`, `&=`, `-=`, `^=` with a bitset): `bits1.len += index1.count_ones() as u64`
    (bitmap_store.rs:634-640). -/
theorem C16_safe_bstore_opBitmaps (f : Nat → Nat → Nat) (hf : ∀ x y, x < 2^64 → y < 2^64 → f x y < 2^64)
    (a b : BStore) (ha : a.Inv) (hb : b.Inv) : BStore.Safe_opBitmaps f a b := BStore.safe_opBitmaps f hf a b ha hb
example : BStore.Safe_opBitmaps (· ||| ·) BStore.full BStore.new :=
  C16_safe_bstore_opBitmaps _ (fun _ _ hx hy => Nat.or_lt_two_pow hx hy) _ _ BStore.inv_full BStore.inv_new

/-- `BitOrAssign<&ArrayStore>`: `self.len += (old_w ^ new_w) >> bit` at every step (bitmap_store.rs:648-657). -/
theorem C16_safe_bstore_orArr (b : BStore) (hb : b.Inv) (v : List Nat) (hv : ∀ x ∈ v, x < 65536) :
    BStore.Safe_orArr b v := BStore.safe_orArr v b hb hv
example : BStore.Safe_orArr BStore.full [0, 5, 65535] := C16_safe_bstore_orArr _ BStore.inv_full _ (by decide)

/-- `SubAssign<&ArrayStore>`: `self.len -= (old_w ^ new_w) >> bit` at every step (bitmap_store.rs:673-683). -/
theorem C16_safe_bstore_subArr (b : BStore) (hb : b.Inv) (v : List Nat) (hv : ∀ x ∈ v, x < 65536) :
    BStore.Safe_subArr b v := BStore.safe_subArr v b hb hv
example : BStore.Safe_subArr BStore.new [0, 5, 65535] := C16_safe_bstore_subArr _ BStore.inv_new _ (by decide)

/-- `BitXorAssign<&ArrayStore>`: `self.len as i64`, `len += 1 - 2 * (…) as i64` stays within `0..=65536` at every
    step, so `len as u64` is lossless (bitmap_store.rs:692-703). -/
theorem C16_safe_bstore_xorArr (b : BStore) (hb : b.Inv) (v : List Nat) (hv : ∀ x ∈ v, x < 65536) :
    BStore.Safe_xorArr b v := BStore.safe_xorArr b hb v hv
example : BStore.Safe_xorArr BStore.new [7, 7, 7] := C16_safe_bstore_xorArr _ BStore.inv_new _ (by decide)

/-- `intersection_len_bitmap` / `intersection_len_array`: indexing, `1 << bit`, the `u64` sums
    (bitmap_store.rs:339-353). -/
theorem C16_safe_bstore_interLen (a b : BStore) (ha : a.Inv) (hb : b.Inv) (v : List Nat) (hv : Arr.Inv v) :
    a.Safe_interLenBitmap b ∧ b.Safe_interLenArray v :=
  ⟨BStore.safe_interLenBitmap a b ha hb, BStore.safe_interLenArray b hb v hv⟩
example : BStore.full.Safe_interLenBitmap BStore.full ∧ BStore.full.Safe_interLenArray [1, 2] :=
  C16_safe_bstore_interLen _ _ BStore.inv_full BStore.inv_full _ ⟨by decide, by decide⟩

/-- `BitmapIter::next` / `next_back` / `advance_to` / `advance_back_to`: `self.key + 1`, the yielded
    `64 * self.key + index` / `64 * self.key_back + index` fit `u16`; `1 << bit`, `u64::MAX >> (64 - bit - 1)`
    (bitmap_store.rs:481-618; `value - 1`, `key_back -= 1`, `63 - leading_zeros` sit behind explicit tests that the
    model's `BIter.next` / `nextBack` repeat). -/
theorem C16_safe_biter (it : BIter) (hi : it.Inv) (index : Nat) :
    it.Safe_next ∧ it.Safe_nextBack ∧ BIter.Safe_advance index :=
  ⟨BIter.safe_next it hi, BIter.safe_nextBack it hi, BIter.safe_advance index⟩
example : (BIter.new BStore.full.bits).Safe_next ∧ (BIter.new BStore.full.bits).Safe_nextBack ∧ BIter.Safe_advance 65535 :=
  C16_safe_biter _ (BIter.new_inv _ BStore.inv_full.words) _

/-! ### (b) `ArrayStore` (array_store/mod.rs) -/

/-- `insert` / `remove`: `Vec::insert(loc, …)` gets `loc ≤ len`, `Vec::remove(loc)` gets `loc < len`
    (array_store/mod.rs:85-87, :134-136) — for every vector. -/
theorem C16_safe_array_bsearch (v : List Nat) (x : Nat) : Arr.Safe_bsearch v x := Arr.safe_bsearch v x

/-- `insert_range`: `self.vec[pos_start..]`, `splice(pos_start..pos_end, …)` with `pos_start ≤ pos_end ≤ len`,
    `end as u64 - start as u64 + 1 - dropped.len() as u64` (array_store/mod.rs:89-107). -/
theorem C16_safe_array_insertRange (v : List Nat) (hv : Arr.Inv v) (s e : Nat) (hse : s ≤ e) :
    Arr.Safe_insertRange v s e := Arr.safe_insertRange v hv s e hse
example : Arr.Safe_insertRange [1, 5, 9, 65535] 4 9 := C16_safe_array_insertRange _ ⟨by decide, by decide⟩ _ _ (by decide)
/-- teeth: on a vector with a duplicate the subtraction `… + 1 - dropped.len()` underflows -/
example : ¬ Arr.Safe_insertRange [1, 2, 2, 2, 3] 2 3 := by decide

/-- `remove_range`: `self.vec[pos_start..]`, `drain(pos_start..pos_end)`, `pos_end - pos_start`
    (array_store/mod.rs:138-151). -/
theorem C16_safe_array_removeRange (v : List Nat) (hv : Arr.Inv v) (s e : Nat) : Arr.Safe_removeRange v s e :=
  Arr.safe_removeRange v hv s e
example : Arr.Safe_removeRange [1, 5, 9, 65535] 4 9 := C16_safe_array_removeRange _ ⟨by decide, by decide⟩ _ _

/-- `contains_range`: `end - start`, `start_i + range_count - 1` (array_store/mod.rs:166-181). -/
theorem C16_safe_array_containsRange (v : List Nat) (s e : Nat) (hse : s ≤ e) : Arr.Safe_containsRange v s e :=
  Arr.safe_containsRange v s e hse
example : Arr.Safe_containsRange [1, 2, 3] 0 65535 := C16_safe_array_containsRange _ _ _ (by decide)

/-- `to_bitmap_store`: `bits[key(index)] |= 1 << bit(index)` and, in a debug build, the `unwrap()` of
    `BitmapStore::from_unchecked` (array_store/mod.rs:224-232, bitmap_store.rs:99). -/
theorem C16_safe_array_toBitmap (v : List Nat) (hv : Arr.Inv v) : Arr.Safe_toBitmap v := Arr.safe_toBitmap v hv
example : Arr.Safe_toBitmap [0, 64, 65535] := C16_safe_array_toBitmap _ ⟨by decide, by decide⟩

/-- `ArrayStore::remove_smallest` / `remove_biggest` (`rotate_left(n)`, `self.vec.len() - n as usize`,
    array_store/mod.rs:153-160) are safe exactly for `n ≤ len`; this is NOT implied by the vector's invariant
    (they are crate-private: see `C16_safe_removeSmallest` for the callers). -/
theorem C16_safe_array_removeN_iff (v : List Nat) (n : Nat) : Arr.Safe_removeN v n ↔ n ≤ v.length := Iff.rfl
example : Arr.Safe_removeN [1, 2] 2 ∧ ¬ Arr.Safe_removeN [1, 2] 3 := by decide

/-! ### (c) `Store` / `Container` / `RoaringBitmap` (store/mod.rs, container.rs, inherent.rs, util.rs) -/

/-- Store dispatch: every `Store::{insert, remove, insert_range, remove_range, contains_range, rank, select}` call on a
    structurally valid store with `u16` arguments (`s ≤ e` for the ranges: the callers never pass an empty one). -/
theorem C16_safe_store (st : Store) (h : st.Inv) (i s e n : Nat) (hi : i < 65536) (hse : s ≤ e) (he : e < 65536) :
    st.Safe_insert i ∧ st.Safe_remove i ∧ st.Safe_insertRange s e ∧ st.Safe_removeRange s e ∧
    st.Safe_containsRange s e ∧ st.Safe_rank i ∧ st.Safe_select n :=
  ⟨Store.safe_insert st h i hi, Store.safe_remove st h i hi, Store.safe_insertRange st h s e hse he,
   Store.safe_removeRange st h s e hse he, Store.safe_containsRange st h s e hse he, Store.safe_rank st h i hi,
   Store.safe_select st h n⟩
example : (Store.bitmap BStore.full).Safe_insertRange 3 70 ∧ (Store.array [1, 2]).Safe_removeRange 3 70 :=
  ⟨(C16_safe_store (.bitmap BStore.full) BStore.inv_full 0 3 70 0 (by decide) (by decide) (by decide)).2.2.1,
   (C16_safe_store (.array [1, 2]) ⟨by decide, by decide⟩ 0 3 70 0 (by decide) (by decide) (by decide)).2.2.2.1⟩

/-- `Container::insert_range`: `range.len() as u64`, the early `to_bitmap_store`, the store call
    (container.rs:59-69); `ensure_correct_store` (container.rs:177-190). -/
theorem C16_safe_container_insertRange (c : Container) (h : c.store.Inv) (s e : Nat) (hse : s ≤ e) (he : e < 65536) :
    c.Safe_insertRange s e ∧ c.Safe_ensureCorrectStore :=
  ⟨Container.safe_insertRange c h s e hse he, Container.safe_ensureCorrectStore c h⟩
example : (Container.mk 7 (.array [1, 2, 3])).Safe_insertRange 0 65535 :=
  (C16_safe_container_insertRange ⟨7, .array [1, 2, 3]⟩ ⟨by decide, by decide⟩ _ _ (by decide) (by decide)).1

/-- `Container::remove_smallest` / `remove_biggest`: `bits.len() - n` and the store calls are safe for `n ≤ len`
    (container.rs:110-138). -/
theorem C16_safe_container_removeN (c : Container) (h : c.store.Inv) (n : Nat) (hn : n ≤ c.len) :
    c.Safe_removeSmallest n ∧ c.Safe_removeBiggest n :=
  ⟨Container.safe_removeSmallest c h n hn, Container.safe_removeBiggest c h n hn⟩
example : (Container.mk 2 (.bitmap BStore.full)).Safe_removeSmallest 65000 :=
  (C16_safe_container_removeN ⟨2, .bitmap BStore.full⟩ BStore.inv_full 65000 (by decide)).1

/-- `util::split` / `util::join`: `(value >> 16) as u16` is lossless, `(u32::from(high) << 16) + u32::from(low)` does
    not overflow (bitmap/util.rs:6-15). -/
theorem C16_safe_split_join (v k i : Nat) (hv : v < 4294967296) (hk : k < 65536) (hi : i < 65536) :
    Bitmap.Safe_split v ∧ Bitmap.Safe_join k i := ⟨Bitmap.safe_split v hv, Bitmap.safe_join k i hk hi⟩
example : Bitmap.Safe_split 4294967295 ∧ Bitmap.Safe_join 65535 65535 := by decide

/-- `binary_search_by_key` results used as indices (`self.containers[loc]`, `get_unchecked(i)`, `containers[..i]`,
    `containers[i..]`) and `find_container_by_key` (`Vec::insert(loc, …)`, then `self.containers[loc]`) are in range
    — for every container vector (inherent.rs:190-213, :248, :263, :272, :352, :426, :466, :529, :542, :699-702). -/
theorem C16_safe_search (b : Bitmap) (key : Nat) : Bitmap.Safe_search b key ∧ Bitmap.Safe_findContainerByKey b key :=
  ⟨Bitmap.safe_search b key, Bitmap.safe_findContainerByKey b key⟩
example : Bitmap.Safe_findContainerByKey exB 1 := by decide +kernel

/-- `len`: the `u64` sum (inherent.rs:629-631); it is at most `2^32`. -/
theorem C16_safe_len (b : Bitmap) (h : b.WF) : Bitmap.Safe_len b ∧ Bitmap.len b ≤ 4294967296 :=
  ⟨Bitmap.safe_len b h, Bitmap.wf_len_le b h⟩
example : Bitmap.Safe_len exB := (C16_safe_len exB exB_wf).1

/-- `rank`: `get_unchecked(i)`, `self.containers[..i]`, `rank(index) + sum::<u64>()` (inherent.rs:687-704). -/
theorem C16_safe_rank (b : Bitmap) (h : b.WF) (v : Nat) (hv : v < 4294967296) : Bitmap.Safe_rank b v :=
  Bitmap.safe_rank b h v hv
example : Bitmap.Safe_rank exB 4294967295 := C16_safe_rank exB exB_wf _ (by decide)

/-- `select`: `n -= len` only when `len ≤ n`, `n as u16` only when `n < len ≤ 65536` (inherent.rs:724-739). -/
theorem C16_safe_select (b : Bitmap) (h : b.WF) (n : Nat) : Bitmap.Safe_select b n :=
  Bitmap.safe_select b n h.storesInv
example : Bitmap.Safe_select exB 65000 := C16_safe_select exB exB_wf _

/-- `range_cardinality`: `&self.containers[i]`, `start_low - 1` behind `start_low != 0`,
    `cardinality -= container.rank(start_low - 1)` (at most what was just added), the `u64` sums, `&self.containers[i..]`
    (inherent.rs:512-556). -/
theorem C16_safe_rangeCardinality (b : Bitmap) (h : b.WF) (lo hi : Bound)
    (hlo : Bound.le u32Max lo) (hhi : Bound.le u32Max hi) : Bitmap.Safe_rangeCardinality b lo hi :=
  Bitmap.safe_rangeCardinality b h lo hi hlo hhi
example : Bitmap.Safe_rangeCardinality exB (.incl 2) (.excl 140000) :=
  C16_safe_rangeCardinality exB exB_wf _ _ (by decide) (by decide)

/-- `contains_range`: `end_high - start_high`, `&self.containers[i..]`, `containers[0]`, the `[first, rest @ .., last]`
    pattern (never `unreachable!`), the container calls (inherent.rs:451-490). -/
theorem C16_safe_containsRange (b : Bitmap) (h : b.WF) (lo hi : Bound)
    (hlo : Bound.le u32Max lo) (hhi : Bound.le u32Max hi) : Bitmap.Safe_containsRange b lo hi :=
  Bitmap.safe_containsRange b h lo hi hlo hhi
example : Bitmap.Safe_containsRange exB (.incl 2) .unb := C16_safe_containsRange exB exB_wf _ _ (by decide) (by decide)

/-- `insert_range`, the whole method: `util::split`, every `find_container_by_key` index is valid, the loop
    `start_container_key..end_container_key`, every `Container::insert_range(low..=u16::MAX)` / `(0..=end_index)` call on
    the evolving container vector, `inserted += …` (inherent.rs:230-275 with container.rs:59-69 and the store code
    below it). -/
theorem C16_safe_insertRange (b : Bitmap) (h : b.WF) (lo hi : Bound)
    (hlo : Bound.le u32Max lo) (hhi : Bound.le u32Max hi) : Bitmap.Safe_insertRange b lo hi :=
  Bitmap.safe_insertRange b h lo hi hlo hhi
example : Bitmap.Safe_insertRange exB (.excl 2) (.incl 400000) :=
  C16_safe_insertRange exB exB_wf _ _ (by decide) (by decide)

/-- `insert_range` / `remove_range`: the `u64` counters `inserted += …`, `removed += …`
    (inherent.rs:263, :272, :398); the indices come from `find_container_by_key` (`C16_safe_search`), the container
    calls get `s ≤ e ≤ u16::MAX` (`C16_safe_container_insertRange`, `C16_safe_store`). -/
theorem C16_safe_range_counters (b : Bitmap) (h : b.WF) (lo hi : Bound)
    (hlo : Bound.le u32Max lo) (hhi : Bound.le u32Max hi) :
    Bitmap.Safe_insertRangeCount b lo hi ∧ Bitmap.Safe_removeRangeCount b lo hi :=
  ⟨Bitmap.safe_insertRangeCount b h lo hi hlo hhi, Bitmap.safe_removeRangeCount b h lo hi hlo hhi⟩
example : Bitmap.Safe_insertRangeCount exB .unb .unb := (C16_safe_range_counters exB exB_wf _ _ (by decide) (by decide)).1

/-- `remove_smallest` (every `n : u64`): `n -= container_len` is guarded and `Container::remove_smallest` is only called
    with `0 < n < container.len()`, which discharges `bits.len() - n` (container.rs:113) and
    `rotate_left(n)` / `self.vec.len() - n as usize` (array_store/mod.rs:154-155) (inherent.rs:756-776). -/
theorem C16_safe_removeSmallest (b : Bitmap) (h : b.WF) (n : Nat) : Bitmap.Safe_removeSmallest b n :=
  Bitmap.safe_removeSmallest b n h.storesInv
example : Bitmap.Safe_removeSmallest exB 5 := C16_safe_removeSmallest exB exB_wf _

/-- `remove_biggest` (every `n : u64`), same for the scan from the back (inherent.rs:791-811, container.rs:128,
    array_store/mod.rs:159). -/
theorem C16_safe_removeBiggest (b : Bitmap) (h : b.WF) (n : Nat) : Bitmap.Safe_removeBiggest b n :=
  Bitmap.safe_removeBiggest b n h.storesInv
example : Bitmap.Safe_removeBiggest exB 65537 := C16_safe_removeBiggest exB exB_wf _

/-- `serialize_into`: `self.containers.len() as u32`, `(container.len() - 1) as u16` (`1 ≤ len ≤ 65536`), and the
    running `offset: u32` (`8 + 8·n + Σ sizes ≤ 8 + 8200·65536 < 2^32`) (serialization.rs:66-86);
    `serialized_size` fits even a 32-bit `usize` (serialization.rs:35-47). -/
theorem C16_safe_serialize (b : Bitmap) (h : b.WF) : Bitmap.Safe_serialize b ∧ Bitmap.Safe_serializedSize b :=
  ⟨Bitmap.safe_serialize b h, Bitmap.safe_serializedSize b h⟩
example : Bitmap.Safe_serialize exB := (C16_safe_serialize exB exB_wf).1
/-- teeth: an empty container would make `(container.len() - 1) as u16` underflow -/
example : ¬ Bitmap.Safe_serialize [⟨0, .array []⟩] := by decide

/-- `statistics`: the `u32` counters and `n_values_array_containers += array.len() as u32`
    (`≤ 65536 · 4096 = 2^28`), the `u64` sums (statistics.rs:27-70). -/
theorem C16_safe_statistics (b : Bitmap) (h : b.WF) : Bitmap.Safe_statistics b := Bitmap.safe_statistics b h
example : Bitmap.Safe_statistics exB := C16_safe_statistics exB exB_wf

/-! ### `RoaringTreemap` (treemap/inherent.rs, treemap/util.rs) -/

/-- treemap `util::split` / `util::join`: `(value >> 32) as u32` lossless, `u64::from(high) << 32` loses no bit
    (treemap/util.rs:4-11). -/
theorem C16_safe_treemap_split_join (v hi lo : Nat) (hv : v < 2^64) (hhi : hi < 4294967296) (hlo : lo < 4294967296) :
    Treemap.Safe_split v ∧ Treemap.Safe_join hi lo := ⟨Treemap.safe_split v hv, Treemap.safe_join hi lo hhi hlo⟩
example : Treemap.Safe_split 18446744073709551615 ∧ Treemap.Safe_join 4294967295 4294967295 := by decide

/-- treemap `insert_range` over an existing inner partition: `full_bitmap.len() - entry.insert(full_bitmap).len()` does
    not underflow, a well-formed partition holds at most `2^32 = full().len()` values (treemap/inherent.rs:100). -/
theorem C16_safe_treemap_insertRange_full (old : Bitmap) (h : old.WF) : Treemap.Safe_insertRangeFull old :=
  Treemap.safe_insertRangeFull old h
example : Treemap.Safe_insertRangeFull exB := C16_safe_treemap_insertRange_full exB exB_wf

/-- `RoaringTreemap::len` (`.map(RoaringBitmap::len).sum()`, treemap/inherent.rs:327-329) does not overflow `u64`
    exactly when the treemap holds fewer than `2^64` values … -/
theorem C16_safe_treemap_len_iff (t : Treemap) (h : Treemap.PartsWF t) :
    Treemap.Safe_len t ↔ (Treemap.elems t).length < 2^64 := Treemap.safe_len_iff t h

/-- … in particular whenever it has fewer than `2^32` partitions (a treemap with all `2^32` partitions needs at
    least `2^32` heap allocations). -/
theorem C16_safe_treemap_len (t : Treemap) (h : Treemap.PartsWF t) (hl : t.length < 4294967296) : Treemap.Safe_len t :=
  Treemap.safe_len t h hl
example : Treemap.Safe_len [(0, exB), (4294967295, exB)] :=
  C16_safe_treemap_len _ (Treemap.partsWF_pair exB_wf (by decide) (by decide)) (by decide)

/-- **Observation (not reachable in memory).**  For the one treemap that holds all `2^64` values the sum in `len()` is
    exactly `2^64`: it overflows `u64` (panic with overflow checks, `0` without).  The same value is reached by
    `rank(u64::MAX)` and by the counter of `insert_range(..)` into an empty treemap (treemap/inherent.rs:86, :328, :398).
    It needs `2^32` full partitions (`2^32 × 65536 × 8 KiB = 2^61` bytes), so it is excluded by the property's
    "fits in memory" clause. -/
theorem C16_treemap_len_2p64_observation (t : Treemap) (h : Treemap.PartsWF t)
    (hall : (Treemap.elems t).length = 2^64) : ¬ Treemap.Safe_len t := by
  rw [C16_safe_treemap_len_iff t h, hall]; exact Nat.lt_irrefl _

/-- `RoaringTreemap::rank`: the `u64` sum (treemap/inherent.rs:389-399), for fewer than `2^32` partitions. -/
theorem C16_safe_treemap_rank (t : Treemap) (h : Treemap.PartsWF t) (hl : t.length < 4294967296) (v : Nat)
    (hv : v < 2^64) : Treemap.Safe_rank t v := Treemap.safe_rank t h hl v hv

/-- `RoaringTreemap::select`: `n -= len` guarded, `n as u32` lossless, `bitmap.select(n as u32).unwrap()` never
    panics, `(key as u64) << 32 | …` loses no bit (treemap/inherent.rs:418-428). -/
theorem C16_safe_treemap_select (t : Treemap) (h : Treemap.PartsWF t) (n : Nat) : Treemap.Safe_select t n :=
  Treemap.safe_select t n h
example : Treemap.Safe_select [(0, exB), (4294967295, exB)] 65540 :=
  C16_safe_treemap_select _ (Treemap.partsWF_pair exB_wf (by decide) (by decide)) _

/-! ## Codec area (SafeCodec.lean)

The decoders, the intersection with a serialized bitmap, `from_lsb0_bytes` and the treemap codec: every `+`, `-`, `*`,
`<<`, `>>`, index / slice range and narrowing cast of these functions, listed with `file:line` in
`RoaringModel/SafeCodec.lean`.  The decoder theorems quantify over ARBITRARY input bytes (no conformance hypothesis):
the arithmetic executed before the decoder returns — with a value or with an `Err` — is panic-free on every input.

Running examples: `runStream` (a conformant stream with one run chunk: cookie `12347`, run bitmap `[1]`, one
description, no offset table, the run `10..=14`), `arrStream` (two array chunks, cookie `12346`, with offsets). -/

/-- cookie `12347 | (1-1) << 16`, run bitmap `0b1`, description `(key 0, card-1 = 4)`, `runs = 1`, run `(10, 4)` -/
def runStream : List Nat := [59, 48, 0, 0,  1,  0, 0, 4, 0,  1, 0,  10, 0, 4, 0]

/-- the serialization of `{1, 2, 3} ∪ {5·65536 + 7}` -/
def arrStream : List Nat := Bitmap.serialize [⟨0, .array [1, 2, 3]⟩, ⟨5, .array [7]⟩]

example : deserialize true true runStream = .ok ([⟨0, .array [10, 11, 12, 13, 14]⟩], []) := by decide +kernel

/-- **`deserialize_from` / `deserialize_unchecked_from` (`deserialize_from_impl`, bitmap/serialization.rs:170-271)** on
    ANY byte string, in both build profiles: `(cookie >> 16) + 1`, `(size + 7) / 8`, `size * 4`, `u64::from(card) + 1`,
    `bm[i / 8] & (1 << (i % 8))`, `cardinality as usize`, the `usize` sum of the run lengths, every
    `Store::insert_range` of the run replay on the evolving store (array_store/mod.rs:89-107, bitmap_store.rs:116-161),
    the `u64` sum of `BitmapStore::try_from`, `ensure_correct_store` — none overflows, indexes out of range or loses
    bits in a cast. -/
theorem C16_safe_deserialize (chk dbg : Bool) (bs : List Nat) (hb : ∀ x ∈ bs, x < 256) :
    Safe_deserialize readN chk dbg bs := safe_deserialize readerOK_readN chk dbg bs hb
example : Safe_deserialize readN true true runStream := C16_safe_deserialize _ _ _ (by decide +kernel)
example : Safe_deserialize readN false false (arrStream.take 21) :=
  C16_safe_deserialize _ _ _ fun x hx => serialize_isBytes _ x (List.mem_of_mem_take hx)
/-- the predicates are evaluable on concrete streams (this is what the driver does) -/
example : Safe_deserialize readN true true runStream ∧ Safe_deserialize readN true false arrStream := by decide +kernel
/-- teeth: a run-flag lookup for container 8 in a 1-byte run bitmap is out of range; replaying a run into an array
    store that is not sorted underflows `… + 1 - dropped.len()`; a cardinality field that is not a `u16` -/
example : ¬ Safe_descr (some [1]) 8 4 ∧ ¬ Safe_replayRuns (.array [5, 5, 5, 4]) [(4, 2)]
    ∧ ¬ Safe_descr none 0 18446744073709551615 := by decide +kernel

/-- … over every reader that honours the `read_exact` contract (`ReaderOK`: a successful `read_exact(n)` returns `n`
    bytes), from every reader state; instances: the slice reader, the `Cursor` of `SerOps.lean` and … -/
theorem C16_safe_deserialize_reader {σ : Type} (Good : σ → Prop) (R : Nat → Parser σ (List Nat))
    (hR : ReaderOK Good R) (chk dbg : Bool) (s : σ) (hs : Good s) : Safe_deserialize R chk dbg s :=
  safe_deserialize hR chk dbg s hs

/-- … the scheduled reader of `IO.lean` (C14): any chunking of the stream, any number of `Interrupted` results. -/
theorem C16_safe_deserialize_sched (chk dbg : Bool) (data : List Nat) (hb : ∀ x ∈ data, x < 256) (sched : List IoEv) :
    Safe_deserialize SReader.readExact chk dbg ⟨data, sched⟩ :=
  safe_deserialize readerOK_sched chk dbg ⟨data, sched⟩ hb
example : Safe_deserialize SReader.readExact true true ⟨runStream, [.chunk 3, .intr, .chunk 1]⟩ :=
  C16_safe_deserialize_sched _ _ _ (by decide) _

/-- **`intersection_with_serialized_unchecked` (bitmap/ops_with_serialized.rs:44-277)** for any receiver and ANY bytes
    in a `Cursor` (`bytes.len() < 2^63`: a Rust slice / `Vec` never exceeds `isize::MAX` bytes): the header arithmetic,
    `offsets[i]`, `descriptions[i]`, `bm[i / 8]`, `u64::from(len_minus_one) + 1`, the chunk readers, and on the
    sequential path the skip sizes `size_of::<u16>() * 2 * runs as usize`, `size_of::<u16>() * cardinality as usize`,
    `size_of::<u64>() * BITMAP_LENGTH`, their `as i64` casts and the resulting cursor position.  (The in-memory
    `other_container &= container` is outside these predicates, see SafeCodec.lean.) -/
theorem C16_safe_interSer (dbg : Bool) (a : Bitmap) (bytes : List Nat) (hb : ∀ x ∈ bytes, x < 256)
    (hlen : bytes.length < 9223372036854775808) : Safe_interSer dbg a bytes := safe_interSer dbg a bytes hb hlen
/-- sequential path (run cookie, fewer than 4 containers), once reading and once skipping the run chunk -/
example : Safe_interSer true [⟨0, .array [12]⟩] runStream ∧ Safe_interSer true exB.tail runStream :=
  have hb : ∀ x ∈ runStream, x < 256 := by decide +kernel
  ⟨C16_safe_interSer _ _ _ hb (by decide), C16_safe_interSer _ _ _ hb (by decide)⟩
/-- offset path -/
example : Safe_interSer false exB arrStream := C16_safe_interSer _ _ _ (serialize_isBytes _) (by decide +kernel)
example : Safe_interSer true [⟨0, .array [12]⟩] runStream ∧ Safe_interSer false exB arrStream := by decide +kernel
/-- teeth: a skip from a cursor position at the very end of the `u64` range; an offset table shorter than the
    descriptions -/
example : ¬ Safe_seekCur ⟨[], 18446744073709551615⟩ 8192
    ∧ ¬ Safe_interOffsets true ⟨1, true, none, [(0, 0)], []⟩ [⟨0, .array [1]⟩] ⟨[], 0⟩ := by decide +kernel

/-- **`from_lsb0_bytes` (bitmap/inherent.rs:87-171) on the documented domain `offset + 8·len ≤ 2^32`**, with
    `Container::from_lsb0_bytes` → `Store::from_lsb0_bytes` (store/mod.rs:54-81) → `ArrayStore::from_lsb0_bytes`
    (array_store/mod.rs:57-82) / `BitmapStore::from_lsb0_bytes_unchecked` (bitmap_store.rs:44-88): the shifts of
    `shift_bytes` (`byte << amount`, `8 - amount`, `byte >> (8 - amount)` with `amount = offset % 8 ∈ 1..=7`),
    `offset - shift as u32`, `len_bits - 1`, `>> 16`, `end_container_inc + 1 - start_container`,
    `end_byte - start_offset`, the three `split_at`s, the three `as u16` key casts (lossless),
    `start_container += 1`; at store level the `assert!`s, the `u64` bit count, `(byte_offset + index * 8) * 8`,
    `bit_index as u32`, `(trailing_zeros + bit_index as u32) as u16` (lossless), `bytes.len() - remainder.len()`,
    `dst[byte_offset..][..bytes.len()]`. -/
theorem C16_safe_fromLsb0 (dbg : Bool) (off : Nat) (bytes : List Nat) (hb : ∀ b ∈ bytes, b < 256)
    (hfit : off + 8 * bytes.length ≤ 4294967296) : Lsb0.Safe_fromLsb0 dbg off bytes :=
  Lsb0.safe_fromLsb0 dbg off bytes hb hfit
/-- the doc-test of the crate (`offset = 3`, unaligned), and the last byte of the universe -/
example : Lsb0.Safe_fromLsb0 true 3 [5, 2, 0, 128] ∧ Lsb0.Safe_fromLsb0 true 4294967288 [128] :=
  ⟨C16_safe_fromLsb0 _ _ _ (by decide) (by decide), C16_safe_fromLsb0 _ _ _ (by decide) (by decide)⟩
example : Lsb0.Safe_fromLsb0 true 65531 [255, 255, 1] := by decide +kernel
/-- teeth: `shift_bytes` with `amount = 0` would evaluate `byte >> 8` on a `u8`; one byte past the domain the
    predicate holds only vacuously (documented `expect` panic), while a store-level call that does not fit its chunk
    fails the `assert!` -/
example : ¬ Lsb0.Safe_shiftBytes [1] 0 ∧ ¬ Lsb0.Safe_storeFromLsb0 true [1] 8192
    ∧ ¬ Lsb0.Safe_arrWords 8185 0 [9223372036854775808] := by decide +kernel

/-- the store-level constructor alone, for every piece that fits its chunk (`byte_offset + len ≤ 8192`, the
    `assert!` of store/mod.rs:55 — the callers' obligation, discharged in `C16_safe_fromLsb0`). -/
theorem C16_safe_lsb0_store (dbg : Bool) (bytes : List Nat) (bo : Nat) (hb : ∀ b ∈ bytes, b < 256)
    (hfit : bo + bytes.length ≤ 8192) : Lsb0.Safe_storeFromLsb0 dbg bytes bo :=
  Lsb0.safe_storeFromLsb0 dbg bytes bo hb hfit
example : Lsb0.Safe_storeFromLsb0 true [255, 0, 0, 0, 0, 0, 0, 0, 129] 8183 :=
  C16_safe_lsb0_store _ _ _ (by decide) (by decide)

/-- **`RoaringTreemap::serialized_size` / `serialize_into` (treemap/serialization.rs:22-52)** for well-formed partitions
    (at most `2^32` of them — the keys are distinct `u32`s): the `usize` fold `acc + size_of::<u32>() +
    bitmap.serialized_size()` (`≤ 8 + 2^32 · (4 + 8 + 65536 · 8200) < 2^62`), `self.map.len() as u64`, and per
    partition the 32-bit `serialized_size` / `serialize_into` (`C16_safe_serialize`). -/
theorem C16_safe_treemap_serialize (t : Treemap) (h : Treemap.PartsWF t) (hl : t.length ≤ 4294967296) :
    Treemap.Safe_serializedSize t ∧ Treemap.Safe_serialize t :=
  ⟨Treemap.safe_serializedSize t h hl, Treemap.safe_serialize t h hl⟩
example : Treemap.Safe_serializedSize [(0, exB), (4294967295, exB)] ∧ Treemap.Safe_serialize [(0, exB), (4294967295, exB)] :=
  C16_safe_treemap_serialize _ (Treemap.partsWF_pair exB_wf (by decide) (by decide)) (by decide)
/-- teeth: a key that is not a `u32`; a partition with an empty container (`(container.len() - 1) as u16`) -/
example : ¬ Treemap.Safe_serialize [(4294967296, [])] ∧ ¬ Treemap.Safe_serialize [(0, [⟨0, .array []⟩])] := by
  decide +kernel

/-- **`RoaringTreemap::deserialize_from` / `deserialize_unchecked_from` (treemap/serialization.rs:71-119)** on ANY byte
    string: the `u64` count, the loop `for _ in 0..size`, the `u32` keys, and inside every iteration the whole 32-bit
    decoder (`C16_safe_deserialize`) from the reader state the previous iterations left. -/
theorem C16_safe_treemap_deserialize (chk dbg : Bool) (bs : List Nat) (hb : ∀ x ∈ bs, x < 256) :
    Treemap.Safe_deserialize readN chk dbg bs := Treemap.safe_deserialize readerOK_readN chk dbg bs hb
/-- two partitions (keys 0 and 7), the second one a run stream; and a count of `2^64 - 1` over a 12-byte input -/
example : Treemap.Safe_deserialize readN true true
      ([2, 0, 0, 0, 0, 0, 0, 0] ++ [0, 0, 0, 0] ++ arrStream ++ [7, 0, 0, 0] ++ runStream)
    ∧ Treemap.Safe_deserialize readN true true ([255, 255, 255, 255, 255, 255, 255, 255] ++ [1, 0, 0, 0]) :=
  ⟨C16_safe_treemap_deserialize _ _ _ (by decide +kernel), C16_safe_treemap_deserialize _ _ _ (by decide +kernel)⟩
example : Treemap.Safe_deserialize readN true true
    ([2, 0, 0, 0, 0, 0, 0, 0] ++ [0, 0, 0, 0] ++ arrStream ++ [7, 0, 0, 0] ++ runStream) := by decide +kernel

/-- … over every reader that honours `read_exact`, e.g. the scheduled reader. -/
theorem C16_safe_treemap_deserialize_reader {σ : Type} (Good : σ → Prop) (R : Nat → Parser σ (List Nat))
    (hR : ReaderOK Good R) (chk dbg : Bool) (s : σ) (hs : Good s) : Treemap.Safe_deserialize R chk dbg s :=
  Treemap.safe_deserialize hR chk dbg s hs
/-! ## Compositions (SafeCompose.lean)

One predicate and one theorem per PUBLIC method: the method's own arithmetic / indexing together with the side
conditions of every callee on the value it is actually called with (the index a binary search returned, the container
just created, the container vector after the iterations before, the running counter).  Loop predicates recurse over the
list the model's loop recurses over and carry the loop state, so they speak about every iteration. -/

/-- `RoaringBitmap::insert` (inherent.rs:188-198): `util::split`, `self.containers[loc]` on `Ok(loc)`,
    `self.containers.insert(loc, …)` + `self.containers[loc]` on `Err(loc)`, then `Container::insert`
    (container.rs:50-57: the store call and `ensure_correct_store` on the store it produced). -/
theorem C16_safe_bitmap_insert (b : Bitmap) (h : b.WF) (v : Nat) (hv : v < 4294967296) : Bitmap.Safe_insert b v :=
  Bitmap.safe_bitmap_insert b h.storesInv v hv
example : Bitmap.Safe_insert exB 70000 ∧ Bitmap.Safe_insert exB 131072 :=
  ⟨C16_safe_bitmap_insert exB exB_wf _ (by decide), C16_safe_bitmap_insert exB exB_wf _ (by decide)⟩
/-- teeth: a bitset chunk whose cached `len` is `u64::MAX` makes `self.len += 1` overflow inside `insert` -/
example : ¬ Bitmap.Safe_insert [⟨0, .bitmap { len := wMax, bits := BStore.zeros }⟩] 5 :=
  fun h => absurd h.2.2.1.2.2 (by decide)

/-- `RoaringBitmap::remove` (inherent.rs:348-363): `self.containers[loc]` (:352, :353), `Container::remove`
    (container.rs:95-102), `self.containers.remove(loc)` (:354). -/
theorem C16_safe_bitmap_remove (b : Bitmap) (h : b.WF) (v : Nat) (hv : v < 4294967296) : Bitmap.Safe_remove b v :=
  Bitmap.safe_bitmap_remove b h.storesInv v hv
example : Bitmap.Safe_remove exB 2 ∧ Bitmap.Safe_remove exB 196607 :=
  ⟨C16_safe_bitmap_remove exB exB_wf _ (by decide), C16_safe_bitmap_remove exB exB_wf _ (by decide)⟩
/-- teeth: with a cached `len` of 0 over non-empty words `self.len -= 1` underflows inside `remove` -/
example : ¬ Bitmap.Safe_remove [⟨2, .bitmap { len := 0, bits := List.replicate 1024 wMax }⟩] 131072 :=
  fun h => absurd h.2.2.1.1.2.2 (by decide)

/-- `RoaringBitmap::contains` (inherent.rs:423-429). -/
theorem C16_safe_bitmap_contains (b : Bitmap) (h : b.WF) (v : Nat) (hv : v < 4294967296) : Bitmap.Safe_contains b v :=
  Bitmap.safe_bitmap_contains b h.storesInv v hv
example : Bitmap.Safe_contains exB 131073 := C16_safe_bitmap_contains exB exB_wf _ (by decide)
/-- teeth: a bitset chunk with too few words makes `self.bits[key(index)]` go out of range -/
example : ¬ Bitmap.Safe_contains [⟨0, .bitmap { len := 5000, bits := [1, 2, 3] }⟩] 4000 := by decide

/-- `RoaringBitmap::min` / `max` (inherent.rs:648-650, :667-669): the store call and `util::join`. -/
theorem C16_safe_bitmap_min_max (b : Bitmap) (h : b.WF) : Bitmap.Safe_min b ∧ Bitmap.Safe_max b :=
  ⟨Bitmap.safe_bitmap_min b h, Bitmap.safe_bitmap_max b h⟩
example : Bitmap.Safe_min exB ∧ Bitmap.Safe_max exB := C16_safe_bitmap_min_max exB exB_wf

/-- `RoaringBitmap::push` (inherent.rs:295-309): `Container::push` on the last container or on a new one
    (container.rs:74-81; `BitmapStore::push` evaluates `self.max()` and calls `insert`). -/
theorem C16_safe_bitmap_push (b : Bitmap) (h : b.WF) (v : Nat) (hv : v < 4294967296) : Bitmap.Safe_push b v :=
  Bitmap.safe_bitmap_push b h.storesInv v hv
example : Bitmap.Safe_push exB 4294967295 ∧ Bitmap.Safe_push exB 196607 ∧ Bitmap.Safe_push exB 7 :=
  ⟨C16_safe_bitmap_push exB exB_wf _ (by decide), C16_safe_bitmap_push exB exB_wf _ (by decide),
   C16_safe_bitmap_push exB exB_wf _ (by decide)⟩

/-- `RoaringBitmap::push_unchecked` (inherent.rs:318-333, crate-private) under its documented precondition
    (`value` above every element): neither the explicit `panic!("last container key > key of value")` nor the
    store-level `assert!(index > max)` fires (they are conjuncts of the predicate), and the store / container calls
    are safe. -/
theorem C16_safe_bitmap_pushUnchecked (dbg : Bool) (b : Bitmap) (h : b.WF) (v : Nat) (hv : v < 4294967296)
    (hmax : ∀ x ∈ Bitmap.elems b, x < v) : Bitmap.Safe_pushUnchecked dbg b v :=
  Bitmap.safe_bitmap_pushUnchecked dbg b h v hv hmax
example : Bitmap.Safe_pushUnchecked true [⟨0, .array [1, 2, 3]⟩] 9 :=
  C16_safe_bitmap_pushUnchecked true _ (by decide) 9 (by decide) (by decide)
/-- teeth: the precondition is needed — below the maximum the debug assertion fires (and only in a debug build) -/
example : ¬ Bitmap.Safe_pushUnchecked true [⟨0, .array [1, 2, 3]⟩] 2
    ∧ Bitmap.Safe_pushUnchecked false [⟨0, .array [1, 2, 3]⟩] 2 := by decide

/-- `RoaringBitmap::remove_range`, the whole method (inherent.rs:379-407): `util::split`; at EVERY iteration of
    `while index < self.containers.len()` — on the container vector as the iterations before left it — the index is
    below the length (:393, :397, :398, :399 `self.containers.remove(index)`), the container call receives
    `a ≤ b ≤ u16::MAX` and is safe (container.rs:104-108, store/mod.rs:134-143 and the store code below it,
    `ensure_correct_store` on the store it produced), `removed += …` fits `u64`, `index += 1` fits `usize`. -/
theorem C16_safe_bitmap_removeRange (b : Bitmap) (h : b.WF) (lo hi : Bound)
    (hlo : Bound.le u32Max lo) (hhi : Bound.le u32Max hi) : Bitmap.Safe_removeRange b lo hi :=
  Bitmap.safe_bitmap_removeRange b h lo hi hlo hhi
example : Bitmap.Safe_removeRange exB (.incl 2) (.excl 140000) ∧ Bitmap.Safe_removeRange exB .unb .unb :=
  ⟨C16_safe_bitmap_removeRange exB exB_wf _ _ (by decide) (by decide),
   C16_safe_bitmap_removeRange exB exB_wf _ _ (by decide) (by decide)⟩
/-- teeth: on a chunk whose cached `len` is too small, `self.len -= removed` underflows inside the loop -/
example : ¬ Bitmap.Safe_removeRange [⟨2, .bitmap { len := 0, bits := List.replicate 1024 wMax }⟩]
    (.incl 131072) (.incl 131080) :=
  fun h => absurd (h.2.2.2.2.2.2.1.1 (by decide)).2.2.2.2.2.2 (by decide +kernel)

/-- the state-passing form `removeRangeIter` of the `remove_range` loop (`done` = `self.containers[..index]`, counter
    `removed`; the recursion `Bitmap.Safe_removeRangeLoop` is written in) ends in the result of the model's
    `removeRangeLoop`. -/
theorem C16_safe_bitmap_removeRange_follows_model (sk si ek ei : Nat) (b : Bitmap) :
    Bitmap.removeRangeIter sk si ek ei [] b 0 = Bitmap.removeRangeLoop sk si ek ei b := by
  rw [Bitmap.removeRangeIter_eq]; simp

/-- `Extend<u32>::extend` / `FromIterator` (iter.rs:736-760, :702-706): per value the whole of `insert`
    (`util::split`, `find_container_by_key`, `self.containers[index]`, `Container::insert`) on the bitmap as the values
    before it left it. -/
theorem C16_safe_bitmap_extend (b : Bitmap) (h : b.WF) (vs : List Nat) (hvs : ∀ v ∈ vs, v < 4294967296) :
    Bitmap.Safe_extend b vs := Bitmap.safe_bitmap_extend vs b h hvs
example : Bitmap.Safe_extend exB [5, 70000, 1, 4294967295] := C16_safe_bitmap_extend exB exB_wf _ (by decide)

/-- `RoaringBitmap::append` / `from_sorted_iter` (iter.rs:843-876, :817-823), for an iterator of any length:
    `self.max()`, every `push_unchecked` (whose precondition `append` establishes, so no debug assertion fires),
    `count += 1` (`count ≤ prev + 1 ≤ 2^32`). -/
theorem C16_safe_bitmap_append (dbg : Bool) (b : Bitmap) (h : b.WF) (vs : List Nat)
    (hvs : ∀ v ∈ vs, v < 4294967296) : Bitmap.Safe_append dbg b vs := Bitmap.safe_bitmap_append dbg b h vs hvs
example : Bitmap.Safe_append true exB [200000, 200001, 4294967295] ∧ Bitmap.Safe_append true exB [200000, 7] :=
  ⟨C16_safe_bitmap_append true exB exB_wf _ (by decide), C16_safe_bitmap_append true exB exB_wf _ (by decide)⟩

/-! ### `RoaringTreemap` as a whole (treemap/inherent.rs, treemap/iter.rs) -/

/-- `RoaringTreemap::insert` / `remove` / `contains` (treemap/inherent.rs:50-53, :177-192, :253-259): `util::split` and
    the whole 32-bit method on the partition (`entry(hi).or_default()`: the existing partition or `new()`). -/
theorem C16_safe_treemap_insert_remove_contains (t : Treemap) (hw : Treemap.TWF t) (v : Nat) (hv : v < 2^64) :
    Treemap.Safe_insert t v ∧ Treemap.Safe_remove t v ∧ Treemap.Safe_contains t v :=
  ⟨Treemap.safe_tm_insert t hw v hv, Treemap.safe_tm_remove t hw v hv, Treemap.safe_tm_contains t hw v hv⟩
example : Treemap.Safe_insert C12.tEx 8589934595 ∧ Treemap.Safe_remove C12.tEx 8589934595 ∧
    Treemap.Safe_contains C12.tEx 8589934595 :=
  C16_safe_treemap_insert_remove_contains C12.tEx C12.tEx_TWF _ (by decide)

/-- `RoaringTreemap::push` (treemap/inherent.rs:126-139). -/
theorem C16_safe_treemap_push (t : Treemap) (hw : Treemap.TWF t) (v : Nat) (hv : v < 2^64) : Treemap.Safe_push t v :=
  Treemap.safe_tm_push t hw v hv
example : Treemap.Safe_push C12.tEx 18446744073709551615 := C16_safe_treemap_push C12.tEx C12.tEx_TWF _ (by decide)

/-- `RoaringTreemap::push_unchecked` (treemap/inherent.rs:147-162) under its precondition: the explicit
    `panic!("last bitmap key > key of value")` does not fire and the 32-bit `push_unchecked` is safe. -/
theorem C16_safe_treemap_pushUnchecked (dbg : Bool) (t : Treemap) (hw : Treemap.TWF t) (v : Nat) (hv : v < 2^64)
    (hmax : ∀ x ∈ Treemap.elems t, x < v) : Treemap.Safe_pushUnchecked dbg t v :=
  Treemap.safe_tm_pushUnchecked dbg t hw v hv hmax
example : Treemap.Safe_pushUnchecked true C12.tEx 17179869192 :=
  C16_safe_treemap_pushUnchecked true C12.tEx C12.tEx_TWF _ (by decide) (by decide)
/-- teeth: a value in an earlier partition hits the explicit `panic!` in a debug build -/
example : ¬ Treemap.Safe_pushUnchecked true C12.tEx 4294967296 := by decide +kernel

/-- `RoaringTreemap::max` (treemap/inherent.rs:366-372): every `rb.max()` the scan evaluates, `util::join`. -/
theorem C16_safe_treemap_max (t : Treemap) (hw : Treemap.TWF t) : Treemap.Safe_max t := Treemap.safe_tm_max t hw
example : Treemap.Safe_max C12.tEx := C16_safe_treemap_max C12.tEx C12.tEx_TWF

/-- `RoaringTreemap::insert_range`, the whole method (treemap/inherent.rs:70-107; one, two and three or more
    partitions): `util::split`; at EVERY iteration of `for hi in start_hi..=end_hi`, on the map as the iterations before
    left it, the whole 32-bit `insert_range` on the partition (`C16_safe_insertRange`) resp. `full_bitmap.len()`,
    `entry.insert(full_bitmap).len()` and their difference for a whole interior partition (:96-101), and
    `counter += …` in `u64`.  The only excluded input is `insert_range(..)` (all `2^64` values) into the EMPTY treemap,
    where `counter` reaches exactly `2^64` (`C16_treemap_len_2p64_observation`: `2^61` bytes, not reachable). -/
theorem C16_safe_treemap_insertRange (t : Treemap) (hw : Treemap.TWF t) (lo hi : Bound)
    (hlo : Bound.le u64Max lo) (hhi : Bound.le u64Max hi)
    (hnf : t ≠ [] ∨ convertRange64 lo hi ≠ some (0, u64Max)) : Treemap.Safe_insertRange t lo hi :=
  Treemap.safe_tm_insertRange t hw lo hi hlo hhi hnf
/-- one partition, two partitions, five partitions (three whole interior ones, one of them existing), everything -/
example : Treemap.Safe_insertRange C12.tEx (.incl 7) (.incl 4294967295)
    ∧ Treemap.Safe_insertRange C12.tEx (.incl 7) (.excl 4294967300)
    ∧ Treemap.Safe_insertRange C12.tEx (.excl 4294967000) (.incl 21474836480)
    ∧ Treemap.Safe_insertRange C12.tEx .unb .unb :=
  ⟨C16_safe_treemap_insertRange _ C12.tEx_TWF _ _ (by decide) (by decide) (Or.inl (by decide)),
   C16_safe_treemap_insertRange _ C12.tEx_TWF _ _ (by decide) (by decide) (Or.inl (by decide)),
   C16_safe_treemap_insertRange _ C12.tEx_TWF _ _ (by decide) (by decide) (Or.inl (by decide)),
   C16_safe_treemap_insertRange _ C12.tEx_TWF _ _ (by decide) (by decide) (Or.inl (by decide))⟩
/-- into the empty treemap every range but the whole universe -/
example : Treemap.Safe_insertRange [] (.incl 1) .unb :=
  C16_safe_treemap_insertRange [] Treemap.WFd.nil _ _ (by decide) (by decide) (Or.inr (by decide))

/-- the hypothesis of `C16_safe_treemap_insertRange` is exactly what `counter` needs: for every well-formed treemap
    and range the final `counter` is below `2^64` unless the range is everything and the treemap is empty. -/
theorem C16_safe_treemap_insertRange_counter (t : Treemap) (hw : Treemap.TWF t) (lo hi : Bound)
    (hlo : Bound.le u64Max lo) (hhi : Bound.le u64Max hi)
    (hnf : t ≠ [] ∨ convertRange64 lo hi ≠ some (0, u64Max)) : (Treemap.insertRange t lo hi).2 < 2^64 :=
  Treemap.insertRange_count_lt t hw lo hi hlo hhi hnf

/-- `RoaringTreemap::remove_range`, the whole method (treemap/inherent.rs:207-238): `util::split`; for every partition
    in the key range the WHOLE 32-bit `remove_range` (`C16_safe_bitmap_removeRange`) with `a ≤ u32::MAX`, `b ≤ u32::MAX`,
    and `removed += …` in `u64` — for fewer than `2^32` partitions (with all `2^32` partitions full the counter of
    `remove_range(..)` reaches `2^64`, the same unreachable value as in `C16_treemap_len_2p64_observation`). -/
theorem C16_safe_treemap_removeRange (t : Treemap) (hw : Treemap.TWF t) (hl : t.length < 4294967296) (lo hi : Bound)
    (hlo : Bound.le u64Max lo) (hhi : Bound.le u64Max hi) : Treemap.Safe_removeRange t lo hi :=
  Treemap.safe_tm_removeRange t hw hl lo hi hlo hhi
example : Treemap.Safe_removeRange C12.tEx (.incl 5) (.excl 17179869191) ∧ Treemap.Safe_removeRange C12.tEx .unb .unb :=
  ⟨C16_safe_treemap_removeRange _ C12.tEx_TWF (by decide) _ _ (by decide) (by decide),
   C16_safe_treemap_removeRange _ C12.tEx_TWF (by decide) _ _ (by decide) (by decide)⟩

/-- `RoaringTreemap::append` / `from_sorted_iter` (treemap/iter.rs:522-552): `self.max()`, every `push_unchecked` (its
    precondition holds, so no panic in either build), `count += 1` (for an iterator of fewer than `2^64` items). -/
theorem C16_safe_treemap_append (dbg : Bool) (t : Treemap) (hw : Treemap.TWF t) (vs : List Nat)
    (hvs : ∀ v ∈ vs, v < 2^64) (hcnt : vs.length < 2^64) : Treemap.Safe_append dbg t vs :=
  Treemap.safe_tm_append dbg t hw (C10.C10_max t hw) vs hvs hcnt
example : Treemap.Safe_append true C12.tEx [17179869192, 18446744073709551615, 3] :=
  C16_safe_treemap_append true C12.tEx C12.tEx_TWF _ (by decide) (by decide)

/-! ### iterators and MultiOps: the size arithmetic and the indexings (bitmap/iter.rs, treemap/iter.rs, multiops.rs) -/

/-- `bitmap::Iter` / `IntoIter` `size_hint` and `count` (bitmap/iter.rs:250-265, :305-313) at EVERY cursor state
    (`C03.IterWF` is preserved by every iterator call, `C03_step`): `it.len()` of the front / back iterators never trips
    the `ExactSizeIterator` assertion, `first_size + last_size` (a plain `usize` `+`), `container.len() as usize`, the
    `usize` sums of `count`. -/
theorem C16_safe_iter_sizeHint_count (it : Iter) (h : C03.IterWF it) : Iter.Safe_sizeHint it ∧ Iter.Safe_count it :=
  Iter.safe_sizeHint_count it h.1 (C03.C03_len_bound it h)
example : Iter.Safe_sizeHint (Bitmap.iter exB) ∧ Iter.Safe_count (Bitmap.iter exB) :=
  C16_safe_iter_sizeHint_count _ (C03.C03_init_WF exB exB_wf).1
example : Iter.Safe_sizeHint (Bitmap.iter exB).next.1 ∧ Iter.Safe_count (Bitmap.iter exB).next.1 := by decide +kernel

/-- `nth` / `nth_back` (bitmap/iter.rs:315-341, :374-400), every `n : usize`: `n -= len` only when `len ≤ n`,
    `container.len() as usize`, `it.len()`. -/
theorem C16_safe_iter_nth (it : Iter) (h : it.Inv) (n : Nat) : Iter.Safe_nth it n ∧ Iter.Safe_nthBack it n :=
  ⟨Iter.safe_nth it h n, Iter.safe_nthBack it h n⟩
example : Iter.Safe_nth (Bitmap.iter exB) 65000 ∧ Iter.Safe_nthBack (Bitmap.iter exB) 18446744073709551615 :=
  ⟨(C16_safe_iter_nth _ (C03.C03_init_WF exB exB_wf).1.1 _).1, (C16_safe_iter_nth _ (C03.C03_init_WF exB exB_wf).1.1 _).2⟩

/-- `treemap::Iter`: `To64Iter::fold`'s `((self.hi as u64) << 32) + (lo as u64)` (treemap/iter.rs:42, :57, :82, :97) for
    every partition key and yielded `u32`; `BitmapIter::remaining` (:593-596, a plain `u64` sum read by `size_hint`) and
    the sum of `IntoIter::new` (:235) for fewer than `2^32` remaining partitions (with all `2^32` partitions full it is
    the `2^64` of `C16_treemap_len_2p64_observation`).  The other additions of the two `size_hint`s saturate. -/
theorem C16_safe_treemap_iter (hi lo : Nat) (hhi : hi < 4294967296) (hlo : lo < 4294967296)
    (p : TIter.PIter) (h : Treemap.PartsWF p.range) (hl : p.range.length < 4294967296) :
    TIter.Safe_foldJoin hi lo ∧ TIter.PIter.Safe_remaining p ∧ TIter.Safe_intoIterNew p.range :=
  ⟨TIter.safe_foldJoin hi lo hhi hlo, Treemap.safe_len p.range h hl, Treemap.safe_len p.range h hl⟩
example : TIter.Safe_foldJoin 4294967295 4294967295 ∧ TIter.PIter.Safe_remaining (TIter.PIter.new C12.tEx) := by
  decide +kernel

/-- MultiOps (multiops.rs): `lhs.insert(loc, rhs)` / `&mut lhs[loc]` (:280, :281) and `containers.insert(loc, …)` /
    `&mut containers[loc]` (:398, :401) are in range at every iteration of the merge loops — for EVERY accumulator
    (the `binary_search_by_key` contract), so also for the not yet canonical containers in the middle of a multi-op.
    There is no other partial operation in `multiops.rs` (see `SafeCompose.lean`). -/
theorem C16_safe_multiops_merge (op : Store → Store → Store) (lhs rhs : List Container) (cs : List Multi.Cow) :
    Multi.Safe_mergeContainerOwned op lhs rhs ∧ Multi.Safe_mergeContainerRef op cs rhs :=
  ⟨Multi.safe_mergeContainerOwned op rhs lhs, Multi.safe_mergeContainerRef op rhs cs⟩
example : Multi.Safe_mergeContainerOwned Store.orAssignOwned exB [⟨1, .array [7]⟩, ⟨2, .array [9]⟩] :=
  (C16_safe_multiops_merge _ _ _ []).1

end Roaring.C16

/-! ## `treemap::Iter::advance_to` / `advance_back_to` (SafeTreemapIter.lean) -/
namespace Roaring.C16
open Roaring

/-- **`treemap::Iter::advance_to(n)` / `advance_back_to(n)` (treemap/iter.rs:145-230) with
    `BitmapIter::advance_to` / `advance_back_to` (:569-591)**, at EVERY iterator state (any `front` / `back` / untouched
    range — no invariant is needed) and for every `n : u64`, over every inner 32-bit cursor `K`: `util::split(n)` is
    lossless, and the four `BTreeMap::range` calls get well-ordered bounds — `range(last..last)` / `range(first..first)`
    (`Included(x) .. Excluded(x)`: allowed, empty), `range(new_front_idx..=last)` with `new_front_idx ≤ last`,
    `range(first..=new_back_idx)` with `first ≤ new_back_idx` — so std's "range start is greater than range end" /
    "range start and end are equal and excluded" panics are unreachable.  (The 32-bit `advance_to(index)` the method
    forwards to is outside the predicate, see SafeTreemapIter.lean.) -/
theorem C16_safe_treemap_iter_advance {K : TIter.Inner} (it : TIter.Iter K) (n : Nat) (hn : n < 2^64) :
    it.Safe_advanceTo n ∧ it.Safe_advanceBackTo n :=
  ⟨TIter.Iter.safe_advanceTo it n hn, TIter.Iter.safe_advanceBackTo it n hn⟩
/-- the fresh iterator over the three-partition treemap of C12, towards a key between two partitions, past the last
    one, and before the first one -/
example : (TIter.Iter.new (K := TIter.Inner.list) C12.tEx).Safe_advanceTo 12884901888
    ∧ (TIter.Iter.new (K := TIter.Inner.list) C12.tEx).Safe_advanceTo 18446744073709551615
    ∧ (TIter.Iter.new (K := TIter.Inner.list) C12.tEx).Safe_advanceBackTo 0 :=
  ⟨(C16_safe_treemap_iter_advance _ _ (by decide)).1, (C16_safe_treemap_iter_advance _ _ (by decide)).1,
   (C16_safe_treemap_iter_advance _ _ (by decide)).2⟩
example : (TIter.Iter.new (K := TIter.Inner.list) C12.tEx).Safe_advanceTo 12884901888
    ∧ (TIter.PIter.new C12.tEx).Safe_advanceTo 4294967295 ∧ (TIter.PIter.new C12.tEx).Safe_advanceBackTo 0 := by
  decide +kernel
/-- teeth: the conditions std checks — an inverted inclusive pair, equal excluded bounds — and an argument that is not
    a `u64` -/
example : ¬ TIter.Safe_btreeRange (.incl 5) (.incl 4) ∧ ¬ TIter.Safe_btreeRange (.excl 3) (.excl 3)
    ∧ TIter.Safe_btreeRange (.incl 3) (.excl 3)
    ∧ ¬ (TIter.Iter.new (K := TIter.Inner.list) C12.tEx).Safe_advanceTo 18446744073709551616 := by decide

end Roaring.C16

/-! ## Multi-operand merges (SafeMulti.lean) -/
namespace Roaring.C16
open Roaring Roaring.Multi Roaring.Spec

/-! The store-level `|=` / `^=` INSIDE `merge_container_owned` / `merge_container_ref` (bitmap/multiops.rs:272-291,
:388-425) and the loops calling them (`try_multi_or_owned/_ref`, `try_multi_xor_owned/_ref`, :208-270, :294-386), followed
iteration by iteration on the accumulator the iterations before left.  That accumulator is NOT canonical — `array | array`
is computed in a bitset store however small the result, `a ^ a` leaves an EMPTY bitset store — so the hypotheses of the
step theorems are only the invariant the C09 proofs maintain for it: ascending keys below `2^16` and `Store.Inv` of every
store (`Multi.Acc`).  The whole-function theorems start from well-formed operands (`Bitmap.WF`) and carry that invariant
through every call.

Running examples: `accEx` (an accumulator in the middle of a multi-op: key 0 holds the three values of `[1,2,3] | [2,3]`
in a BITSET store, key 1 an EMPTY bitset store as `x ^ x` leaves it, key 4 a borrowed array), `exB` (well-formed, from
above). -/

/-- the local instances of the `Safe_*` section again: they ended with the namespace -/
local instance (l : List Nat) : Decidable (Sorted l) := by unfold Sorted; infer_instance
local instance (v : List Nat) : Decidable (Arr.Inv v) := by unfold Arr.Inv; infer_instance
attribute [local instance] Concrete.decStoreInv Concrete.decBitmapWF

/-- chunk 0: a bitset store with 3 values; chunk 1: a bitset store with no value; chunk 4: an array — valid stores, none
    of the first two canonical -/
def accEx : List Container :=
  [⟨0, .bitmap (Store.arrToBitmap [1, 2, 3])⟩, ⟨1, .bitmap BStore.new⟩, ⟨4, .array [7, 9]⟩]

theorem accEx_keys : (accEx.map (·.key)).Pairwise (· < ·) := by decide

theorem accEx_inv : ∀ c ∈ accEx, c.key < 65536 ∧ c.store.Inv := by
  intro c hc
  simp only [accEx, List.mem_cons, List.not_mem_nil, or_false] at hc
  rcases hc with rfl | rfl | rfl
  · exact ⟨by decide, (BStore.arrToBitmap_spec [1, 2, 3] ⟨by decide, by decide⟩).1⟩
  · exact ⟨by decide, BStore.inv_new⟩
  · exact ⟨by decide, by decide, by decide⟩

/-- the accumulator invariant of the C09 proofs, in the vocabulary of `Inv.lean` -/
theorem acc_of_inv {cs : List Container} (hk : (cs.map (·.key)).Pairwise (· < ·))
    (hi : ∀ c ∈ cs, c.key < 65536 ∧ c.store.Inv) : Multi.Acc cs :=
  ⟨hk, fun c hc => ⟨(hi c hc).1, (storeValid_iff _).2 (hi c hc).2⟩⟩

/-- **store level**: `recv |= arg` / `recv ^= arg` with a `Bitmap` receiver (store/mod.rs:287-327, :456-496 → the
    `(Bitmap, Array)` arms bitmap_store.rs:648-657 / :692-703 and the `(Bitmap, Bitmap)` arms → `op_bitmaps` :634-640) —
    the only form in which multiops.rs calls them — for ANY receiver and argument with the structural invariant, whatever
    their cardinalities: `self.bits[key]`, `1 << bit`, `self.len += (old_w ^ new_w) >> bit`, the `i64` counter of `^=`
    (`self.len as i64`, `len += 1 - 2 * …` never negative, `len as u64`), `bits1.len += count_ones`. -/
theorem C16_safe_multiops_storeOp (k : MergeOp) (recv : BStore) (hr : recv.Inv) (arg : Store) (ha : arg.Inv) :
    Safe_storeOp k recv arg := safe_storeOp k recv hr arg ((storeValid_iff _).2 ha)
/-- an EMPTY bitset receiver (what `x ^ x` leaves) `^=` an array, `|=` a full bitset -/
example : Safe_storeOp .xor BStore.new (.array [5, 65535]) ∧ Safe_storeOp .or BStore.new (.bitmap BStore.full) :=
  ⟨C16_safe_multiops_storeOp _ _ BStore.inv_new _ ⟨by decide, by decide⟩,
   C16_safe_multiops_storeOp _ _ BStore.inv_new _ BStore.inv_full⟩
example : Safe_storeOp .xor BStore.new (.array [5, 65535]) := by decide +kernel
/-- teeth: a receiver whose cached length is wrong — `^=` drives the `i64` counter below zero, `|=` overflows `len +=` -/
example : ¬ Safe_storeOp .xor { len := 0, bits := List.replicate 1024 wMax } (.array [5])
    ∧ ¬ Safe_storeOp .or { len := wMax, bits := BStore.zeros } (.array [5]) :=
  ⟨fun h => absurd h.2.2.2.2.2.1 (by decide), fun h => absurd h.1.2.2 (by decide)⟩

/-- **`merge_container_owned` (multiops.rs:272-291)** on EVERY accumulator with the invariant and every right-hand side
    with valid stores (any order, repeated keys allowed): at every iteration `lhs.insert(loc, rhs)` / `&mut lhs[loc]`,
    and in the `Ok(loc)` arm `lhs.store.to_bitmap()` (`ArrayStore::to_bitmap_store`: `bits[key(index)] |= 1 << bit(index)`
    and the debug `try_from(len, bits).unwrap()`), then the store-level `op` on the promoted / swapped / unchanged bitset
    receiver (`C16_safe_multiops_storeOp`) — each on the `lhs` that the iterations before produced. -/
theorem C16_safe_multiops_mergeOwned (k : MergeOp) (lhs rhs : List Container)
    (hk : (lhs.map (·.key)).Pairwise (· < ·)) (hl : ∀ c ∈ lhs, c.key < 65536 ∧ c.store.Inv)
    (hr : ∀ r ∈ rhs, r.key < 65536 ∧ r.store.Inv) : Safe_mergeOwned k lhs rhs :=
  safe_mergeOwned k rhs lhs (acc_of_inv hk hl) (fun r h => ⟨(hr r h).1, (storeValid_iff _).2 (hr r h).2⟩)
/-- all five arms: bitset–array (key 0), bitset–bitset on the empty bitset (key 1), insert (key 3), array–bitset with
    the swap (key 4), and array–array with the promotion (key 4 of a second right-hand side after an insert at key 5) -/
example : Safe_mergeOwned .xor accEx [⟨0, .array [2, 8]⟩, ⟨1, .bitmap BStore.full⟩, ⟨3, .array [1]⟩, ⟨4, .bitmap BStore.full⟩]
    ∧ Safe_mergeOwned .or accEx [⟨5, .array [1]⟩, ⟨5, .array [1, 2]⟩, ⟨4, .array [8]⟩] := by
  refine ⟨C16_safe_multiops_mergeOwned _ _ _ accEx_keys accEx_inv ?_,
    C16_safe_multiops_mergeOwned _ _ _ accEx_keys accEx_inv (by decide)⟩
  intro r hr
  simp only [List.mem_cons, List.not_mem_nil, or_false] at hr
  rcases hr with rfl | rfl | rfl | rfl
  · exact ⟨by decide, by decide, by decide⟩
  · exact ⟨by decide, BStore.inv_full⟩
  · exact ⟨by decide, by decide, by decide⟩
  · exact ⟨by decide, BStore.inv_full⟩
/-- `[1,2,3] ^ [1,2,3]` (promotion, then an empty bitset store) `^ [5]` (the `i64` counter starts from 0) -/
example : Safe_mergeOwned .xor [⟨0, .array [1, 2, 3]⟩] [⟨0, .array [1, 2, 3]⟩, ⟨0, .array [5]⟩] :=
  C16_safe_multiops_mergeOwned _ _ _ (by decide) (by decide) (by decide)
/-- teeth: an accumulator entry that is not sorted fails the debug `try_from(len, bits).unwrap()` of the promotion
    (`len = 3`, two distinct bits); one with a wrong cached length fails in the store-level `^=` -/
example : ¬ Safe_mergeOwned .or [⟨0, .array [2, 2, 3]⟩] [⟨0, .array [7]⟩]
    ∧ ¬ Safe_mergeOwned .xor [⟨0, .bitmap { len := 0, bits := List.replicate 1024 wMax }⟩] [⟨0, .array [7]⟩] :=
  ⟨fun h => Arr.not_safe_toBitmap_dup h.2.1.1, fun h => absurd h.2.1.2.2.2.2.2.1 (by decide)⟩

/-- it refines the indexing-only predicate of `SafeCompose.lean` (`C16_safe_multiops_merge`): same loop, same states -/
theorem C16_safe_multiops_mergeOwned_refines (k : MergeOp) : ∀ (rhs lhs : List Container),
    Safe_mergeOwned k lhs rhs → Safe_mergeContainerOwned k.owned lhs rhs
  | [], _, _ => trivial
  | r :: rs, lhs, h => by
    unfold Safe_mergeOwned at h
    unfold Safe_mergeContainerOwned
    exact ⟨h.1, C16_safe_multiops_mergeOwned_refines k rs _ h.2.2⟩

/-- **`merge_container_ref` (multiops.rs:388-425)** on every `Vec<Cow<Container>>` whose underlying containers have the
    invariant: `containers.insert(loc, Cow::Borrowed(rhs))` / `&mut containers[loc]`, and in the `Ok(loc)` arm
    `lhs.store.to_bitmap()` + `op(&mut store, &rhs.store)` (:406-407), `rhs.store.clone()` + `op(&mut store, &lhs.store)`
    (:412-413), `op(&mut lhs.to_mut().store, &rhs.store)` (:419). -/
theorem C16_safe_multiops_mergeRef (k : MergeOp) (cs : List Cow) (rhs : List Container)
    (hk : ((cs.map Cow.get).map (·.key)).Pairwise (· < ·)) (hl : ∀ c ∈ cs.map Cow.get, c.key < 65536 ∧ c.store.Inv)
    (hr : ∀ r ∈ rhs, r.key < 65536 ∧ r.store.Inv) : Safe_mergeRef k cs rhs :=
  safe_mergeRef k rhs cs (acc_of_inv hk hl) (fun r h => ⟨(hr r h).1, (storeValid_iff _).2 (hr r h).2⟩)
example : Safe_mergeRef .or (accEx.map Cow.borrowed) [⟨0, .array [2, 8]⟩, ⟨4, .array [8]⟩, ⟨4, .bitmap BStore.full⟩] := by
  refine C16_safe_multiops_mergeRef _ _ _ ?_ ?_ ?_
  · rw [map_get_map_borrowed]; exact accEx_keys
  · rw [map_get_map_borrowed]; exact accEx_inv
  · intro r hr
    simp only [List.mem_cons, List.not_mem_nil, or_false] at hr
    rcases hr with rfl | rfl | rfl
    · exact ⟨by decide, by decide, by decide⟩
    · exact ⟨by decide, by decide, by decide⟩
    · exact ⟨by decide, BStore.inv_full⟩
example : Safe_mergeRef .xor [.borrowed ⟨0, .array [1, 2, 3]⟩] [⟨0, .array [1, 2, 3]⟩, ⟨0, .array [5]⟩] :=
  C16_safe_multiops_mergeRef _ _ _ (by decide) (by decide) (by decide)
example : ¬ Safe_mergeRef .or [.borrowed ⟨0, .array [2, 2, 3]⟩] [⟨0, .array [7]⟩] :=
  fun h => Arr.not_safe_toBitmap_dup h.2.1.1

/-- **`MultiOps::union`** — `try_multi_or_owned` (multiops.rs:208-244) and `try_multi_or_ref` (:294-345) as a whole, for
    `Result` items, every `size_hint`, every permutation the unstable sort may produce, all `Ok` operands well-formed:
    every `merge_container_*` call of the loop over the operands on the accumulator the calls before left (which is no
    longer a well-formed bitmap after the first one), and `ensure_correct_store` (container.rs:177-190) on every
    non-empty container of the final accumulator.  An `Err` item ends the function (`?`); nothing is evaluated after. -/
theorem C16_safe_multiops_union (sort : List Bitmap → List Bitmap) (hs : ∀ l, (sort l).Perm l) (h : Hint) {ε : Type}
    (xs : List (Except ε Bitmap)) (hwf : ∀ b ∈ okValues xs, Bitmap.WF b) :
    Safe_tryMultiOrOwnedWith sort h xs ∧ Safe_tryMultiOrRefWith sort h xs :=
  ⟨safe_tryMultiOrOwnedWith hs h xs hwf, safe_tryMultiOrRefWith hs h xs hwf⟩

/-- three well-formed operands: `exB`, a bitmap sharing key 0 (array–array promotion, then bitset–array) and key 2
    (bitset–array on the full bitset), and `exB` again (bitset–array on the promoted store, bitset–bitset) -/
def exOps : List (Except Nat Bitmap) :=
  [.ok exB, .ok [⟨0, .array [2, 70]⟩, ⟨2, .array [9]⟩, ⟨3, .array [1]⟩], .ok exB]

theorem exOps_wf : ∀ b ∈ okValues exOps, Bitmap.WF b := by
  intro b hb
  simp only [exOps, okValues, List.mem_cons, List.not_mem_nil, or_false] at hb
  rcases hb with rfl | rfl | rfl
  · exact exB_wf
  · decide
  · exact exB_wf

example : Safe_tryMultiOrOwnedWith sortDesc .exact exOps ∧ Safe_tryMultiOrRefWith sortDesc (.upper 51) exOps :=
  ⟨(C16_safe_multiops_union sortDesc sortDesc_isSortDesc.perm .exact exOps exOps_wf).1,
   (C16_safe_multiops_union sortDesc sortDesc_isSortDesc.perm (.upper 51) exOps exOps_wf).2⟩
/-- … evaluable, also with an `Err` item in the middle -/
example : Safe_tryMultiOrRefWith sortDesc .exact
    ([.ok [⟨0, .array [1, 2, 3]⟩], .ok [⟨0, .array [3, 4]⟩], .error 7, .ok [⟨0, .array [2, 2]⟩]] : List (Except Nat Bitmap)) := by
  decide +kernel
/-- teeth: an ill-formed operand (an unsorted array that gets promoted) -/
example : ¬ Safe_tryMultiOrOwnedWith sortDesc .exact
    ([.ok [⟨0, .array [2, 2, 3]⟩], .ok [⟨0, .array [7]⟩]] : List (Except Nat Bitmap)) :=
  fun h => Arr.not_safe_toBitmap_dup h.1.1.2.1.1

/-- **`MultiOps::symmetric_difference`** — `try_multi_xor_owned` (multiops.rs:247-270) and `try_multi_xor_ref`
    (:348-386) as a whole: as for the union; here the intermediate stores may also be EMPTY (`a ^ a`), which is where
    the `i64` counter of `BitmapStore ^= &ArrayStore` starts from `0`. -/
theorem C16_safe_multiops_symmetric_difference {ε : Type} (xs : List (Except ε Bitmap))
    (hwf : ∀ b ∈ okValues xs, Bitmap.WF b) : Safe_tryMultiXorOwned xs ∧ Safe_tryMultiXorRef xs :=
  ⟨safe_tryMultiXorOwned xs hwf, safe_tryMultiXorRef xs hwf⟩
example : Safe_tryMultiXorOwned exOps ∧ Safe_tryMultiXorRef exOps := C16_safe_multiops_symmetric_difference exOps exOps_wf
/-- `a ^ a ^ b`: the store of key 0 is an empty bitset store when `b` arrives -/
example : Safe_tryMultiXorOwned
    ([.ok [⟨0, .array [1, 2, 3]⟩], .ok [⟨0, .array [1, 2, 3]⟩], .ok [⟨0, .array [5]⟩]] : List (Except Nat Bitmap)) :=
  (C16_safe_multiops_symmetric_difference _ fun b hb => by
    simp only [okValues, List.mem_cons, List.not_mem_nil, or_false] at hb
    rcases hb with rfl | rfl | rfl
    · decide
    · decide
    · decide).1
example : ¬ Safe_tryMultiXorRef
    ([.ok [⟨0, .bitmap { len := 0, bits := List.replicate 1024 wMax }⟩], .ok [⟨0, .array [7]⟩]] : List (Except Nat Bitmap)) :=
  fun h => absurd h.1.1.2.1.2.2.2.2.2.1 (by decide)

/-! ## By-reference `&=` / `-=` and the multi-operand folds over them (`SafeBinOps.lean`) -/

/-- **`a &= &b`, `a -= &b` at store level** (store/mod.rs:373-401, :417-434) for ANY two structurally valid stores (no
    kind / cardinality assumption): `op_bitmaps`' `len +=`, the `bits[key]` / `1 << bit` of every `contains` inside the two
    `retain` closures, and the `SubAssign<&ArrayStore>` loop. -/
theorem C16_safe_store_and_sub (s t : Store) (hs : s.Inv) (ht : t.Inv) :
    s.Safe_andAssignRef t ∧ s.Safe_subAssignRef t :=
  ⟨Store.safe_andAssignRef s t hs ht, Store.safe_subAssignRef s t hs ht⟩
example : (Store.bitmap BStore.full).Safe_andAssignRef (.array [1, 2, 65535]) ∧
    (Store.bitmap BStore.full).Safe_subAssignRef (.array [1, 2, 65535]) :=
  C16_safe_store_and_sub _ _ BStore.inv_full ⟨by decide, by decide⟩
/-- teeth: a value that does not fit `u16` indexes past the 1024 words -/
example : ¬ (Store.array [70000]).Safe_andAssignRef (.bitmap BStore.full) :=
  fun h => absurd (Nat.lt_of_lt_of_eq (h _ List.mem_cons_self).1 BStore.inv_full.length) (by decide)
/-- teeth: a bitset store whose cached length is too small underflows in `len -=` -/
example : ¬ (Store.bitmap { len := 0, bits := List.replicate 1024 wMax }).Safe_subAssignRef (.array [7]) :=
  fun h => absurd h.1.2.2 (by decide)

/-- **`RoaringBitmap &= &RoaringBitmap`** (ops.rs:259-273) **and `RoaringBitmap -= &RoaringBitmap`** (ops.rs:336-349; `a -= b`,
    `a - b`, `a - &b` forward to it) as a whole: at every call of the `retain_mut` closure the `binary_search_by_key` result
    indexes `rhs.containers`, the container-level operation (container.rs:236-241 / :254-259) runs its store-level op and
    `ensure_correct_store` on what that op left. -/
theorem C16_safe_bitmap_and_sub_assign (a b : Bitmap) (ha : a.WF) (hb : b.WF) :
    Bitmap.Safe_andAR a b ∧ Bitmap.Safe_subAR a b :=
  ⟨Bitmap.safe_andAR a b ha.storesInv hb.storesInv, Bitmap.safe_subAR a b ha.storesInv hb.storesInv⟩
example : Bitmap.Safe_andAR exB exB ∧ Bitmap.Safe_subAR exB exB := C16_safe_bitmap_and_sub_assign exB exB exB_wf exB_wf
example : Bitmap.Safe_subAR exB [⟨0, .array [2]⟩, ⟨2, .array [9]⟩] :=
  (C16_safe_bitmap_and_sub_assign _ _ exB_wf (by decide)).2
example : ¬ Bitmap.Safe_subAR [⟨0, .bitmap { len := 0, bits := List.replicate 1024 wMax }⟩] [⟨0, .array [7]⟩] :=
  fun h => absurd (h _ List.mem_cons_self).2.1.1.2.2 (by decide)

/-- **`MultiOps::difference`** — `try_multi_sub_owned` / `try_multi_sub_ref` (multiops.rs:169-205) **and
    `MultiOps::intersection` by reference** — `try_multi_and_ref` (multiops.rs:144-166) as a whole: the predicate of the `-=` /
    `&=` at EVERY iteration, on the accumulator the iterations before left, for `Result` items (an `Err` ends the function),
    every size hint and every permutation the unstable sort may produce.  The loop invariant is only `Store.Inv` of every
    store, so the statement does not depend on the accumulator staying canonical. -/
theorem C16_safe_multiops_difference_intersection {ε : Type} (sort : List Bitmap → List Bitmap) (hs : ∀ l, (sort l).Perm l)
    (h : Hint) (xs : List (Except ε Bitmap)) (hwf : ∀ b ∈ okValues xs, Bitmap.WF b) :
    Safe_tryMultiSub xs ∧ Safe_tryMultiAndRefWith sort h xs :=
  ⟨safe_tryMultiSub xs (fun r hr => (hwf r (mem_okValues hr)).storesInv),
   safe_tryMultiAndRefWith hs h xs (fun b hb => (hwf b hb).storesInv)⟩
example : Safe_tryMultiSub exOps ∧ Safe_tryMultiAndRefWith sortDesc .exact exOps :=
  C16_safe_multiops_difference_intersection sortDesc sortDesc_isSortDesc.perm .exact exOps exOps_wf
/-- teeth: an ill-formed second operand met by the fold -/
example : ¬ Safe_tryMultiSub
    ([.ok [⟨0, .bitmap BStore.full⟩], .ok [⟨0, .array [70000]⟩]] : List (Except Nat Bitmap)) :=
  fun h => absurd (Nat.lt_of_lt_of_eq (h.1 _ List.mem_cons_self).2.1.1.1 BStore.inv_full.length) (by decide)

/-- **`RoaringBitmap &= RoaringBitmap`** (owned, ops.rs:236-257: swap to the operand with fewer containers, then `retain_mut`
    with the matched `rhs` container moved out by `mem::replace`): every call of the closure on the `rhs` the calls
    before left, the container-level `&=` incl. `ensure_correct_store`. -/
theorem C16_safe_bitmap_and_owned (a b : Bitmap) (ha : a.WF) (hb : b.WF) : Safe_andAO a b :=
  safe_andAO a b ha.storesInv hb.storesInv
/-- **`MultiOps::intersection` by value** — `try_multi_and_owned` (multiops.rs:118-141) as a whole: every iteration of
    the fold of the owned `&=` on the accumulator left so far. -/
theorem C16_safe_multiops_intersection_owned {ε : Type} (sort : List Bitmap → List Bitmap) (hs : ∀ l, (sort l).Perm l)
    (h : Hint) (xs : List (Except ε Bitmap)) (hwf : ∀ b ∈ okValues xs, Bitmap.WF b) :
    Safe_tryMultiAndOwnedWith sort h xs :=
  safe_tryMultiAndOwnedWith hs h xs (fun b hb => (hwf b hb).storesInv)
example : Safe_andAO exB exB := C16_safe_bitmap_and_owned exB exB exB_wf exB_wf
example : Safe_tryMultiAndOwnedWith sortDesc (.upper 51) exOps :=
  C16_safe_multiops_intersection_owned sortDesc sortDesc_isSortDesc.perm (.upper 51) exOps exOps_wf
/-- teeth: the ill-formed operand is the one searched IN (more containers), met through `rhs.containers[loc]` -/
example : ¬ Safe_andAO [⟨0, .bitmap BStore.full⟩] [⟨0, .array [70000]⟩, ⟨1, .array [1]⟩] :=
  fun h => absurd (Nat.lt_of_lt_of_eq (h.1.2.1 _ List.mem_cons_self).1 BStore.inv_full.length) (by decide)

/-- **`RoaringBitmap |= &RoaringBitmap`** (ops.rs:174-185; `a | &b` and `&a | b` forward to it) as a whole: every iteration of
    `for container in &rhs.containers` on the `self` the iterations before left — `Vec::insert(loc, …)` with `loc ≤ len`,
    `&mut self.containers[loc]` with `loc < len`, the container-level `|=` (container.rs:211-216) with its store-level cell
    (store/mod.rs:307-327: `BitmapStore |= &ArrayStore`'s `bits[key]`, `1 << bit`, `len +=`; `op_bitmaps`) and
    `ensure_correct_store` on what that left. -/
theorem C16_safe_bitmap_or_assign_ref (a b : Bitmap) (ha : a.WF) (hb : b.WF) : Bitmap.Safe_orAR a b :=
  Bitmap.safe_orAR b a ha.storesInv hb.storesInv
example : Bitmap.Safe_orAR exB exB := C16_safe_bitmap_or_assign_ref exB exB exB_wf exB_wf
example : Bitmap.Safe_orAR exB [⟨0, .array [2, 70]⟩, ⟨1, .array [9]⟩, ⟨2, .array [1]⟩] :=
  C16_safe_bitmap_or_assign_ref _ _ exB_wf (by decide)
/-- teeth: a bitset store whose cached length is 2^64 - 1 overflows in `len +=` -/
example : ¬ Bitmap.Safe_orAR [⟨0, .bitmap { len := 2^64 - 1, bits := List.replicate 1024 0 }⟩] [⟨0, .array [7]⟩] :=
  fun h => absurd h.2.1.1.1.2.2 (by decide)

end Roaring.C16
