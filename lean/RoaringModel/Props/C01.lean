import RoaringModel.Lemmas.BitmapMut2
import RoaringModel.Step32
import RoaringModel.Lemmas.Canonical
import RoaringModel.Lemmas.Mirror32
import RoaringModel.Lemmas.MirrorLemmas
/-!
# C01 — 32-bit mutation histories have exact set semantics (property theorems)

Each theorem: for every well-formed bitmap `b` (`Bitmap.WF`: keys strictly ascending, every chunk non-empty and
in the store kind its cardinality demands) and every argument, the model of the mutator returns a well-formed
bitmap whose abstraction `Bitmap.elems` is *equal* to the result of the one-line set operation of `Spec.lean`
on `Bitmap.elems b`, and the returned value is the one the set operation reports.  `C01_history` lifts this to
every finite call sequence from `new()`, for builds with and without debug assertions.
-/
namespace Roaring.C01
open Roaring

/-- `convert_range_to_inclusive` computes exactly the interval of values selected by the two bounds
    (and fails exactly when that interval is empty), for every `RangeBounds` shape. -/
theorem C01_convertRange (maxV : Nat) (lo hi : Bound) (hlo : Bound.le maxV lo) (hhi : Bound.le maxV hi) :
    (match convertRange maxV lo hi with
     | .ok r => some r
     | .error _ => none) = Spec.interval maxV lo hi :=
  convertRange_interval maxV lo hi hlo hhi

/-- the interval of `Spec.interval` is the set of values admitted by both bounds -/
theorem C01_interval_mem (maxV : Nat) (lo hi : Bound) :
    (∀ a b, Spec.interval maxV lo hi = some (a, b) →
      a ≤ b ∧ b ≤ maxV ∧ ∀ x, (a ≤ x ∧ x ≤ b) ↔ (Spec.Bound.mem lo hi x ∧ x ≤ maxV)) ∧
    (Spec.interval maxV lo hi = none → ∀ x, ¬ (Spec.Bound.mem lo hi x ∧ x ≤ maxV)) :=
  ⟨fun a b h => Spec.interval_some maxV lo hi a b h, fun h => Spec.interval_none maxV lo hi h⟩

theorem C01_new : Bitmap.WF Bitmap.new ∧ Bitmap.elems Bitmap.new = [] := by
  refine ⟨⟨List.Pairwise.nil, by simp [Bitmap.new]⟩, rfl⟩

theorem C01_clear (b : Bitmap) : Bitmap.WF (Bitmap.clear b) ∧ Bitmap.elems (Bitmap.clear b) = [] := C01_new

theorem C01_insert (b : Bitmap) (h : b.WF) (v : Nat) (hv : v < 4294967296) :
    (Bitmap.insert b v).1.WF ∧
    Bitmap.elems (Bitmap.insert b v).1 = (Spec.insert (Bitmap.elems b) v).1 ∧
    (Bitmap.insert b v).2 = (Spec.insert (Bitmap.elems b) v).2 :=
  Bitmap.insert_spec b h v hv

theorem C01_remove (b : Bitmap) (h : b.WF) (v : Nat) :
    (Bitmap.remove b v).1.WF ∧
    Bitmap.elems (Bitmap.remove b v).1 = (Spec.remove (Bitmap.elems b) v).1 ∧
    (Bitmap.remove b v).2 = (Spec.remove (Bitmap.elems b) v).2 :=
  Bitmap.remove_spec b h v

theorem C01_insertRange (b : Bitmap) (h : b.WF) (lo hi : Bound)
    (hlo : Bound.le u32Max lo) (hhi : Bound.le u32Max hi) :
    (Bitmap.insertRange b lo hi).1.WF ∧
    Bitmap.elems (Bitmap.insertRange b lo hi).1 = (Spec.insertRange u32Max (Bitmap.elems b) lo hi).1 ∧
    (Bitmap.insertRange b lo hi).2 = (Spec.insertRange u32Max (Bitmap.elems b) lo hi).2 :=
  Bitmap.insertRange_spec b h lo hi hlo hhi

theorem C01_removeRange (b : Bitmap) (h : b.WF) (lo hi : Bound)
    (hlo : Bound.le u32Max lo) (hhi : Bound.le u32Max hi) :
    (Bitmap.removeRange b lo hi).1.WF ∧
    Bitmap.elems (Bitmap.removeRange b lo hi).1 = (Spec.removeRange u32Max (Bitmap.elems b) lo hi).1 ∧
    (Bitmap.removeRange b lo hi).2 = (Spec.removeRange u32Max (Bitmap.elems b) lo hi).2 :=
  Bitmap.removeRange_spec b h lo hi hlo hhi

theorem C01_push (b : Bitmap) (h : b.WF) (v : Nat) (hv : v < 4294967296) :
    (Bitmap.push b v).1.WF ∧ Bitmap.elems (Bitmap.push b v).1 = (Spec.push (Bitmap.elems b) v).1 ∧
    (Bitmap.push b v).2 = (Spec.push (Bitmap.elems b) v).2 :=
  Bitmap.push_spec b h v hv

/-- `append` never panics (with or without debug assertions), reports `Ok(n)` or the index of the first
    out-of-order value, and adds exactly the values before it -/
theorem C01_append (dbg : Bool) (b : Bitmap) (h : b.WF) (vs : List Nat) (hvs : ∀ v ∈ vs, v < 4294967296) :
    ∃ b', Bitmap.append dbg b vs = some (b', (Spec.append (Bitmap.elems b) vs).2) ∧ b'.WF ∧
      Bitmap.elems b' = (Spec.append (Bitmap.elems b) vs).1 :=
  Bitmap.append_spec dbg b h vs hvs

theorem C01_extend (b : Bitmap) (h : b.WF) (vs : List Nat) (hvs : ∀ v ∈ vs, v < 4294967296) :
    (Bitmap.extend b vs).WF ∧ Bitmap.elems (Bitmap.extend b vs) = Spec.extend (Bitmap.elems b) vs :=
  Bitmap.extend_spec b h vs hvs

theorem C01_removeSmallest (b : Bitmap) (h : b.WF) (n : Nat) :
    (Bitmap.removeSmallest b n).WF ∧
    Bitmap.elems (Bitmap.removeSmallest b n) = Spec.removeSmallest (Bitmap.elems b) n :=
  Bitmap.removeSmallest_spec b h n

theorem C01_removeBiggest (b : Bitmap) (h : b.WF) (n : Nat) :
    (Bitmap.removeBiggest b n).WF ∧
    Bitmap.elems (Bitmap.removeBiggest b n) = Spec.removeBiggest (Bitmap.elems b) n :=
  Bitmap.removeBiggest_spec b h n

theorem valid_le (lo hi : Bound)
    (h : (match lo with | .incl n => n ≤ u32Max | .excl n => n ≤ u32Max | .unb => True) ∧
         (match hi with | .incl n => n ≤ u32Max | .excl n => n ≤ u32Max | .unb => True)) :
    Bound.le u32Max lo ∧ Bound.le u32Max hi := by
  cases lo <;> cases hi <;> exact h

/-- **One step.** Every mutating call on a well-formed value, in either build configuration, succeeds
    (no panic), returns exactly what the set operation reports, and yields a well-formed value whose element
    list is the set operation's result. -/
theorem C01_step (dbg : Bool) (b : Bitmap) (h : b.WF) (op : Op32) (hv : op.Valid) :
    ∃ b', Bitmap.step dbg b op = some (b', (Spec.step (Bitmap.elems b) op).2) ∧ b'.WF ∧
      Bitmap.elems b' = (Spec.step (Bitmap.elems b) op).1 := by
  cases op with
  | insert v =>
    obtain ⟨h1, h2, h3⟩ := C01_insert b h v hv
    exact ⟨_, by simp only [Bitmap.step, Spec.step, h3], h1, h2⟩
  | remove v =>
    obtain ⟨h1, h2, h3⟩ := C01_remove b h v
    exact ⟨_, by simp only [Bitmap.step, Spec.step, h3], h1, h2⟩
  | insertRange lo hi =>
    obtain ⟨l1, l2⟩ := valid_le lo hi hv
    obtain ⟨h1, h2, h3⟩ := C01_insertRange b h lo hi l1 l2
    exact ⟨_, by simp only [Bitmap.step, Spec.step, h3], h1, h2⟩
  | removeRange lo hi =>
    obtain ⟨l1, l2⟩ := valid_le lo hi hv
    obtain ⟨h1, h2, h3⟩ := C01_removeRange b h lo hi l1 l2
    exact ⟨_, by simp only [Bitmap.step, Spec.step, h3], h1, h2⟩
  | push v =>
    obtain ⟨h1, h2, h3⟩ := C01_push b h v hv
    exact ⟨_, by simp only [Bitmap.step, Spec.step, h3], h1, h2⟩
  | append vs =>
    obtain ⟨b', h1, h2, h3⟩ := C01_append dbg b h vs hv
    exact ⟨b', by simp only [Bitmap.step, Spec.step, h1, Option.map_some], h2, h3⟩
  | extend vs =>
    obtain ⟨h1, h2⟩ := C01_extend b h vs hv
    exact ⟨_, rfl, h1, h2⟩
  | clear => exact ⟨_, rfl, (C01_clear b).1, (C01_clear b).2⟩
  | removeSmallest n =>
    obtain ⟨h1, h2⟩ := C01_removeSmallest b h n
    exact ⟨_, rfl, h1, h2⟩
  | removeBiggest n =>
    obtain ⟨h1, h2⟩ := C01_removeBiggest b h n
    exact ⟨_, rfl, h1, h2⟩

/-- every history from a well-formed value -/
theorem C01_run (dbg : Bool) (ops : List Op32) : ∀ (b : Bitmap), b.WF → (∀ op ∈ ops, op.Valid) →
    ∃ b', Bitmap.run dbg b ops = some (b', (Spec.run (Bitmap.elems b) ops).2) ∧ b'.WF ∧
      Bitmap.elems b' = (Spec.run (Bitmap.elems b) ops).1 := by
  induction ops with
  | nil => intro b h _; exact ⟨b, rfl, h, rfl⟩
  | cons op ops ih =>
    intro b h hv
    obtain ⟨b1, s1, w1, e1⟩ := C01_step dbg b h op (hv op (List.mem_cons_self ..))
    obtain ⟨b2, s2, w2, e2⟩ := ih b1 w1 (fun o ho => hv o (List.mem_cons_of_mem _ ho))
    refine ⟨b2, ?_, w2, ?_⟩
    · simp only [Bitmap.run, s1, s2, Spec.run, Option.map_some, e1]
    · simp only [Spec.run]; rw [← e1]; exact e2

/-- **Every history.** After any finite sequence of mutating calls from `RoaringBitmap::new()`, with all
    arguments, in builds with and without debug assertions: no panic, every returned value is the abstract
    effect, and the bitmap contains exactly the integers the same sequence produces on a mathematical set. -/
theorem C01_history (dbg : Bool) (ops : List Op32) (hv : ∀ op ∈ ops, op.Valid) :
    ∃ b, Bitmap.run dbg Bitmap.new ops = some (b, (Spec.run [] ops).2) ∧ b.WF ∧
      Bitmap.elems b = (Spec.run [] ops).1 :=
  C01_run dbg ops Bitmap.new C01_new.1 hv

/-- debug and release builds compute the same thing on every history -/
theorem C01_cfg_irrelevant (ops : List Op32) (hv : ∀ op ∈ ops, op.Valid) :
    Bitmap.run true Bitmap.new ops = Bitmap.run false Bitmap.new ops := by
  obtain ⟨b1, h1, _, _⟩ := C01_history true ops hv
  obtain ⟨b2, h2, w2, e2⟩ := C01_history false ops hv
  rw [h1, h2]
  rename_i w1 e1
  have : b1 = b2 := Bitmap.canonical b1 b2 w1 w2 (by rw [e1, e2])
  rw [this]

/-- non-vacuity: a concrete history crossing the array→bitset threshold satisfies the hypothesis -/
example : (∀ op ∈ [Op32.insert 7, .insertRange (.incl 65536) (.excl 70000), .removeSmallest 1], op.Valid) := by
  intro op hop
  simp only [List.mem_cons, List.mem_nil_iff, or_false] at hop
  rcases hop with rfl | rfl | rfl <;> simp [Op32.Valid, u32Max]

/-! ## Fidelity audit (stores): `BitmapStore::insert_range` with the fused middle loop of the Rust

`notes/fidelity-stores-iter32.md`.  `C01_insertRange` rests on the store kernel `BStore.insertRange`, whose multi-word
arm sums the middle words and then overwrites them (two passes).  The Rust (bitmap_store.rs:148-151) is ONE loop that
counts a word and overwrites it; `BStore.insertRangeMirror` (`midLoop`) is that loop.  The compiled driver executes
`BStore.insertRangeExec` wherever the model calls `BStore.insertRange` (`@[csimp]`, an unconditional equality of
functions, so every theorem of this file is also a theorem about what the driver executes); on every store satisfying
`BStore.Inv` — all bitset chunks of a `Bitmap.WF` value: `Store.Inv` — and every `u16` range that is the mirrored
loop. -/

/-- what the compiled driver runs in place of `BStore.insertRange` -/
theorem C01_driver_runs_insertRange_mirror : @BStore.insertRange = @BStore.insertRangeExec :=
  BStore.insertRange_eq_exec

/-- the mirrored `insert_range` is the model definition, is what the driver runs, and refines set insertion of the
    range: invariant kept, bit `x` set iff `x` in `s..=e` or set before, returns the number of *new* values -/
theorem C01_bstore_insertRange_mirror (b : BStore) (hb : b.Inv) (s e : Nat) (hse : s ≤ e) (he : e < 65536) :
    b.insertRangeMirror s e = b.insertRange s e
    ∧ BStore.insertRangeExec b s e = b.insertRangeMirror s e
    ∧ (b.insertRangeMirror s e).1.Inv
    ∧ (∀ x, x < 65536 → (b.insertRangeMirror s e).1.test x = ((decide (s ≤ x) && decide (x ≤ e)) || b.test x))
    ∧ (b.insertRangeMirror s e).2 = (e - s + 1) - b.countIn s e := by
  have h := BStore.insertRange_mirror_eq_of_inv b hb s e hse he
  refine ⟨h, BStore.insertRangeExec_eq_mirror b hb s e hse he, ?_⟩
  rw [h]
  obtain ⟨h1, h2, h3⟩ := BStore.insertRange_spec b hb s e hse he
  exact ⟨h1, fun x _ => h2 x, h3⟩

/-- non-vacuity: the empty bitset satisfies the invariant; a range over four words runs the middle loop twice -/
example : BStore.new.Inv := BStore.inv_new
example : ((BStore.insertRangeMirror ⟨3, [1, 5, 0, 0, 0]⟩ 2 200).1 = ⟨200, [wMax - 2, wMax, wMax, 511, 0]⟩)
    ∧ (BStore.insertRangeMirror ⟨3, [1, 5, 0, 0, 0]⟩ 2 200).2 = 197 := by decide +kernel
/-! ### The same theorems for the statement-by-statement mirrors that the driver executes (`Mirror32.lean`)
`Extend<u32>::extend` keeps `current_container_index` between values of equal key (iter.rs:748-759);
`remove_smallest` / `remove_biggest` are `position` / `rposition` + `drain` + an indexed call (inherent.rs:755-811),
and the bitset → array rebuild inside them reads the chunk through `BitmapIter` (container.rs:110-138).  The mirrored
definitions are proved equal to the ones above in `Lemmas/Mirror32.lean` (`extend_mirror_eq` is unconditional, the
other two need only the store invariants that `Bitmap.WF` contains). -/
theorem C01_extend_mirror (b : Bitmap) (h : b.WF) (vs : List Nat) (hvs : ∀ v ∈ vs, v < 4294967296) :
    (Bitmap.extendMirror b vs).WF ∧ Bitmap.elems (Bitmap.extendMirror b vs) = Spec.extend (Bitmap.elems b) vs := by
  rw [Bitmap.extend_mirror_eq]; exact C01_extend b h vs hvs
theorem C01_removeSmallest_mirror (b : Bitmap) (h : b.WF) (n : Nat) :
    (Bitmap.removeSmallestMirror b n).WF ∧
    Bitmap.elems (Bitmap.removeSmallestMirror b n) = Spec.removeSmallest (Bitmap.elems b) n := by
  rw [Bitmap.removeSmallest_mirror_eq b h.storesInv]; exact C01_removeSmallest b h n
theorem C01_removeBiggest_mirror (b : Bitmap) (h : b.WF) (n : Nat) :
    (Bitmap.removeBiggestMirror b n).WF ∧
    Bitmap.elems (Bitmap.removeBiggestMirror b n) = Spec.removeBiggest (Bitmap.elems b) n := by
  rw [Bitmap.removeBiggest_mirror_eq b h.storesInv]; exact C01_removeBiggest b h n
theorem C01_step_mirror (dbg : Bool) (b : Bitmap) (h : b.WF) (op : Op32) (hv : op.Valid) :
    ∃ b', Bitmap.stepMirror dbg b op = some (b', (Spec.step (Bitmap.elems b) op).2) ∧ b'.WF ∧
      Bitmap.elems b' = (Spec.step (Bitmap.elems b) op).1 := by
  rw [Bitmap.step_mirror_eq dbg b h op]; exact C01_step dbg b h op hv
/-- on every history from a well-formed value `runMirror` is `run` (each step by `Bitmap.step_mirror_eq`, which needs `WF`) -/
theorem C01_run_mirror_eq (dbg : Bool) (ops : List Op32) : ∀ (b : Bitmap), b.WF → (∀ op ∈ ops, op.Valid) →
    Bitmap.runMirror dbg b ops = Bitmap.run dbg b ops := by
  induction ops with
  | nil => intro b _ _; rfl
  | cons op ops ih =>
    intro b h hv
    obtain ⟨b1, s1, w1, _⟩ := C01_step dbg b h op (hv op (List.mem_cons_self ..))
    simp only [Bitmap.runMirror, Bitmap.run, Bitmap.step_mirror_eq dbg b h op, s1]
    rw [ih b1 w1 (fun o ho => hv o (List.mem_cons_of_mem _ ho))]
/-- **Every history, through the mirrored definitions.** -/
theorem C01_history_mirror (dbg : Bool) (ops : List Op32) (hv : ∀ op ∈ ops, op.Valid) :
    ∃ b, Bitmap.runMirror dbg Bitmap.new ops = some (b, (Spec.run [] ops).2) ∧ b.WF ∧
      Bitmap.elems b = (Spec.run [] ops).1 := by
  rw [C01_run_mirror_eq dbg ops Bitmap.new C01_new.1 hv]; exact C01_history dbg ops hv
/-- non-vacuity of the mirrors: the cached index is used (two values of key 0, a key change, key 0 again);
    `position` / `rposition` drop a whole chunk and cut into the next one -/
example : Bitmap.elems (Bitmap.extendMirror [] [5, 3, 70000, 4]) = [3, 4, 5, 70000] ∧
    Bitmap.elems (Bitmap.removeBiggestMirror (Bitmap.extendMirror [] [5, 3, 70000, 4]) 2) = [3, 4] ∧
    Bitmap.elems (Bitmap.removeSmallestMirror (Bitmap.extendMirror [] [5, 3, 70000, 4]) 2) = [5, 70000] := by
  decide +kernel
/-- non-vacuity of the container-level mirror (bitset → array rebuild through `BitmapIter`): a bitset satisfying
    `BStore.Inv`, evaluated through the equality theorem (a kernel evaluation of a full `BitmapIter` drain is slow
    because the word scan of `next` is re-evaluated on the list model) -/
example : (⟨0, .bitmap { len := 4, bits := 7 :: 0 :: 2 :: List.replicate 1021 0 }⟩ : Container).store.Inv ∧
    (Container.removeSmallestMirror ⟨0, .bitmap { len := 4, bits := 7 :: 0 :: 2 :: List.replicate 1021 0 }⟩ 1).store
      = .array [1, 2, 129] := by
  have hinv : (⟨0, .bitmap { len := 4, bits := 7 :: 0 :: 2 :: List.replicate 1021 0 }⟩ : Container).store.Inv := by
    refine ⟨?_, ?_, ?_⟩
    · show (7 :: 0 :: 2 :: List.replicate 1021 0).length = 1024
      rw [List.length_cons, List.length_cons, List.length_cons, List.length_replicate]
    · intro w hw
      simp only [List.mem_cons, List.mem_replicate] at hw
      rcases hw with rfl | rfl | rfl | ⟨_, rfl⟩ <;> decide
    · show 4 = BStore.popSum (7 :: 0 :: 2 :: List.replicate 1021 0)
      rw [BStore.popSum_cons, BStore.popSum_cons, BStore.popSum_cons, Word.popSum_replicate]
      decide +kernel
  refine ⟨hinv, ?_⟩
  rw [Container.removeSmallest_mirror_eq _ hinv]
  decide +kernel

end Roaring.C01
