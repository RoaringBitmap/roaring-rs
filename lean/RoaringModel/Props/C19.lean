import RoaringModel.Serde
import RoaringModel.Props.C05
import RoaringModel.Inv
import RoaringModel.Lemmas.SpecRoundTrip
import RoaringModel.Lemmas.TreemapCodec
import RoaringModel.Lemmas.SerdeVisit
/-!
# C19 — serde representation is the standard byte format and round-trips (property theorems)

The Lean content is thin because the property's logic is thin (DESIGN §8 C19): the serializer is handed
one byte string, the visitor runs the checked decoder on whatever byte string it is handed.  The codec
round trip itself is property C05 (`C05_decode`, for well-formed values); with it the round trip through the
visitor holds for every well-formed value: `C19_visit_roundtrip`, `C19_rt`, `C19_roundtrip`.
-/
namespace Roaring.C19
open Roaring Roaring.Serde

/-- `Serialize` emits exactly one data-model event: the bytes of `serialize_into`. -/
theorem C19_events (b : Bitmap) : serEvents b = [Event.bytes (Bitmap.serialize b)] := rfl

/-- ... and the only serializer method called is `serialize_bytes`. -/
theorem C19_events_methods (b : Bitmap) : (serEvents b).map Event.method = ["serialize_bytes"] := rfl

theorem C19_visitSeq_eq_visitBytes (dbg : Bool) (bs : List Nat) : visitSeq dbg bs = visitBytes dbg bs :=
  visitSeqOf_eq _ bs

/-- Every way a `Deserializer` can deliver a byte string reaches the same checked decoder. -/
theorem C19_visit_kinds (dbg : Bool) (bs : List Nat) :
    visit dbg (.borrowedBytes bs) = visit dbg (.bytes bs) ∧
    visit dbg (.byteBuf bs) = visit dbg (.bytes bs) ∧
    visit dbg (.seq bs) = visit dbg (.bytes bs) :=
  ⟨rfl, rfl, C19_visitSeq_eq_visitBytes dbg bs⟩

/-- The byte string carried by a delivery. -/
def Input.payload : Input → List Nat
  | .bytes bs => bs
  | .borrowedBytes bs => bs
  | .byteBuf bs => bs
  | .seq els => els

/-- Full statement (every delivery form, for every well-formed value): `visit ∘ serialize = ok`
    (theorem `C19_roundtrip`). -/
def C19_roundtrip_statement (dbg : Bool) : Prop :=
  ∀ (b : Bitmap), Bitmap.WF b → ∀ (inp : Input), Input.payload inp = Bitmap.serialize b → visit dbg inp = .ok b

/-- Round trip through the visitor, as a corollary of the codec round trip (C05) for the value at hand:
    if the checked decoder reads `serialize b` back as `b` (whatever it leaves unread), then delivering
    `serialize b` as bytes, borrowed bytes, a byte buffer or a sequence of `u8` yields `b`. -/
theorem C19_visit_roundtrip_of_decode (dbg : Bool) (b : Bitmap) (rest : List Nat)
    (hC05 : deserialize true dbg (Bitmap.serialize b) = .ok (b, rest))
    (inp : Input) (hinp : Input.payload inp = Bitmap.serialize b) : visit dbg inp = .ok b := by
  obtain ⟨h1, h2, h3, h4⟩ := visitOf_ok hC05
  cases inp <;> dsimp only [Input.payload] at hinp <;> subst hinp
  · exact h1
  · exact h2
  · exact h3
  · exact h4

/-- What a format round trip amounts to in the model: the single emitted event, handed back to the
    visitor as a byte string (postcard) or as a sequence (JSON), yields the original value. -/
theorem C19_rt_of_decode (dbg : Bool) (b : Bitmap) (rest : List Nat)
    (hC05 : deserialize true dbg (Bitmap.serialize b) = .ok (b, rest)) :
    (match serEvents b with
     | [Event.bytes bs] => visit dbg (.bytes bs) = .ok b ∧ visit dbg (.seq bs) = .ok b
     | _ => False) := by
  simp only [C19_events]
  exact ⟨C19_visit_roundtrip_of_decode dbg b rest hC05 (.bytes _) rfl,
         C19_visit_roundtrip_of_decode dbg b rest hC05 (.seq _) rfl⟩

/-! ### the codec round trip is `C05_decode` -/

/-- the codec family's local well-formedness predicate (Lemmas/CodecWF.lean) is the shared `Bitmap.WF` -/
theorem codecWF_iff (b : Bitmap) : Roaring.BitmapWF b ↔ Bitmap.WF b := bitmapWF_iff b

/-- the checked decoder reads the serialisation of a well-formed value back as that value (C05) -/
theorem C19_decode (dbg : Bool) (b : Bitmap) (h : Bitmap.WF b) :
    deserialize true dbg (Bitmap.serialize b) = .ok (b, []) := by
  have := C05.C05_decode true dbg b h []
  simpa using this

/-- **Round trip through the visitor** for every well-formed value and every way a `Deserializer` can deliver
    the byte string (bytes, borrowed bytes, byte buffer, sequence of `u8`), in both build configurations. -/
theorem C19_visit_roundtrip (dbg : Bool) (b : Bitmap) (h : Bitmap.WF b)
    (inp : Input) (hinp : Input.payload inp = Bitmap.serialize b) : visit dbg inp = .ok b :=
  C19_visit_roundtrip_of_decode dbg b [] (C19_decode dbg b h) inp hinp

theorem C19_roundtrip (dbg : Bool) : C19_roundtrip_statement dbg :=
  fun b h inp hinp => C19_visit_roundtrip dbg b h inp hinp

/-- **Format round trip**: the single emitted event, handed back to the visitor as a byte string (postcard)
    or as a sequence (JSON), yields the original value. -/
theorem C19_rt (dbg : Bool) (b : Bitmap) (h : Bitmap.WF b) :
    (match serEvents b with
     | [Event.bytes bs] => visit dbg (.bytes bs) = .ok b ∧ visit dbg (.seq bs) = .ok b
     | _ => False) :=
  C19_rt_of_decode dbg b [] (C19_decode dbg b h)

/-- The serde byte string IS the standard serialisation: what the visitor accepts from `serialize` is the value,
    and a value deserialised from the emitted event re-serialises to the same event (idempotence). -/
theorem C19_reserialize (dbg : Bool) (b : Bitmap) (h : Bitmap.WF b) :
    ∀ bs, serEvents b = [Event.bytes bs] → ∃ b', visit dbg (.bytes bs) = .ok b' ∧ serEvents b' = serEvents b := by
  intro bs hbs
  rw [C19_events] at hbs
  cases hbs
  exact ⟨b, C19_visit_roundtrip dbg b h (.bytes _) rfl, rfl⟩

/-- decidable equality of `Except` values (for the concrete example below) -/
local instance {ε α} [DecidableEq ε] [DecidableEq α] : DecidableEq (Except ε α) := fun a b =>
  match a, b with
  | .ok x, .ok y => if h : x = y then isTrue (by rw [h]) else isFalse (by intro h'; cases h'; exact h rfl)
  | .error x, .error y => if h : x = y then isTrue (by rw [h]) else isFalse (by intro h'; cases h'; exact h rfl)
  | .ok _, .error _ => isFalse (by intro h; cases h)
  | .error _, .ok _ => isFalse (by intro h; cases h)

attribute [local instance] Concrete.decBitmapWF

/-- Non-vacuity: a value with an array chunk (key 0) and a second chunk (key 3) meets the hypothesis
    `hC05`, in both build configurations. -/
example : ∀ dbg : Bool,
    deserialize true dbg (Bitmap.serialize [⟨0, .array [1, 2, 70]⟩, ⟨3, .array [0, 65535]⟩])
      = .ok ([⟨0, .array [1, 2, 70]⟩, ⟨3, .array [0, 65535]⟩], []) := by
  intro dbg
  rw [← List.append_nil (Bitmap.serialize _)]
  exact C05.C05_decode true dbg _ (by decide) []

/-! ### `Serialize` over the encoder the driver executes (fidelity audit) -/

/-- With the exact `u64` arithmetic of the cardinality field (`Bitmap.serializeM`), `Serialize` on a
    well-formed value does not panic in either build configuration and emits the same single event. -/
theorem C19_events_mirror (ovf : Bool) (b : Bitmap) (h : Bitmap.WF b) : serEventsM ovf b = some (serEvents b) := by
  unfold serEventsM serEventsOfM
  rw [C05.C05_serialize_mirror_eq ovf b h]; rfl

/-- **format round trip for the executed `Serialize`** -/
theorem C19_rt_mirror (ovf dbg : Bool) (b : Bitmap) (h : Bitmap.WF b) :
    ∃ bs, serEventsM ovf b = some [Event.bytes bs] ∧ visit dbg (.bytes bs) = .ok b ∧ visit dbg (.seq bs) = .ok b := by
  refine ⟨Bitmap.serialize b, by rw [C19_events_mirror ovf b h]; rfl, ?_⟩
  have := C19_rt dbg b h
  simpa only [C19_events] using this

end Roaring.C19

/-!
# C19 for `RoaringTreemap` (treemap/serde.rs — the same code over the treemap codec)

`Serde.serEventsOf` / `visitOf` are generic, so the statements are the same; the round trip is proved in full
from the treemap codec round trip (`C05_t_decode`, lifted from the 32-bit `C05_decode`), for every well-formed
treemap (`Treemap.WFd Bitmap.WF` = `Treemap.TWF`).
-/
namespace Roaring.C19
open Roaring Roaring.Serde

/-- `Serialize` emits exactly one data-model event: the bytes of the treemap's `serialize_into`. -/
theorem C19_t_events (t : Treemap) : tserEvents t = [Event.bytes (Treemap.serialize t)] := rfl

/-- ... and the only serializer method called is `serialize_bytes`. -/
theorem C19_t_events_methods (t : Treemap) : (tserEvents t).map Event.method = ["serialize_bytes"] := rfl

/-- Every way a `Deserializer` can deliver a byte string reaches the same checked treemap decoder. -/
theorem C19_t_visit_kinds (dbg : Bool) (bs : List Nat) :
    tvisit dbg (.borrowedBytes bs) = tvisit dbg (.bytes bs) ∧
    tvisit dbg (.byteBuf bs) = tvisit dbg (.bytes bs) ∧
    tvisit dbg (.seq bs) = tvisit dbg (.bytes bs) :=
  ⟨rfl, rfl, visitSeqOf_eq _ bs⟩

/-- Round trip through the visitor, for every well-formed treemap and every delivery form: delivering
    `serialize t` as bytes, borrowed bytes, a byte buffer or a sequence of `u8` yields `t`. -/
theorem C19_t_visit_roundtrip (dbg : Bool) (t : Treemap) (h : Treemap.WFd Bitmap.WF t)
    (inp : Input) (hinp : Input.payload inp = Treemap.serialize t) : tvisit dbg inp = .ok t := by
  have hd : Treemap.deserialize true dbg (Treemap.serialize t ++ []) = .ok (t, []) := C05.C05_t_decode true dbg t h []
  rw [List.append_nil] at hd
  obtain ⟨h1, h2, h3, h4⟩ := visitOf_ok hd
  cases inp <;> dsimp only [Input.payload] at hinp <;> subst hinp
  · exact h1
  · exact h2
  · exact h3
  · exact h4

/-- What a format round trip amounts to in the model: the single emitted event, handed back to the visitor as a
    byte string (postcard) or as a sequence (JSON), yields the original value. -/
theorem C19_t_rt (dbg : Bool) (t : Treemap) (h : Treemap.WFd Bitmap.WF t) :
    (match tserEvents t with
     | [Event.bytes bs] => tvisit dbg (.bytes bs) = .ok t ∧ tvisit dbg (.seq bs) = .ok t
     | _ => False) := by
  simp only [C19_t_events]
  exact ⟨C19_t_visit_roundtrip dbg t h (.bytes _) rfl, C19_t_visit_roundtrip dbg t h (.seq _) rfl⟩

attribute [local instance] Concrete.decTreemapWF

/-- Non-vacuity: a two-partition value (keys 0 and `u32::MAX`) meets the hypothesis. -/
example : Treemap.WFd Bitmap.WF [(0, [⟨0, .array [1, 2, 70]⟩]), (4294967295, [⟨3, .array [0, 65535]⟩])] := by
  decide

theorem C19_t_events_mirror (ovf : Bool) (t : Treemap) (h : Treemap.WFd Bitmap.WF t) :
    tserEventsM ovf t = some (tserEvents t) := by
  unfold tserEventsM serEventsOfM
  rw [C05.C05_t_serialize_mirror_eq ovf t h]; rfl

theorem C19_t_rt_mirror (ovf dbg : Bool) (t : Treemap) (h : Treemap.WFd Bitmap.WF t) :
    ∃ bs, tserEventsM ovf t = some [Event.bytes bs] ∧ tvisit dbg (.bytes bs) = .ok t ∧ tvisit dbg (.seq bs) = .ok t :=
  ⟨Treemap.serialize t, by rw [C19_t_events_mirror ovf t h]; rfl,
   C19_t_visit_roundtrip dbg t h (.bytes _) rfl, C19_t_visit_roundtrip dbg t h (.seq _) rfl⟩

end Roaring.C19
