import RoaringModel.Lemmas.InterSer
import RoaringModel.Lemmas.InterSerSpec
import RoaringModel.Lemmas.AlgebraSpec
import RoaringModel.Lemmas.SpecRoundTrip
import RoaringModel.SpecCodec
/-!
# C18 — intersection with a serialized bitmap

Full statement (`C18_statement`, theorem `C18`): for a well-formed `a` and every conformant stream `s` (a byte
string accepted by the strict reference decoder with set `S`), `intersection_with_serialized_unchecked` returns,
in both build configurations, a well-formed value whose elements are exactly those of `a` that are in `S`
(`C18_value`: `elems r = Spec.sAnd (elems a) S`); for every truncation of the stream the result is an
`UnexpectedEof` error or that same value — never a panic, never a different value (`C18_trunc`).

Also proved, for *arbitrary* byte strings: no panic in builds without debug assertions
(`C18_no_panic_release`), header errors are propagated (`C18_header_error`), and truncation can only turn the
outcome into EOF (`C18_trunc_any`).

The hypothesis `∀ x ∈ bs, x < 256` says that the `List Nat` is a byte string (see C06).
-/
namespace Roaring.C18
open Roaring Roaring.Parser

def C18_statement : Prop :=
  ∀ (dbg : Bool) (a : Bitmap) (bs S rest : List Nat), Bitmap.WF a → (∀ x ∈ bs, x < 256) →
    Spec.decode bs = some (S, rest) →
    (∃ r, Bitmap.interSer dbg a bs = .ok r ∧ Bitmap.WF r ∧ ∀ x, x ∈ Bitmap.elems r ↔ x ∈ Bitmap.elems a ∧ x ∈ S) ∧
    ∀ k, Bitmap.interSer dbg a (bs.take k) ≠ .error .panic ∧
      ∀ r, Bitmap.interSer dbg a (bs.take k) = .ok r → ∀ x, x ∈ Bitmap.elems r ↔ x ∈ Bitmap.elems a ∧ x ∈ S

/-- **C18, value.**  Well-formed `a`, conformant stream with set `S` (either cookie, with or without offset
    table, array / bitset / run chunks), either build configuration: the result is a well-formed value and its
    element list is the reference intersection of `elems a` and `S`. -/
theorem C18_value (dbg : Bool) (a : Bitmap) (bs S rest : List Nat) (ha : Bitmap.WF a) (hb : ∀ x ∈ bs, x < 256)
    (h : Spec.decode bs = some (S, rest)) :
    ∃ r, Bitmap.interSer dbg a bs = .ok r ∧ Bitmap.WF r ∧ Bitmap.elems r = Spec.sAnd (Bitmap.elems a) S :=
  interSer_value dbg a bs S rest ha hb h

/-- in particular for the streams the crate itself writes (cookie `12346`, offset table — the seeking path):
    `a.intersection_with_serialized_unchecked(serialize(b))` is `a ∩ b`, whatever follows the serialisation -/
theorem C18_serialize (dbg : Bool) (a b : Bitmap) (ha : Bitmap.WF a) (hb : Bitmap.WF b) :
    ∃ r, Bitmap.interSer dbg a (Bitmap.serialize b) = .ok r ∧ Bitmap.WF r ∧
      Bitmap.elems r = Spec.sAnd (Bitmap.elems a) (Bitmap.elems b) := by
  have hd := specDecode_serialize b hb.toCodec []
  rw [List.append_nil] at hd
  exact C18_value dbg a _ _ [] ha (serialize_isBytes b) hd

/-- **C18, truncation (any input).**  For every left operand, every byte string and every cut, in both build
    configurations: on the truncated input the call fails with `UnexpectedEof`, or does exactly what it does on
    the whole input. -/
theorem C18_trunc_any (dbg : Bool) (a : Bitmap) (bs : List Nat) (k : Nat) :
    Bitmap.interSer dbg a (bs.take k) = .error .eof ∨
    Bitmap.interSer dbg a (bs.take k) = Bitmap.interSer dbg a bs :=
  interSer_trunc dbg a bs k

/-- **C18, truncation.**  For a well-formed `a` and every truncation of a conformant stream (debug assertions on
    or off): an `UnexpectedEof` error, or the correct value — never a panic, never a wrong value. -/
theorem C18_trunc (dbg : Bool) (a : Bitmap) (bs S rest : List Nat) (ha : Bitmap.WF a) (hb : ∀ x ∈ bs, x < 256)
    (h : Spec.decode bs = some (S, rest)) (k : Nat) :
    Bitmap.interSer dbg a (bs.take k) = .error .eof ∨
    ∃ r, Bitmap.interSer dbg a (bs.take k) = .ok r ∧ Bitmap.WF r ∧
      Bitmap.elems r = Spec.sAnd (Bitmap.elems a) S := by
  obtain ⟨r, h1, h2, h3⟩ := C18_value dbg a bs S rest ha hb h
  rcases C18_trunc_any dbg a bs k with ht | ht
  · exact Or.inl ht
  · exact Or.inr ⟨r, by rw [ht, h1], h2, h3⟩

theorem C18 : C18_statement := by
  intro dbg a bs S rest ha hb h
  obtain ⟨r, h1, h2, h3⟩ := interSer_value dbg a bs S rest ha hb h
  obtain ⟨b, _, hbw, rfl⟩ := decode_spec bs S rest hb h
  have hm : ∀ x, x ∈ Bitmap.elems r ↔ x ∈ Bitmap.elems a ∧ x ∈ Bitmap.elems b := fun x => by
    rw [h3, Spec.mem_sAnd _ _ (Bitmap.sorted_elems a ha.dir) (Bitmap.sorted_elems b hbw.dir)]
  refine ⟨⟨r, h1, h2, hm⟩, fun k => ?_⟩
  rcases C18_trunc_any dbg a bs k with ht | ht
  · rw [ht]
    exact ⟨nofun, nofun⟩
  · rw [ht, h1]
    exact ⟨nofun, fun r' hr' => Except.ok.inj hr' ▸ hm⟩

/-- Release builds (no debug assertions): for **every** left operand and **every** byte string — conformant,
    truncated anywhere, or garbage — the result is a value or an error, never a panic (every read of the offset
    path, ops_with_serialized.rs:228-265, ends in `?` (commit 3733501); with `.unwrap()` there a truncated stream
    panics, defect D7: `corpus/C18/D7-truncated-offset-stream.ops`). -/
theorem C18_no_panic_release (a : Bitmap) (bytes : List Nat) :
    Bitmap.interSer false a bytes ≠ .error .panic := by
  unfold Bitmap.interSer
  intro h
  split at h
  · simp at h
  · rename_i e he
    simp only [Except.error.injEq] at h
    subst h
    exact np_interSerG a ⟨bytes, 0⟩ he

theorem C18_header_cursor (bytes : List Nat) :
    (decodeHeader Cursor.readExact ⟨bytes, 0⟩).map (fun r => (r.1, r.2.data.drop r.2.pos)) =
      decodeHeader readN bytes := by
  have := sim_decodeHeader (π := fun c : Cursor => c.data.drop c.pos) sim_cursor ⟨bytes, 0⟩
  simpa using this

/-- In every build: if the stream ends (or is invalid) inside the header, the call returns that error. -/
theorem C18_header_error (dbg : Bool) (a : Bitmap) (bytes : List Nat) (e : DecErr)
    (h : decodeHeader readN bytes = .error e) : Bitmap.interSer dbg a bytes = .error e := by
  have hc := C18_header_cursor bytes
  rw [h] at hc
  unfold Bitmap.interSer interSerG
  simp only [bind, Parser.bind]
  cases hd : decodeHeader Cursor.readExact ⟨bytes, 0⟩ with
  | ok r => rw [hd] at hc; cases hc
  | error e' =>
    rw [hd] at hc
    cases hc
    rfl

/-- Offset path with an empty left operand: once the header is read the result is the empty bitmap, whatever
    follows (nothing of the payload is looked at). -/
theorem C18_empty_left (dbg : Bool) (bytes : List Nat) (hd : Header) (rest : List Nat)
    (h : decodeHeader readN bytes = .ok (hd, rest)) (ho : hd.hasOffsets = true) :
    Bitmap.interSer dbg [] bytes = .ok [] := by
  obtain ⟨c1, hc1, _, _⟩ := cursor_of_slice _ _ (sim_decodeHeader sim_cursor)
    keeps_closed.decodeHeader ⟨bytes, 0⟩ hd rest h
  unfold Bitmap.interSer interSerG
  rw [bind_ok _ _ _ _ _ hc1, if_pos ho]
  rfl

/-- non-vacuity / concrete instances evaluated in the kernel: the 64-byte stream of
    `corpus/C18/D7-truncated-offset-stream.ops` (`(0..10) ∪ (70000..70010)`), `a = {3, 70005, 200000}`: the full
    stream gives `{3, 70005}`; cut at byte 63 (inside the second chunk, whose key `a` holds) it is an EOF error —
    not a panic. -/
example : (Bitmap.interSer true
    [{ key := 0, store := .array [3] }, { key := 1, store := .array [4469] }, { key := 3, store := .array [3392] }]
    [58, 48, 0, 0, 2, 0, 0, 0, 0, 0, 9, 0, 1, 0, 9, 0, 24, 0, 0, 0, 44, 0, 0, 0,
     0, 0, 1, 0, 2, 0, 3, 0, 4, 0, 5, 0, 6, 0, 7, 0, 8, 0, 9, 0,
     112, 17, 113, 17, 114, 17, 115, 17, 116, 17, 117, 17, 118, 17, 119, 17, 120, 17, 121, 17]).map Bitmap.elems
    = .ok [3, 70005] := by decide +kernel
example : Bitmap.interSer true
    [{ key := 0, store := .array [3] }, { key := 1, store := .array [4469] }, { key := 3, store := .array [3392] }]
    ([58, 48, 0, 0, 2, 0, 0, 0, 0, 0, 9, 0, 1, 0, 9, 0, 24, 0, 0, 0, 44, 0, 0, 0,
     0, 0, 1, 0, 2, 0, 3, 0, 4, 0, 5, 0, 6, 0, 7, 0, 8, 0, 9, 0,
     112, 17, 113, 17, 114, 17, 115, 17, 116, 17, 117, 17, 118, 17, 119, 17, 120, 17, 121, 17].take 63)
    = .error .eof := by decide +kernel

end Roaring.C18
