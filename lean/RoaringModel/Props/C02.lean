import RoaringModel.Lemmas.BitmapOps
import RoaringModel.Lemmas.BitmapSearchOps
import RoaringModel.Lemmas.BitmapMerge
import RoaringModel.Lemmas.Canonical
import RoaringModel.Lemmas.MirrorLemmas
import RoaringModel.Lemmas.Concrete
/-!
# C02 — 32-bit set algebra is exactly union / intersection / difference / symmetric difference

Statement shape: for well-formed operands the result is well-formed and its element list
*is* the SPEC operation on the operands' element lists (`Spec.sOr / sAnd / sSub / sXor`); the membership
form of DESIGN §8 (`x ∈ elems (a | b) ↔ x ∈ elems a ∨ x ∈ elems b`, …) follows by `Spec.mem_sOr` … of
`Lemmas/AlgebraSpec.lean`.

Proved here, for all well-formed `a b` (`Bitmap.WF`, `Inv.lean`), **for all 4 operators × 6 forms**
(`C02_<op>_<form>`, form ∈ {oo, or, ro, rr, ao, ar}; `C02_all_forms` for all at once), unconditionally, each
mirroring its own code path:
* `&a op &b` — the four `Pairs` merge-join loops; `a ^= b`, `a ^= &b` — two more `Pairs` loops;
* `a &= &b`, `a -= &b` — `retain_mut` + `binary_search_by_key`, shown to visit the same chunk pairs;
* `a &= b` — operand swap on `containers.len()`, matched rhs chunk moved out (`mem::replace`);
* `a |= b` (operand swap on `len()`), `a |= &b` — the insert-or-merge loop (`binary_search` + `Vec::insert`);
* the wrappers, delegating exactly as ops.rs does (including the exchanged operands of `&a | b`, `&a & b`,
  `&a ^ b`, for which commutativity of the SPEC operation is proved);
down to the per-kind store dispatch, the scalar merges, the in-place `retain` forms with the galloping
index, and `ensure_correct_store`.  `C02_forms_agree` (and `C02_<op>_forms_agree`): all six forms of one
operator return *structurally equal* values (`Bitmap.canonical`, `Lemmas/Canonical.lean`).

The store-level operator specifications `Store.*_spec` (`Lemmas/StoreOps.lean`) rest on the `BStore.*` theorems of
`Lemmas/BStoreBasic.lean` / `BStoreRange.lean` directly (two of them keep a parameter `K : BKernel`, the record of those
bitset facts, which `bKernel` inhabits), as do the container lemmas, so nothing here is conditional.

"Borrowed operands are left unchanged" is not a theorem of a functional model (DESIGN §8 C02).
-/
namespace Roaring.C02
open Roaring Roaring.Bitmap

theorem C02_or_rr : Exact orRR Spec.sOr := by
  intro a b
  rw [orRR_eq]
  exact pairsOp_exact oper_or (fun _ _ => rfl) Store.orRef_spec a b

theorem C02_and_rr : Exact andRR Spec.sAnd := by
  intro a b
  rw [andRR_eq]
  exact pairsOp_exact oper_and (fun _ _ => rfl) Store.andRef_spec a b

theorem C02_sub_rr : Exact subRR Spec.sSub := by
  intro a b
  rw [subRR_eq]
  exact pairsOp_exact oper_sub (fun _ _ => rfl) Store.subRef_spec a b

/-- `&a - b` delegates to `&a - &b` (ops.rs:295). -/
theorem C02_sub_ro : Exact subRO Spec.sSub := C02_sub_rr

theorem C02_xorWith (f : Container → Container → Container) (op : Store → Store → Store)
    (hf : ∀ l r : Container, f l r = Container.ensureCorrectStore { key := l.key, store := op l.store r.store })
    (hop : Store.OpSpec Store.PXor op) : Exact (xorWith f) Spec.sXor :=
  xorWith_exact hf hop

theorem C02_xor_rr : Exact xorRR Spec.sXor :=
  C02_xorWith _ _ (fun _ _ => rfl) Store.xorRef_spec
theorem C02_xor_ao : Exact xorAO Spec.sXor :=
  C02_xorWith _ _ (fun _ _ => rfl) Store.xorAssignOwned_spec
theorem C02_xor_ar : Exact xorAR Spec.sXor :=
  C02_xorWith _ _ (fun _ _ => rfl) Store.xorAssignRef_spec
/-- `a ^ b` is `a ^= b`, `a ^ &b` is `a ^= &b` (ops.rs:351-369). -/
theorem C02_xor_oo : Exact xorOO Spec.sXor := C02_xor_ao
theorem C02_xor_or : Exact xorOR Spec.sXor := C02_xor_ar

/-- symmetric difference is symmetric (needed because `&a ^ b` is computed as `b ^= &a`) -/
theorem C02_sXor_comm (l r : List Nat) (hl : Sorted l) (hr : Sorted r) : Spec.sXor l r = Spec.sXor r l :=
  Spec.sXor_comm l r hl hr

/-- `&a ^ b` = `BitXor::bitxor(rhs, self)` (ops.rs:371): the operands are exchanged. -/
theorem C02_xor_ro : Exact xorRO Spec.sXor := exact_swap Spec.sXor_comm C02_xor_ar

theorem C02_and_ar : Exact andAR Spec.sAnd :=
  andAR_exact

/-- `a & &b` is `a &= &b` (ops.rs:197). -/
theorem C02_and_or : Exact andOR Spec.sAnd := C02_and_ar

theorem C02_sAnd_comm (l r : List Nat) (hl : Sorted l) (hr : Sorted r) : Spec.sAnd l r = Spec.sAnd r l :=
  Spec.sAnd_comm l r hl hr

/-- `&a & b` = `BitAnd::bitand(rhs, self)` (ops.rs:207): the operands are exchanged. -/
theorem C02_and_ro : Exact andRO Spec.sAnd := exact_swap Spec.sAnd_comm C02_and_ar

theorem C02_sub_ar : Exact subAR Spec.sSub :=
  subAR_exact

/-- `a -= b`, `a - b`, `a - &b` all are `a -= &b` (ops.rs:275-334). -/
theorem C02_sub_ao : Exact subAO Spec.sSub := C02_sub_ar
theorem C02_sub_oo : Exact subOO Spec.sSub := C02_sub_ar
theorem C02_sub_or : Exact subOR Spec.sSub := C02_sub_ar

/-- `a &= b` (owned): whichever way the `containers.len()`-based operand swap goes -/
theorem C02_and_ao : Exact andAO Spec.sAnd :=
  andAO_exact

/-- `a & b` is `a &= b` (ops.rs:187). -/
theorem C02_and_oo : Exact andOO Spec.sAnd := C02_and_ao

theorem C02_sOr_comm (l r : List Nat) (hl : Sorted l) (hr : Sorted r) : Spec.sOr l r = Spec.sOr r l :=
  Spec.sOr_comm l r hl hr

theorem C02_or_ar : Exact orAR Spec.sOr :=
  orAR_exact

/-- `a |= b` (owned): whichever way the `len()`-based operand swap goes, the result is the union -/
theorem C02_or_ao : Exact orAO Spec.sOr :=
  orAO_exact

/-- `a | b` is `a |= b`, `a | &b` is `a |= &b` (ops.rs:107-125). -/
theorem C02_or_oo : Exact orOO Spec.sOr := C02_or_ao
theorem C02_or_or : Exact orOR Spec.sOr := C02_or_ar

/-- `&a | b` = `BitOr::bitor(rhs, self)` (ops.rs:127): the operands are exchanged. -/
theorem C02_or_ro : Exact orRO Spec.sOr := exact_swap Spec.sOr_comm C02_or_ar

/-- **C02, all operators and forms at once**: the result is well-formed and is exactly the SPEC operation. -/
theorem C02_all_forms (op : BinOp) (fm : Form) (a b : Bitmap) (ha : a.WF) (hb : b.WF) :
    (binop op fm a b).WF ∧ elems (binop op fm a b) =
      (match op with
       | .or => Spec.sOr | .and => Spec.sAnd | .sub => Spec.sSub | .xor => Spec.sXor) (elems a) (elems b) := by
  cases op <;> cases fm
  · exact C02_or_oo a b ha hb
  · exact C02_or_or a b ha hb
  · exact C02_or_ro a b ha hb
  · exact C02_or_rr a b ha hb
  · exact C02_or_ao a b ha hb
  · exact C02_or_ar a b ha hb
  · exact C02_and_oo a b ha hb
  · exact C02_and_or a b ha hb
  · exact C02_and_ro a b ha hb
  · exact C02_and_rr a b ha hb
  · exact C02_and_ao a b ha hb
  · exact C02_and_ar a b ha hb
  · exact C02_sub_oo a b ha hb
  · exact C02_sub_or a b ha hb
  · exact C02_sub_ro a b ha hb
  · exact C02_sub_rr a b ha hb
  · exact C02_sub_ao a b ha hb
  · exact C02_sub_ar a b ha hb
  · exact C02_xor_oo a b ha hb
  · exact C02_xor_or a b ha hb
  · exact C02_xor_ro a b ha hb
  · exact C02_xor_rr a b ha hb
  · exact C02_xor_ao a b ha hb
  · exact C02_xor_ar a b ha hb

/-- **All forms of one operator return STRUCTURALLY EQUAL values** (not merely the same elements): every
    form's result is well-formed with the same element list (`C02_all_forms`), and a well-formed value is
    determined by its element list (`Bitmap.canonical`, the canonical-form theorem of C04). -/
theorem C02_forms_agree (op : BinOp) (fm fm' : Form) (a b : Bitmap) (ha : a.WF) (hb : b.WF) :
    binop op fm a b = binop op fm' a b :=
  have h := C02_all_forms op fm a b ha hb
  have h' := C02_all_forms op fm' a b ha hb
  Bitmap.canonical _ _ h.1 h'.1 (h.2.trans h'.2.symm)

/-- per operator, against the `&a op &b` form -/
theorem C02_or_forms_agree (a b : Bitmap) (ha : a.WF) (hb : b.WF) (fm : Form) :
    binop .or fm a b = orRR a b := C02_forms_agree .or fm .rr a b ha hb
theorem C02_and_forms_agree (a b : Bitmap) (ha : a.WF) (hb : b.WF) (fm : Form) :
    binop .and fm a b = andRR a b := C02_forms_agree .and fm .rr a b ha hb
theorem C02_sub_forms_agree (a b : Bitmap) (ha : a.WF) (hb : b.WF) (fm : Form) :
    binop .sub fm a b = subRR a b := C02_forms_agree .sub fm .rr a b ha hb
theorem C02_xor_forms_agree (a b : Bitmap) (ha : a.WF) (hb : b.WF) (fm : Form) :
    binop .xor fm a b = xorRR a b := C02_forms_agree .xor fm .rr a b ha hb

/-- the wrappers of ops.rs delegate: `a | b` is `a |= b`, `a | &b` is `a |= &b`, `&a | b` is `b |= &a`;
    likewise for `&`; every owned/borrowed form of `-` is `a -= &b` except `&a - &b` / `&a - b`. -/
theorem C02_wrappers (a b : Bitmap) :
    orOO a b = orAO a b ∧ orOR a b = orAR a b ∧ orRO a b = orAR b a ∧
    andOO a b = andAO a b ∧ andOR a b = andAR a b ∧ andRO a b = andAR b a ∧
    subOO a b = subAR a b ∧ subOR a b = subAR a b ∧ subAO a b = subAR a b ∧ subRO a b = subRR a b :=
  ⟨rfl, rfl, rfl, rfl, rfl, rfl, rfl, rfl, rfl, rfl⟩

/-! Non-vacuity of the `WF` hypotheses: a two-chunk value (keys 0 and 7) is well-formed, and the
    operations are exercised on it by evaluation. -/
def exA : Bitmap := [⟨0, .array [1, 5, 65535]⟩, ⟨7, .array [0, 2]⟩]
def exB : Bitmap := [⟨0, .array [5, 6]⟩, ⟨3, .array [9]⟩]

section
attribute [local instance] Concrete.decBitmapWF
example : exA.WF ∧ exB.WF := by decide
end

/-- … and a value with one array chunk and one bitset chunk (4160 values) -/
def exBits : BStore := { len := 4160, bits := List.replicate 65 wMax ++ List.replicate 959 0 }
def exC : Bitmap := [⟨0, .array [1, 5, 65535]⟩, ⟨7, .bitmap exBits⟩]

example : exC.WF := by
  refine ⟨by decide, ?_⟩
  intro c hc
  simp only [exC, List.mem_cons, List.not_mem_nil, or_false] at hc
  rcases hc with rfl | rfl
  · exact ⟨by decide, ⟨⟨by unfold Sorted; decide, by decide⟩, by decide, by decide⟩⟩
  · exact ⟨by decide, BStore.inv_replicate 65 (by decide), by decide⟩

example : elems (orRR exA exB) = [1, 5, 6, 65535, 196617, 458752, 458754]
    ∧ elems (andRR exA exB) = [5] ∧ elems (subRR exA exB) = [1, 65535, 458752, 458754]
    ∧ elems (xorAO exA exB) = [1, 6, 65535, 196617, 458752, 458754] := by decide +kernel

/-! ## Fidelity audit (stores): the theorems above, restated for the mirrored definitions the driver executes

`notes/fidelity-stores-iter32.md`.  The store kernels under `C02_*` are `Arr.or/and/sub/xor` (scalar.rs) and
`BStore.opBitmaps` (bitmap_store.rs `op_bitmaps`).  Their Rust originals are (a) ONE generic merge per operator,
parameterised by a `BinaryOperationVisitor`, closed by `ArrayStore::from_vec_unchecked`, and (b) ONE loop that applies
the word operator and accumulates `len`.  The mirrored definitions are `Arr.scalar* V` / `Arr.*Op dbg` and
`BStore.opBitmapsMirror`.  Because the equalities below are equalities of *functions* (`@[csimp]`, unconditional), the
compiled driver evaluates every `C02_*` operation through the mirrored kernels, and every theorem of this file is, by
rewriting with them, a theorem about what the driver executes. -/

/-- what the compiled driver runs in place of the four array merges and the bitset kernel (the `@[csimp]` equations) -/
theorem C02_driver_runs_mirrors :
    @Arr.or = @Arr.orVisit ∧ @Arr.and = @Arr.andVisit ∧ @Arr.sub = @Arr.subVisit ∧ @Arr.xor = @Arr.xorVisit
    ∧ @BStore.opBitmaps = @BStore.opBitmapsMirror :=
  ⟨Arr.or_eq_visit, Arr.and_eq_visit, Arr.sub_eq_visit, Arr.xor_eq_visit, BStore.opBitmaps_eq_mirror⟩

/-- scalar.rs, generic in the visitor, run with `VecWriter` from any already written prefix `acc`: it appends exactly
    the model merge — for arbitrary (also ill-formed) slices -/
theorem C02_scalar_vecWriter (l r : List Nat) (acc : Array Nat) :
    (Arr.scalarOr Arr.vecWriter l r acc).toList = acc.toList ++ Arr.or l r
    ∧ (Arr.scalarAnd Arr.vecWriter l r acc).toList = acc.toList ++ Arr.and l r
    ∧ (Arr.scalarSub Arr.vecWriter l r acc).toList = acc.toList ++ Arr.sub l r
    ∧ (Arr.scalarXor Arr.vecWriter l r acc).toList = acc.toList ++ Arr.xor l r :=
  ⟨Arr.scalarOr_vecWriter l r acc, Arr.scalarAnd_vecWriter l r acc, Arr.scalarSub_vecWriter l r acc,
   Arr.scalarXor_vecWriter l r acc⟩

/-- The four `&ArrayStore ∘ &ArrayStore` operator impls *including* the closing `from_vec_unchecked`: on strictly
    ascending operands (every array chunk of a `Bitmap.WF` value: `Store.Inv`) the debug validation never fires, in
    either build configuration, and the result is the strictly ascending vector of the set operation. -/
theorem C02_array_ops_exact (dbg : Bool) (a b : List Nat) (ha : Sorted a) (hb : Sorted b) :
    (∃ v, Arr.orOp dbg a b = some v ∧ Sorted v ∧ ∀ x, x ∈ v ↔ x ∈ a ∨ x ∈ b)
    ∧ (∃ v, Arr.andOp dbg a b = some v ∧ Sorted v ∧ ∀ x, x ∈ v ↔ x ∈ a ∧ x ∈ b)
    ∧ (∃ v, Arr.subOp dbg a b = some v ∧ Sorted v ∧ ∀ x, x ∈ v ↔ x ∈ a ∧ x ∉ b)
    ∧ (∃ v, Arr.xorOp dbg a b = some v ∧ Sorted v ∧ ∀ x, x ∈ v ↔ (x ∈ a ∧ x ∉ b) ∨ (x ∉ a ∧ x ∈ b)) :=
  ⟨⟨_, Arr.orOp_eq dbg a b ha hb, Arr.sorted_or a b ha hb, Arr.mem_or a b⟩,
   ⟨_, Arr.andOp_eq dbg a b ha hb, Arr.sorted_and a b ha hb, Arr.mem_and a b ha hb⟩,
   ⟨_, Arr.subOp_eq dbg a b ha hb, Arr.sorted_sub a b ha hb, Arr.mem_sub a b ha hb⟩,
   ⟨_, Arr.xorOp_eq dbg a b ha hb, Arr.sorted_xor a b ha hb, Arr.mem_xor a b ha hb⟩⟩

example : Sorted [1, 5, 65535] ∧ Sorted [5, 6] := by unfold Sorted; decide
example : Arr.orOp true [1, 5, 65535] [5, 6] = some [1, 5, 6, 65535] ∧ Arr.xorOp true [1, 5, 65535] [5, 6] = some [1, 6, 65535]
    ∧ Arr.orOp true [5, 1] [2] = none := by decide +kernel

/-- `op_bitmaps` as the single loop of the Rust (`len = 0`; per word: operator, then `len += count_ones`) is the model's
    `opBitmaps` for every word operator and all operands; in particular `orB/andB/subB/xorB`, on which
    `C02_*` rest, are that loop. -/
theorem C02_opBitmaps_mirror (f : Nat → Nat → Nat) (a b : BStore) :
    BStore.opBitmapsMirror f a b = BStore.opBitmaps f a b := BStore.opBitmaps_mirror_eq f a b

example : BStore.opBitmapsMirror (· ^^^ ·) ⟨3, [7, 0]⟩ ⟨2, [1, 8]⟩ = ⟨3, [6, 8]⟩ := by decide +kernel

/-- The two store conversions of `ensure_correct_store` *including* the debug validation of the `*_unchecked`
    constructor they end in (`to_array_store` → `from_vec_unchecked`, `to_bitmap_store` → `from_unchecked`): never
    fires on a store satisfying its structural invariant, so `Container.ensureCorrectStore` (which uses the bare
    `toArray` / `arrToBitmap`) drops nothing. -/
theorem C02_conversions_validated (dbg : Bool) :
    (∀ b : BStore, b.Inv → BStore.toArrayOp dbg b = some b.toArray)
    ∧ (∀ v : List Nat, Arr.Inv v → Store.arrToBitmapOp dbg v = some (Store.arrToBitmap v)) :=
  ⟨fun b hb => BStore.toArrayOp_eq dbg b hb, fun v hv => Store.arrToBitmapOp_eq dbg v hv⟩

example : BStore.new.Inv ∧ Arr.Inv [1, 5, 65535] := ⟨BStore.inv_new, by unfold Sorted; decide, by decide⟩

end Roaring.C02
