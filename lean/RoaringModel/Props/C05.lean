import RoaringModel.Lemmas.CodecWF
import RoaringModel.Lemmas.Parser
import RoaringModel.Lemmas.EncodeSpec
import RoaringModel.Lemmas.CodecKernel
import RoaringModel.Lemmas.Canonical
import RoaringModel.Lemmas.SpecRoundTrip
import RoaringModel.Lemmas.TreemapCodec
import RoaringModel.Lemmas.TreemapEncodeSpec
import RoaringModel.Lemmas.TreemapCodecWF
import RoaringModel.Lemmas.FidelityCodec
import RoaringModel.Lemmas.Concrete
/-!
# C05 — serialization is exact, deterministic and format-conformant (32-bit half)
-/
namespace Roaring.C05
open Roaring Roaring.Parser

/-- `serialize_into` writes exactly `serialized_size()` bytes. -/
theorem C05_size (b : Bitmap) (h : Bitmap.WF b) : (Bitmap.serialize b).length = Bitmap.serializedSize b :=
  Bitmap.serialize_length b h.toCodec

/-- Decoding the output with `deserialize_from` (`chk = true`) or `deserialize_unchecked_from` (`chk = false`),
    in either build configuration, returns a value structurally equal to the original (hence `==`), and
    leaves untouched whatever follows the serialisation in the stream. -/
theorem C05_decode (chk dbg : Bool) (b : Bitmap) (h : Bitmap.WF b) (rest : List Nat) :
    deserialize chk dbg (Bitmap.serialize b ++ rest) = .ok (b, rest) :=
  deserialize_serialize chk dbg b h.toCodec rest

/-- the derived `==` of the model agrees: a value equals itself -/
theorem C05_decode_eq (chk dbg : Bool) (b : Bitmap) (h : Bitmap.WF b) :
    ∃ b', deserialize chk dbg (Bitmap.serialize b) = .ok (b', []) ∧ b' = b := by
  refine ⟨b, ?_, rfl⟩
  have := C05_decode chk dbg b h []
  simpa using this

/-- The bytes are the standard (run-free) Roaring encoding **determined by the element set alone**: they equal
    the independent reference encoder `Spec.encode` (written from the format specification, cross-validated
    against the upstream golden files) applied to `elems b`.  Determinism and format conformance in one
    statement.  (That a bitset chunk's words list exactly its values is `bitmap_toArray`,
    `Lemmas/CodecKernel.lean`.) -/
theorem C05_bytes (b : Bitmap) (h : Bitmap.WF b) : Bitmap.serialize b = Spec.encode (Bitmap.elems b) :=
  serialize_eq_encode b h.toCodec

def C05_bytes_statement : Prop := ∀ b : Bitmap, Bitmap.WF b → Bitmap.serialize b = Spec.encode (Bitmap.elems b)

theorem C05_bytes_statement_holds : C05_bytes_statement := C05_bytes

/-- two values with the same elements serialise to the same bytes (history-independence): the bytes are a
    function of the element list alone … -/
theorem C05_deterministic (a b : Bitmap) (ha : Bitmap.WF a) (hb : Bitmap.WF b)
    (he : Bitmap.elems a = Bitmap.elems b) : Bitmap.serialize a = Bitmap.serialize b := by
  rw [C05_bytes a ha, C05_bytes b hb, he]

/-- … and indeed (canonical form, `Bitmap.canonical`) the two values are the same representation. -/
theorem C05_deterministic_repr (a b : Bitmap) (ha : Bitmap.WF a) (hb : Bitmap.WF b)
    (he : Bitmap.elems a = Bitmap.elems b) : a = b := Bitmap.canonical a b ha hb he

/-- conversely, equal bytes ⇒ equal values: serialisation is injective on well-formed values -/
theorem C05_injective (a b : Bitmap) (ha : Bitmap.WF a) (hb : Bitmap.WF b)
    (he : Bitmap.serialize a = Bitmap.serialize b) : a = b := by
  have h1 := C05_decode true false a ha []
  have h2 := C05_decode true false b hb []
  rw [he, h2] at h1
  simp only [Except.ok.injEq, Prod.mk.injEq, and_true] at h1
  exact h1.symm

/-- Format conformance, decoder side: the strict reference decoder (written from the format specification)
    accepts the output — cookie, size, strictly ascending keys, declared cardinalities, an offset table with the
    true payload positions, strictly ascending array payloads, bitset payloads of the declared cardinality — and
    reads back exactly the value's elements, leaving what follows. -/
theorem C05_conformant (b : Bitmap) (h : Bitmap.WF b) (rest : List Nat) :
    Spec.decode (Bitmap.serialize b ++ rest) = some (Bitmap.elems b, rest) :=
  specDecode_serialize b h.toCodec rest

/-- consequently the reference codec round-trips on the element list of every well-formed value: the two halves
    of `SpecCodec.lean` (encoder and strict decoder, written independently of the model) agree with each other -/
theorem C05_spec_roundtrip (b : Bitmap) (h : Bitmap.WF b) (rest : List Nat) :
    Spec.decode (Spec.encode (Bitmap.elems b) ++ rest) = some (Bitmap.elems b, rest) := by
  rw [← C05_bytes b h]; exact C05_conformant b h rest

/-- the output is a byte string (every entry `< 256`), for every value -/
theorem C05_is_bytes (b : Bitmap) : ∀ x ∈ Bitmap.serialize b, x < 256 := serialize_isBytes b

/-- concrete agreement (no hypothesis): a two-chunk value -/
example : Bitmap.serialize [{ key := 0, store := .array [1, 5, 65535] }, { key := 65535, store := .array [0] }]
    = Spec.encode [1, 5, 65535, 4294901760] := by decide +kernel

attribute [local instance] Concrete.decBitmapWF

/-- a two-chunk value with one array chunk and one chunk key at the top of the key space meets `Bitmap.WF` -/
example : Bitmap.WF [{ key := 0, store := .array [1, 5, 65535] }, { key := 65535, store := .array [0] }] := by
  decide

/-! ### the encoder the driver executes: `(container.len() - 1) as u16` in `u64` arithmetic (fidelity audit)

`Bitmap.serialize` writes the cardinality field with the truncated `Nat` subtraction `len - 1`; the Rust computes
`container.len() - 1` on `u64` (panic with overflow checks on / wrap to `0xFFFF` with them off when `len = 0`).
`Bitmap.serializeM ovf` (Ser.lean) has exactly that arithmetic; it is what `ser` / `dump` / `deser_prefix` of the driver
run.  For well-formed values (no empty container) the two coincide, in both build configurations. -/

/-- a well-formed value has no empty container -/
theorem wf_len_pos (b : Bitmap) (h : Bitmap.WF b) : ∀ c ∈ b, 1 ≤ c.len := Fidelity.wf_len_pos b h

theorem C05_serialize_mirror_eq (ovf : Bool) (b : Bitmap) (h : Bitmap.WF b) :
    Bitmap.serializeM ovf b = some (Bitmap.serialize b) :=
  Fidelity.serializeM_eq ovf b (wf_len_pos b h)

/-- **C05_bytes / C05_size for the executed encoder**: no panic in either build configuration, the bytes are the
    reference encoding of the element set, and their number is `serialized_size()`. -/
theorem C05_bytes_mirror (ovf : Bool) (b : Bitmap) (h : Bitmap.WF b) :
    Bitmap.serializeM ovf b = some (Spec.encode (Bitmap.elems b)) ∧
    (Spec.encode (Bitmap.elems b)).length = Bitmap.serializedSize b := by
  rw [C05_serialize_mirror_eq ovf b h, ← C05_bytes b h]
  exact ⟨rfl, C05_size b h⟩

/-- **round trip for the executed encoder** -/
theorem C05_decode_mirror (ovf chk dbg : Bool) (b : Bitmap) (h : Bitmap.WF b) (rest : List Nat) :
    ∃ bytes, Bitmap.serializeM ovf b = some bytes ∧ deserialize chk dbg (bytes ++ rest) = .ok (b, rest) :=
  ⟨Bitmap.serialize b, C05_serialize_mirror_eq ovf b h, C05_decode chk dbg b h rest⟩

/-- concrete: the executed encoder on a two-chunk value, both build configurations -/
example : ∀ ovf, Bitmap.serializeM ovf [{ key := 0, store := .array [1, 5, 65535] }, { key := 65535, store := .array [0] }]
    = some (Spec.encode [1, 5, 65535, 4294901760]) := by decide +kernel

end Roaring.C05

/-!
# C05, 64-bit half — `RoaringTreemap` (treemap/serialization.rs)

Lifted from the 32-bit theorems above through the bucket loop (`Lemmas/TreemapCodec.lean`,
`Lemmas/TreemapEncodeSpec.lean`, instantiated at `Bitmap.WF` in `Lemmas/TreemapCodecWF.lean`); nothing about
the 32-bit format is re-proved.  Well-formed treemap = `Treemap.WFd Bitmap.WF` (`Treemap.TWF`, the invariant of
every other treemap family: partition keys strictly ascending `u32`s, every partition a `Bitmap.WF` value with
an element); it is equivalent to the codec's own `Treemap.SerWF Bitmap.WF` ("… and not the empty bitmap").
-/
namespace Roaring.C05
open Roaring Roaring.Parser

/-- well-formed treemap (the shared invariant `Treemap.TWF`) -/
abbrev TreemapWF (t : Treemap) : Prop := Treemap.WFd Bitmap.WF t

/-- the codec's view of the invariant: keys strictly ascending `u32`s, every partition `Bitmap.WF` and not the
    empty bitmap -/
theorem C05_t_wf_iff (t : Treemap) : TreemapWF t ↔ Treemap.SerWF Bitmap.WF t := (Treemap.serWF_iff t).symm

/-- `serialize_into` writes exactly `serialized_size()` bytes. -/
theorem C05_t_size (t : Treemap) (h : Treemap.WFd Bitmap.WF t) :
    (Treemap.serialize t).length = Treemap.serializedSize t :=
  Treemap.serialize_length t (fun p hp => C05_size p.2 (h.parts p hp).2.1)

/-- The bytes are a `u64` partition count followed by (`u32` key, 32-bit stream) pairs in strictly ascending
    key order, every 32-bit stream being the standard encoding of the partition (`C05_bytes`). -/
theorem C05_t_framing (t : Treemap) (h : Treemap.WFd Bitmap.WF t) :
    Treemap.serialize t = u64le t.length ++ t.flatMap (fun p => u32le p.1 ++ Bitmap.serialize p.2) ∧
    (t.map (·.1)).Pairwise (· < ·) ∧ leVal (u64le t.length) = t.length ∧
    (∀ p ∈ t, leVal (u32le p.1) = p.1) ∧
    ∀ p ∈ t, Bitmap.serialize p.2 = Spec.encode (Bitmap.elems p.2) :=
  ⟨rfl, h.sorted, leVal_u64le _ (by have := h.length_le; omega), fun p hp => leVal_u32le _ (h.parts p hp).1,
   fun p hp => C05_bytes p.2 (h.parts p hp).2.1⟩

/-- Decoding the output with `deserialize_from` (`chk = true`) or `deserialize_unchecked_from` (`chk = false`),
    in either build configuration, returns a value structurally equal to the original (hence `==`), and
    leaves untouched whatever follows the serialisation in the stream. -/
theorem C05_t_decode (chk dbg : Bool) (t : Treemap) (h : Treemap.WFd Bitmap.WF t) (rest : List Nat) :
    Treemap.deserialize chk dbg (Treemap.serialize t ++ rest) = .ok (t, rest) :=
  Treemap.deserialize_serialize_wf chk dbg t h rest

theorem C05_t_decode_eq (chk dbg : Bool) (t : Treemap) (h : Treemap.WFd Bitmap.WF t) :
    ∃ t', Treemap.deserialize chk dbg (Treemap.serialize t) = .ok (t', []) ∧ t' = t := by
  refine ⟨t, ?_, rfl⟩
  have := C05_t_decode chk dbg t h []
  simpa using this

attribute [local instance] Concrete.decTreemapWF

/-- a treemap with the lowest and the highest partition key meets `TreemapWF` -/
example : TreemapWF [(0, [{ key := 0, store := .array [1, 5, 65535] }]),
                     (4294967295, [{ key := 65535, store := .array [0] }])] := by
  decide

/-- concrete bytes (no hypothesis): count 2, key 0 + stream, key `u32::MAX` + stream -/
example : Treemap.serialize [(0, [{ key := 0, store := .array [5] }]), (4294967295, [{ key := 0, store := .array [5] }])]
    = [2, 0, 0, 0, 0, 0, 0, 0,
       0, 0, 0, 0, 58, 48, 0, 0, 1, 0, 0, 0, 0, 0, 0, 0, 16, 0, 0, 0, 5, 0,
       255, 255, 255, 255, 58, 48, 0, 0, 1, 0, 0, 0, 0, 0, 0, 0, 16, 0, 0, 0, 5, 0] := by decide +kernel

/-- The treemap bytes are the reference encoding of the 64-bit portable format (`Spec.encode64`, written from the
    format description: `u64` count, ascending `u32` keys each followed by the standard 32-bit encoding of the low
    halves) **determined by the element set alone**.  The 32-bit layer is `C05_bytes`; the 64-bit
    layer (bucket keys = distinct high halves, bucket contents = low halves, count) is proved in
    `Lemmas/TreemapEncodeSpec.lean`. -/
theorem C05_t_bytes (t : Treemap) (h : Treemap.WFd Bitmap.WF t) :
    Treemap.serialize t = Spec.encode64 (Treemap.elems t) :=
  Treemap.serialize_eq_encode64 t h.partsOK h.sorted (fun p hp => C05_bytes p.2 (h.parts p hp).2.1)

def C05_t_bytes_statement : Prop :=
  ∀ t : Treemap, Treemap.WFd Bitmap.WF t → Treemap.serialize t = Spec.encode64 (Treemap.elems t)

theorem C05_t_bytes_statement_holds : C05_t_bytes_statement := C05_t_bytes

/-- two treemaps with the same elements serialise to the same bytes (history-independence): the bytes are a
    function of the element list alone … -/
theorem C05_t_deterministic (a b : Treemap) (ha : Treemap.WFd Bitmap.WF a) (hb : Treemap.WFd Bitmap.WF b)
    (he : Treemap.elems a = Treemap.elems b) : Treemap.serialize a = Treemap.serialize b := by
  rw [C05_t_bytes a ha, C05_t_bytes b hb, he]

/-- … and indeed (canonical form, `Treemap.canonical`) the two values are the same representation. -/
theorem C05_t_deterministic_repr (a b : Treemap) (ha : Treemap.WFd Bitmap.WF a) (hb : Treemap.WFd Bitmap.WF b)
    (he : Treemap.elems a = Treemap.elems b) : a = b := Treemap.canonical a b ha hb he

/-- conversely, equal bytes ⇒ equal values: serialisation is injective on well-formed treemaps -/
theorem C05_t_injective (a b : Treemap) (ha : Treemap.WFd Bitmap.WF a) (hb : Treemap.WFd Bitmap.WF b)
    (he : Treemap.serialize a = Treemap.serialize b) : a = b := by
  have h1 := C05_t_decode true false a ha []
  have h2 := C05_t_decode true false b hb []
  rw [he, h2] at h1
  simp only [Except.ok.injEq, Prod.mk.injEq, and_true] at h1
  exact h1.symm

/-- the output is accepted by the strict reference decoder of the portable format, which reads back exactly the
    value's elements and leaves what follows -/
theorem C05_t_conformant (t : Treemap) (h : Treemap.WFd Bitmap.WF t) (rest : List Nat) :
    Spec.decode64 (Treemap.serialize t ++ rest) = some (Treemap.elems t, rest) :=
  Treemap.specDecode64_serialize t h rest

/-- concrete agreement (no hypothesis): partitions 0 and `u32::MAX` -/
example : Treemap.serialize [(0, [{ key := 0, store := .array [1, 5] }]), (4294967295, [{ key := 65535, store := .array [65535] }])]
    = Spec.encode64 [1, 5, 18446744073709551615] := by decide +kernel

/-! ### the treemap encoder the driver executes (fidelity audit): inner 32-bit streams through `Bitmap.serializeM` -/

/-- For a well-formed treemap the executed encoder does not panic in either build
    configuration and emits the bytes of `Treemap.serialize` (= `Spec.encode64 (elems t)` by `C05_t_bytes`). -/
theorem C05_t_serialize_mirror_eq (ovf : Bool) (t : Treemap) (h : Treemap.WFd Bitmap.WF t) :
    Treemap.serializeM ovf t = some (Treemap.serialize t) :=
  Fidelity.tserializeM_eq ovf t (fun p hp => wf_len_pos p.2 (h.parts p hp).2.1)

theorem C05_t_bytes_mirror (ovf : Bool) (t : Treemap) (h : Treemap.WFd Bitmap.WF t) :
    Treemap.serializeM ovf t = some (Spec.encode64 (Treemap.elems t)) := by
  rw [C05_t_serialize_mirror_eq ovf t h, C05_t_bytes t h]

end Roaring.C05
