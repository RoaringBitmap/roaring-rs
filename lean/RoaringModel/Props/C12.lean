import RoaringModel.Lemmas.TreemapIterAdvance
import RoaringModel.Lemmas.TreemapIntoIter
import RoaringModel.Lemmas.TreemapIter32
import RoaringModel.Lemmas.TreemapIterFold
import RoaringModel.SpecCursor64
/-!
# C12 — 64-bit iteration is an exact ascending double-ended cursor (property theorems)

The model of `treemap::Iter` (TreemapIter.lean) is parametrised by the inner 32-bit iterator `K : Inner`.
The `_partial` theorems hold for **every** `K` that satisfies the C03 cursor specification `S : InnerSpec K`
(`rem`/`Inv` with `next = pop front`, `next_back = pop back`, `advance_to n = filter (n ≤ ·)`,
`advance_back_to n = filter (· ≤ n)`, exact `size_hint`).  The theorems without suffix (`C12_init`, `C12_step`,
`C12_sizeHint`, `C12_history`, `C12_intoIter`) are **unconditional**: they are about `K32 = Inner.iter32`, the
mirrored `bitmap::Iter` / `bitmap::IntoIter` model the driver runs, with `S32 = InnerSpec.iter32` proved from
the C03 theorems (Lemmas/TreemapIter32.lean), for every treemap whose partitions are `Bitmap.WF` (`TWF`).  The
abstraction is `Iter.rem = rem front ++ values of the untouched partitions ++ rem back`.
After them: `C12_intoIter_fold` / `C12_intoIter_fold_new` (the specialised `IntoIter::fold` / `rfold` / `len` equal the
loops over `next` / `next_back`) and `C12_bitmaps` (the partition iterator).
-/
namespace Roaring.C12
open Roaring Roaring.TL Roaring.Treemap Roaring.TIter

variable {K : Inner} (S : InnerSpec K)

/-- calls on the borrowing iterator -/
inductive ItOp where
  | next | nextBack | advanceTo (n : Nat) | advanceBackTo (n : Nat)

/-- arguments are `u64` -/
def ItOp.Valid : ItOp → Prop
  | .advanceTo n => n < 18446744073709551616
  | .advanceBackTo n => n < 18446744073709551616
  | _ => True

/-- MODEL step -/
def stepM (it : TIter.Iter K) : ItOp → TIter.Iter K × Option Nat
  | .next => it.next
  | .nextBack => it.nextBack
  | .advanceTo n => (it.advanceTo n, none)
  | .advanceBackTo n => (it.advanceBackTo n, none)

/-- SPEC step: a cursor is the ascending list of remaining values -/
def stepS (s : List Nat) : ItOp → List Nat × Option Nat
  | .next => Spec.Cursor64.next s
  | .nextBack => Spec.Cursor64.nextBack s
  | .advanceTo n => (Spec.Cursor64.advanceTo s n, none)
  | .advanceBackTo n => (Spec.Cursor64.advanceBackTo s n, none)

/-- `iter()` starts as a cursor over all values of the treemap. -/
theorem C12_init_partial (t : Treemap) (hw : WFd S.WF t) :
    (TIter.Iter.new (K := K) t).Inv S ∧ (TIter.Iter.new (K := K) t).rem S = elems t := TIter.Iter.new_spec S hw

/-- Every call acts on the remaining values exactly as the specification cursor does: `next` / `next_back`
    pop the smallest / largest remaining value, `advance_to(n)` discards exactly the remaining values `< n`,
    `advance_back_to(n)` exactly those `> n` — whether or not the partition of `n` exists, and wherever the
    two ends currently are. -/
theorem C12_step_partial (it : TIter.Iter K) (h : it.Inv S) (op : ItOp) (hv : op.Valid) :
    (stepM it op).1.Inv S ∧ (stepM it op).1.rem S = (stepS (it.rem S) op).1 ∧
      (stepM it op).2 = (stepS (it.rem S) op).2 := by
  cases op with
  | next => exact TIter.Iter.next_spec S it h
  | nextBack => exact TIter.Iter.nextBack_spec S it h
  | advanceTo n => exact (TIter.Iter.advanceTo_spec S it h n hv).imp_right fun e => ⟨e, rfl⟩
  | advanceBackTo n => exact (TIter.Iter.advanceBackTo_spec S it h n hv).imp_right fun e => ⟨e, rfl⟩

/-- `size_hint()` is exact in both components (the count of a treemap that fits in memory fits `usize`). -/
theorem C12_sizeHint_partial (it : TIter.Iter K) (h : it.Inv S) (hfit : (it.rem S).length ≤ TIter.usizeMax) :
    it.sizeHint = Spec.Cursor64.sizeHint (it.rem S) := TIter.Iter.sizeHint_spec S it h hfit

/-- run a script, collecting the results -/
def runM (it : TIter.Iter K) : List ItOp → TIter.Iter K × List (Option Nat)
  | [] => (it, [])
  | op :: ops => let r := stepM it op; let q := runM r.1 ops; (q.1, r.2 :: q.2)
def runS (s : List Nat) : List ItOp → List Nat × List (Option Nat)
  | [] => (s, [])
  | op :: ops => let r := stepS s op; let q := runS r.1 ops; (q.1, r.2 :: q.2)

/-- Any interleaving of calls on `iter()` returns exactly what the specification cursor over the sorted
    values returns (so: ascending from the front, descending from the back, each value at most once across
    both ends), and leaves exactly the specified remaining values. -/
theorem C12_history_partial (t : Treemap) (hw : WFd S.WF t) (ops : List ItOp) (hv : ∀ op ∈ ops, op.Valid) :
    (runM (TIter.Iter.new (K := K) t) ops).1.Inv S ∧
    (runM (TIter.Iter.new (K := K) t) ops).1.rem S = (runS (elems t) ops).1 ∧
    (runM (TIter.Iter.new (K := K) t) ops).2 = (runS (elems t) ops).2 := by
  obtain ⟨h0, hr0⟩ := C12_init_partial S t hw
  rw [← hr0]
  generalize TIter.Iter.new (K := K) t = it at h0 ⊢
  induction ops generalizing it with
  | nil => exact ⟨h0, rfl, rfl⟩
  | cons op ops ih =>
    obtain ⟨h1, h2, h3⟩ := C12_step_partial S it h0 op (hv op (by simp))
    obtain ⟨i1, i2, i3⟩ := ih (fun o ho => hv o (List.mem_cons_of_mem _ ho)) _ h1
    simp only [runM, runS]
    rw [← h2, ← h3]
    exact ⟨i1, i2, by rw [i3]⟩

/-- `into_iter()` starts on all values; `next` / `next_back` pop the smallest / largest remaining value and
    the decremented size counter stays exact, so `size_hint()` is exact in both components. -/
theorem C12_intoIter_partial (t : Treemap) (hw : WFd S.WF t) :
    (IntoIter.new (K := K) t).Inv S ∧ (IntoIter.new (K := K) t).rem S = elems t ∧
    (∀ it : IntoIter K, it.Inv S →
      (it.next.1.Inv S ∧ it.next.1.rem S = (Spec.Cursor64.next (it.rem S)).1 ∧ it.next.2 = (Spec.Cursor64.next (it.rem S)).2) ∧
      (it.nextBack.1.Inv S ∧ it.nextBack.1.rem S = (Spec.Cursor64.nextBack (it.rem S)).1 ∧
        it.nextBack.2 = (Spec.Cursor64.nextBack (it.rem S)).2) ∧
      ((it.rem S).length < TIter.usizeMax →
        it.sizeHintPair = (Spec.Cursor64.sizeHint (it.rem S), some (Spec.Cursor64.sizeHint (it.rem S))))) :=
  ⟨(IntoIter.new_spec S hw).1, (IntoIter.new_spec S hw).2, fun it h =>
    ⟨IntoIter.next_spec S it h, IntoIter.nextBack_spec S it h, IntoIter.sizeHint_spec S it h⟩⟩

/-! ### unconditional forms: the mirrored 32-bit iterator as the inner cursor -/

/-- the inner cursor of the executable model: the mirrored `bitmap::Iter` / `bitmap::IntoIter` (Iter.lean) -/
abbrev K32 : Inner := Inner.iter32
/-- the C03 cursor laws for it, proved from `C03_init` / `C03_step` -/
abbrev S32 : InnerSpec K32 := InnerSpec.iter32

theorem C12_init (t : Treemap) (hw : TWF t) :
    (TIter.Iter.new (K := K32) t).Inv S32 ∧ (TIter.Iter.new (K := K32) t).rem S32 = elems t :=
  C12_init_partial S32 t hw

/-- Every call acts on the remaining values exactly as the specification cursor does (see `C12_step_partial`),
    for all iterator states and all `u64` arguments. -/
theorem C12_step (it : TIter.Iter K32) (h : it.Inv S32) (op : ItOp) (hv : op.Valid) :
    (stepM it op).1.Inv S32 ∧ (stepM it op).1.rem S32 = (stepS (it.rem S32) op).1 ∧
      (stepM it op).2 = (stepS (it.rem S32) op).2 := C12_step_partial S32 it h op hv

/-- `size_hint()` is exact in both components. -/
theorem C12_sizeHint (it : TIter.Iter K32) (h : it.Inv S32) (hfit : (it.rem S32).length ≤ TIter.usizeMax) :
    it.sizeHint = Spec.Cursor64.sizeHint (it.rem S32) := C12_sizeHint_partial S32 it h hfit

/-- Any interleaving of calls on `iter()` of a well-formed treemap returns exactly what the specification
    cursor over its sorted values returns, and leaves exactly the specified remaining values. -/
theorem C12_history (t : Treemap) (hw : TWF t) (ops : List ItOp) (hv : ∀ op ∈ ops, op.Valid) :
    (runM (TIter.Iter.new (K := K32) t) ops).1.Inv S32 ∧
    (runM (TIter.Iter.new (K := K32) t) ops).1.rem S32 = (runS (elems t) ops).1 ∧
    (runM (TIter.Iter.new (K := K32) t) ops).2 = (runS (elems t) ops).2 := C12_history_partial S32 t hw ops hv

/-- `into_iter()`: starts on all values; `next` / `next_back` pop the two ends; exact `size_hint()`. -/
theorem C12_intoIter (t : Treemap) (hw : TWF t) :
    (IntoIter.new (K := K32) t).Inv S32 ∧ (IntoIter.new (K := K32) t).rem S32 = elems t ∧
    (∀ it : IntoIter K32, it.Inv S32 →
      (it.next.1.Inv S32 ∧ it.next.1.rem S32 = (Spec.Cursor64.next (it.rem S32)).1 ∧
        it.next.2 = (Spec.Cursor64.next (it.rem S32)).2) ∧
      (it.nextBack.1.Inv S32 ∧ it.nextBack.1.rem S32 = (Spec.Cursor64.nextBack (it.rem S32)).1 ∧
        it.nextBack.2 = (Spec.Cursor64.nextBack (it.rem S32)).2) ∧
      ((it.rem S32).length < TIter.usizeMax →
        it.sizeHintPair = (Spec.Cursor64.sizeHint (it.rem S32), some (Spec.Cursor64.sizeHint (it.rem S32))))) :=
  C12_intoIter_partial S32 t hw

/-- **The specialised `IntoIter::fold` / `rfold` / `len`** (iter.rs:328, 344, 353 — what the driver runs for `jfold`,
    `jrfold`, `jlen` on an owning iterator; *not* loops over `next`): in every reachable state, `fold` visits exactly
    the remaining values in ascending order and `rfold` in descending order, for every closure and initial value
    (the values are rebuilt with `+`, not `|`); both equal the default `next()` / `next_back()` loops
    (`IntoIter.foldNext` / `rfoldNextBack`, any sufficient fuel); `len()` (`size_hint as usize`) is the exact
    number of remaining values and agrees with `size_hint().0`. -/
theorem C12_intoIter_fold {β : Type} (it : IntoIter K32) (h : it.Inv S32) (init : β) (f : β → Nat → β) :
    it.fold init f = (it.rem S32).foldl f init ∧
    it.rfold init f = (it.rem S32).reverse.foldl f init ∧
    (∀ fuel, (it.rem S32).length ≤ fuel → it.fold init f = IntoIter.foldNext f fuel it init) ∧
    (∀ fuel, (it.rem S32).length ≤ fuel → it.rfold init f = IntoIter.rfoldNextBack f fuel it init) ∧
    ((it.rem S32).length < 18446744073709551616 →
      it.exactLen = (it.rem S32).length ∧ it.exactLen = it.sizeHintPair.1) :=
  ⟨IntoIter.fold_spec it h init f, IntoIter.rfold_spec it h init f,
   fun fuel hf => IntoIter.fold_mirror_eq it h init f fuel hf,
   fun fuel hf => IntoIter.rfold_mirror_eq it h init f fuel hf,
   fun hfit => ⟨IntoIter.exactLen_spec S32 it h hfit, IntoIter.exactLen_eq it (by rw [h.size]; exact hfit)⟩⟩

/-- from a fresh `into_iter()`: `fold` visits all values of the treemap ascending, `rfold` descending -/
theorem C12_intoIter_fold_new {β : Type} (t : Treemap) (hw : TWF t) (init : β) (f : β → Nat → β) :
    (IntoIter.new (K := K32) t).fold init f = (elems t).foldl f init ∧
    (IntoIter.new (K := K32) t).rfold init f = (elems t).reverse.foldl f init := by
  obtain ⟨h1, h2, _⟩ := C12_intoIter t hw
  have := C12_intoIter_fold (IntoIter.new (K := K32) t) h1 init f
  rw [h2] at this
  exact ⟨this.1, this.2.1⟩

/-- `bitmaps()` yields the partitions in key order from the front and in reverse from the back. -/
theorem C12_bitmaps (t : Treemap) :
    (PIter.new t).range = t ∧
    (∀ p : PIter, p.next = ({ p with range := p.range.tail }, p.range.head?)) ∧
    (∀ p : PIter, p.nextBack = ({ p with range := p.range.dropLast }, p.range.getLast?)) :=
  ⟨range_unb t, fun _ => rfl, fun _ => rfl⟩

/-! ### non-vacuity: the hypothesis is satisfiable and a three-partition treemap meets `WFd` -/

/-- a 32-bit invariant under which the list cursor satisfies `InnerSpec` -/
def wfEx (b : Bitmap) : Prop := (∀ x ∈ Bitmap.elems b, x < 4294967296) ∧ Bitmap.len b = (Bitmap.elems b).length

def specEx : InnerSpec Inner.list := InnerSpec.list wfEx (fun _ h => h.1) (fun _ h => h.2)

def bEx (vs : List Nat) : Bitmap := [{ key := 0, store := .array vs }]
/-- `{1, 5, 2^33+3, 2^33+50, 2^34+7}` (the D5 value): partitions 0, 2, 4 -/
def tEx : Treemap := [(0, bEx [1, 5]), (2, bEx [3, 50]), (4, bEx [7])]

example : WFd specEx.WF tEx := by
  refine ⟨by decide, ?_⟩
  intro p hp
  simp only [tEx, List.mem_cons, List.not_mem_nil, or_false] at hp
  rcases hp with rfl | rfl | rfl <;>
    exact ⟨by decide, ⟨by decide, by decide⟩, by decide⟩

example : elems tEx = [1, 5, 8589934595, 8589934642, 17179869191] := by decide +kernel

/-- the first D5 shape, on the model: `advance_to(2^32+10)` keeps `2^33+3` -/
example : ((TIter.Iter.new (K := Inner.list) tEx).advanceTo 4294967306).next.2 = some 8589934595 := by decide +kernel

/-- the same treemap meets the hypothesis of the unconditional theorems … -/
theorem tEx_TWF : TWF tEx := by
  refine ⟨by decide, ?_⟩
  intro p hp
  simp only [tEx, List.mem_cons, List.not_mem_nil, or_false] at hp
  rcases hp with rfl | rfl | rfl <;>
    exact ⟨by decide, ⟨by decide, List.forall_mem_singleton.2
      ⟨by decide, ⟨by unfold Roaring.Sorted; decide, by decide⟩, by decide, by decide⟩⟩, by decide⟩
/-- … and the same call on the mirrored 32-bit iterator -/
example : ((TIter.Iter.new (K := K32) tEx).advanceTo 4294967306).next.2 = some 8589934595 := by decide +kernel
/-- non-vacuity of `C12_intoIter_fold`: after one `next` and one `next_back` on `into_iter()`, the specialised
    `fold` / `rfold` collect the three values in between, and `len()` is 3 -/
example : ((IntoIter.new (K := K32) tEx).next.1.nextBack.1).fold [] (fun acc v => acc ++ [v]) =
      [5, 8589934595, 8589934642] ∧
    ((IntoIter.new (K := K32) tEx).next.1.nextBack.1).rfold [] (fun acc v => acc ++ [v]) =
      [8589934642, 8589934595, 5] ∧
    ((IntoIter.new (K := K32) tEx).next.1.nextBack.1).exactLen = 3 := by decide +kernel

end Roaring.C12
