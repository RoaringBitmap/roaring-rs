import RoaringModel.Lemmas.CIterLemmas
import RoaringModel.Lemmas.IterRangeLemmas
import RoaringModel.Lemmas.SpecIterLemmas
import RoaringModel.Inv
/-!
# C03 — 32-bit iteration is an exact ascending double-ended cursor (property theorems)

MODEL: `Roaring.Iter` (RoaringModel/Iter.lean, one model for `bitmap::Iter` and `bitmap::IntoIter`),
`Iter.step` (RoaringModel/IterStep.lean).  SPEC: `Spec.Cursor` (RoaringModel/SpecIter.lean): a cursor is the
list of remaining elements.  Abstraction: `Iter.rem` (Lemmas/IterDefs.lean).

Every theorem below is unconditional in the container-level kernel: `cKernel : CKernel` is proved in
`Lemmas/CIterLemmas.lean` from the `BitmapIter` lemmas (`Lemmas/BIterCore.lean`) and the sorted-vector facts
(`Lemmas/ArrFacts.lean`).
-/
namespace Roaring.C03
open Roaring Spec

/-- what iteration needs of a bitmap value (implied by `Bitmap.WF`): ascending `u16` chunk keys; array chunks
    strictly ascending `u16`s; bitset chunks of 1024 `u64` words with a correct cached cardinality -/
def BitmapOK (b : Bitmap) : Prop := b.IterOK ∧ ∀ c ∈ b, c.key < 65536

/-- iterator states: the structural invariant `Iter.Inv`, and the remaining values are `u32`s -/
def IterWF (it : Iter) : Prop := it.Inv ∧ ∀ x ∈ it.rem, x ≤ u32Max

theorem C03_elems_u32 (b : Bitmap) (h : BitmapOK b) : ∀ x ∈ Bitmap.elems b, x ≤ u32Max :=
  fun x hx => Nat.le_of_lt_succ ((Nat.div_lt_iff_lt_mul (by decide)).mp
    (Iter.mid_hi h.1.2 (· < 65536) h.2 x hx))

/-- **init.** `iter()` / `into_iter()` start as a cursor over exactly the elements of the bitmap. -/
theorem C03_init (b : Bitmap) (h : BitmapOK b) :
    IterWF (Bitmap.iter b) ∧ (Bitmap.iter b).rem = Bitmap.elems b := by
  obtain ⟨h1, h2⟩ := Iter.iter_spec b h.1
  exact ⟨⟨h1, by rw [h2]; exact C03_elems_u32 b h⟩, h2⟩

/-- **the shared well-formedness implies the local hypothesis.** `Bitmap.WF` (`RoaringModel/Inv.lean`: the invariant
    every C01/C02/C09/… producer theorem establishes) contains everything `BitmapOK` asks for; the 4096 threshold and
    non-emptiness of chunks are simply not needed for iteration. -/
theorem C03_BitmapOK_of_WF (b : Bitmap) (h : b.WF) : BitmapOK b := by
  refine ⟨⟨h.1, fun c hc => ?_⟩, fun c hc => (h.2 c hc).1⟩
  have hi : c.store.Inv := Store.wf_inv _ (h.2 c hc).2
  unfold Container.IterOK
  cases hst : c.store with
  | array v => rw [hst] at hi; exact hi
  | bitmap bs => rw [hst] at hi; exact (Store.inv_bitmap bs).1 hi

/-- `C03_init` for every well-formed value (every value reachable through the public API: C04 producer table) -/
theorem C03_init_WF (b : Bitmap) (h : b.WF) :
    IterWF (Bitmap.iter b) ∧ (Bitmap.iter b).rem = Bitmap.elems b :=
  C03_init b (C03_BitmapOK_of_WF b h)

/-- the bounds of a `RangeBounds<u32>` carry `u32` values -/
def BoundU32 : Bound → Prop
  | .incl v => v ≤ u32Max
  | .excl v => v ≤ u32Max
  | .unb => True

set_option linter.unusedVariables false in
/-- **range.** `range(r)` / `into_range(r)` panic exactly on the two documented inputs (start > end, or
    both excluded and equal) and otherwise start as a cursor over exactly the elements inside `r`. -/
theorem C03_range (b : Bitmap) (h : BitmapOK b) (lo hi : Bound) (hlo : BoundU32 lo) (hhi : BoundU32 hi) :
    (Bitmap.range b lo hi = none ↔ Spec.range (Bitmap.elems b) lo hi = none) ∧
    (∀ it, Bitmap.range b lo hi = some it →
      IterWF it ∧ Spec.range (Bitmap.elems b) lo hi = some it.rem ∧
      it.rem = (Bitmap.elems b).filter (fun x => decide (Bound.mem lo hi x))) := by
  have hU := C03_elems_u32 b h
  have key := Iter.range_spec b h.1 hU lo hi
    (by intro v hv; rcases hv with rfl | rfl <;> exact hhi)
  by_cases hinv : Bound.inverted lo hi = true
  · rw [show Spec.range (Bitmap.elems b) lo hi = none from if_pos hinv, (if_pos hinv).mp key]
    exact ⟨⟨fun _ => rfl, fun _ => rfl⟩, nofun⟩
  · obtain ⟨it, e, hit, hr⟩ := (if_neg hinv).mp key
    rw [show Spec.range (Bitmap.elems b) lo hi = some _ from if_neg hinv, e]
    refine ⟨⟨nofun, nofun⟩, fun it' e' => ?_⟩
    cases e'
    exact ⟨⟨hit, fun x hx => hU x (List.mem_filter.mp (hr ▸ hx)).1⟩, congrArg some hr.symm, hr⟩

/-- `C03_range` for every well-formed value -/
theorem C03_range_WF (b : Bitmap) (h : b.WF) (lo hi : Bound) (hlo : BoundU32 lo) (hhi : BoundU32 hi) :
    (Bitmap.range b lo hi = none ↔ Spec.range (Bitmap.elems b) lo hi = none) ∧
    (∀ it, Bitmap.range b lo hi = some it →
      IterWF it ∧ Spec.range (Bitmap.elems b) lo hi = some it.rem ∧
      it.rem = (Bitmap.elems b).filter (fun x => decide (Bound.mem lo hi x))) :=
  C03_range b (C03_BitmapOK_of_WF b h) lo hi hlo hhi

/-- exactness of `size_hint` needs `len ≤ usize::MAX`: a `u32` cursor has at most `2^32` elements -/
theorem C03_len_bound (it : Iter) (h : IterWF it) : it.rem.length ≤ usizeMax :=
  Nat.le_trans (Iter.length_le_of_sorted it.rem u32Max (Iter.rem_sorted it h.1) h.2) (by decide)

/-- `fold` with the recording closure returns the visited list -/
private theorem foldl_snoc (l : List Nat) : ∀ acc : List Nat, l.foldl (fun acc x => acc ++ [x]) acc = acc ++ l := by
  induction l with
  | nil => simp
  | cons a l ih => intro acc; simp [ih]

/-- **step.** Every iterator call acts on the remaining elements as the cursor operation of the
    specification, returns what the specification returns, and preserves well-formedness —
    for all states and all arguments. -/
theorem C03_step (it : Iter) (h : IterWF it) (op : ItOp) :
    IterWF (Iter.step it op).1 ∧
    (Iter.step it op).1.rem = (Cursor.step it.rem op).1 ∧
    (Iter.step it op).2 = (Cursor.step it.rem op).2 := by
  have sub : ∀ (it' : Iter), it'.Inv → it'.rem.Sublist it.rem → IterWF it' :=
    fun it' hi hs => ⟨hi, fun x hx => h.2 x (hs.subset hx)⟩
  cases op with
  | next =>
    obtain ⟨h1, h2, h3⟩ := Iter.next_spec it h.1
    exact ⟨sub it.next.1 h3 (h2 ▸ List.tail_sublist _), h2, congrArg ItOut.item h1⟩
  | nextBack =>
    obtain ⟨h1, h2, h3⟩ := Iter.nextBack_spec it h.1
    exact ⟨sub it.nextBack.1 h3 (h2 ▸ List.dropLast_sublist _), h2, congrArg ItOut.item h1⟩
  | nth n =>
    obtain ⟨h1, h2, h3⟩ := Iter.nth_spec it h.1 n
    exact ⟨sub (it.nth n).1 h3 (h2 ▸ List.drop_sublist _ _), h2.trans List.tail_drop.symm,
      congrArg ItOut.item (h1.trans List.head?_drop.symm)⟩
  | nthBack n =>
    obtain ⟨h1, h2, h3⟩ := Iter.nthBack_spec it h.1 n
    exact ⟨sub (it.nthBack n).1 h3 (h2 ▸ (List.dropLast_sublist _).trans (List.take_sublist _ _)), h2,
      congrArg ItOut.item h1⟩
  | advanceTo v =>
    obtain ⟨h1, h2⟩ := Iter.advanceTo_spec it h.1 v
    exact ⟨sub (it.advanceTo v) h2 (h1 ▸ List.filter_sublist), h1, rfl⟩
  | advanceBackTo v =>
    obtain ⟨h1, h2⟩ := Iter.advanceBackTo_spec it h.1 v
    exact ⟨sub (it.advanceBackTo v) h2 (h1 ▸ List.filter_sublist), h1, rfl⟩
  | sizeHint =>
    exact ⟨h, rfl, congrArg (fun p : Nat × Option Nat => ItOut.size p.1 p.2) (Iter.sizeHint_spec it h.1 (C03_len_bound it h))⟩
  | count => exact ⟨h, rfl, congrArg ItOut.num (Iter.count_spec it h.1)⟩
  | fold => exact ⟨h, rfl, congrArg ItOut.visited ((Iter.fold_spec it h.1 _ _).trans (foldl_snoc _ []))⟩
  | rfold => exact ⟨h, rfl, congrArg ItOut.visited ((Iter.rfold_spec it h.1 _ _).trans (foldl_snoc _ []))⟩

/-- **history.** Any finite interleaving of calls, from any well-formed state, is the specification's run on
    the remaining elements (induction over the call list). -/
theorem C03_history (ops : List ItOp) : ∀ (it : Iter), IterWF it →
    IterWF (Iter.run it ops).1 ∧
    (Iter.run it ops).1.rem = (Cursor.run it.rem ops).1 ∧
    (Iter.run it ops).2 = (Cursor.run it.rem ops).2 := by
  induction ops with
  | nil => intro it h; exact ⟨h, rfl, rfl⟩
  | cons op ops ih =>
    intro it h
    obtain ⟨s1, s2, s3⟩ := C03_step it h op
    obtain ⟨i1, i2, i3⟩ := ih _ s1
    simp only [Iter.run, Cursor.run]
    rw [← s2, ← s3]
    exact ⟨i1, i2, by rw [i3]⟩

/-- histories from `iter()` / `into_iter()`: the cursor starts on exactly the elements of the bitmap -/
theorem C03_history_iter (b : Bitmap) (h : BitmapOK b) (ops : List ItOp) :
    (Iter.run (Bitmap.iter b) ops).2 = (Cursor.run (Bitmap.elems b) ops).2 := by
  obtain ⟨h1, h2⟩ := C03_init b h
  rw [← h2]; exact (C03_history ops _ h1).2.2

/-- `C03_history_iter` for every well-formed value -/
theorem C03_history_iter_WF (b : Bitmap) (h : b.WF) (ops : List ItOp) :
    (Iter.run (Bitmap.iter b) ops).2 = (Cursor.run (Bitmap.elems b) ops).2 :=
  C03_history_iter b (C03_BitmapOK_of_WF b h) ops

/-- `fold` / `rfold` for *every* closure and initial value (the step theorem observes them through the
    recording closure) -/
theorem C03_fold_any {β : Type} (it : Iter) (h : IterWF it) (init : β) (f : β → Nat → β) :
    it.fold init f = Cursor.fold it.rem init f ∧ it.rfold init f = Cursor.rfold it.rem init f :=
  ⟨Iter.fold_spec it h.1 init f, Iter.rfold_spec it h.1 init f⟩

/-- `ExactSizeIterator::len()` never trips its assertion and is exact -/
theorem C03_len (it : Iter) (h : IterWF it) : it.len? = some it.rem.length :=
  Iter.len?_spec it h.1 (C03_len_bound it h)

/-- **ascending.** The remaining elements are strictly ascending, so `next` yields ascending and
    `next_back` descending values, each element once across both ends (they pop the two ends of one list). -/
theorem C03_ascending (it : Iter) (h : IterWF it) : it.rem.Pairwise (· < ·) :=
  Iter.rem_sorted it h.1

/-- **front drain.** `k` calls of `next` on `iter()` yield the `k` smallest elements in ascending order and
    `None` from then on; what remains is the rest of the element list. -/
theorem C03_drain_front (b : Bitmap) (h : BitmapOK b) (k : Nat) :
    (Iter.run (Bitmap.iter b) (List.replicate k .next)).2 =
      (List.range k).map (fun i => ItOut.item (Bitmap.elems b)[i]?) ∧
    (Iter.run (Bitmap.iter b) (List.replicate k .next)).1.rem = (Bitmap.elems b).drop k := by
  obtain ⟨h1, h2⟩ := C03_init b h
  obtain ⟨_, r1, r2⟩ := C03_history (List.replicate k .next) _ h1
  rw [h2, Cursor.run_next] at r1 r2
  exact ⟨r2, r1⟩

/-- **back drain.** `k` calls of `next_back` on `iter()` yield the `k` largest elements in descending order
    (and `None` from then on); what remains is the front part of the element list — so an element taken from
    one end is never seen from the other. -/
theorem C03_drain_back (b : Bitmap) (h : BitmapOK b) (k : Nat) :
    (Iter.run (Bitmap.iter b) (List.replicate k .nextBack)).2 =
      (List.range k).map (fun i => ItOut.item (Bitmap.elems b).reverse[i]?) ∧
    (Iter.run (Bitmap.iter b) (List.replicate k .nextBack)).1.rem =
      (Bitmap.elems b).take ((Bitmap.elems b).length - k) := by
  obtain ⟨h1, h2⟩ := C03_init b h
  obtain ⟨_, r1, r2⟩ := C03_history (List.replicate k .nextBack) _ h1
  rw [h2, Cursor.run_nextBack] at r1 r2
  exact ⟨r2, r1⟩

/-- **fused.** Once exhausted, every call keeps the cursor exhausted and yields `None` / `(0, Some(0))` / 0. -/
theorem C03_fused (it : Iter) (h : IterWF it) (he : it.rem = []) (op : ItOp) :
    (Iter.step it op).1.rem = [] ∧
    (Iter.step it op).2 = (Cursor.step [] op).2 := by
  obtain ⟨_, s2, s3⟩ := C03_step it h op
  rw [he] at s2 s3
  exact ⟨s2.trans (Cursor.step_nil op), s3⟩

/-! ### non-vacuity: a two-chunk bitmap with one array and one bitset chunk meets the hypotheses -/

/-- chunk 0: the array `{1, 5, 65535}`; chunk 1: the full bitset chunk -/
def exB : Bitmap := [⟨0, .array [1, 5, 65535]⟩, ⟨1, .bitmap BStore.full⟩]

/-- the value is well-formed in the shared sense (`Bitmap.WF`), so the `_WF` corollaries are not vacuous -/
private theorem exB_wf : exB.WF := by
  refine ⟨by decide, ?_⟩
  intro c hc
  simp only [exB, List.mem_cons, List.not_mem_nil, or_false] at hc
  rcases hc with rfl | rfl
  · exact ⟨by decide, ⟨by unfold Sorted; decide, by decide⟩, by decide, by decide⟩
  · exact ⟨by decide, BStore.inv_full, by decide⟩

private theorem exB_ok : BitmapOK exB := C03_BitmapOK_of_WF exB exB_wf

example : IterWF (Bitmap.iter exB) := (C03_init exB exB_ok).1
example : IterWF (Bitmap.iter exB) := (C03_init_WF exB exB_wf).1
example : ∃ it, IterWF it ∧ it.rem ≠ [] := by
  refine ⟨Bitmap.iter exB, (C03_init exB exB_ok).1, ?_⟩
  rw [(C03_init exB exB_ok).2]
  simp [exB, Bitmap.elems, Container.elems, Store.elems]
example : BoundU32 (.incl 5) ∧ BoundU32 (.excl 70000) :=
  ⟨by show 5 ≤ u32Max; decide, by show 70000 ≤ u32Max; decide⟩
example : ∃ it, IterWF it ∧ it.rem = [] := ⟨Bitmap.iter [], (C03_init [] ⟨⟨by decide, by simp⟩, by simp⟩).1, rfl⟩

end Roaring.C03
