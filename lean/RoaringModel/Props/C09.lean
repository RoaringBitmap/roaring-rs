import RoaringModel.Lemmas.MultiTop
import RoaringModel.Lemmas.MultiKernelProof
import RoaringModel.Lemmas.Concrete
/-!
# C09 — multi-operand operations equal the fold of the binary operation (property theorems)

MODEL: `RoaringModel/MultiOps.lean` (multiops.rs line by line).  SPEC: `Spec.multi`, `Spec.multiRes`
(`RoaringModel/SpecMulti.lean`).

Two groups, both unconditional:

* the `Result` laws that are pure control flow (error in the first item, first error anywhere for `∪`/`⊕`,
  "error or `∅`" for `∩`/`−`, the empty sequence);
* equality with the fold, for all well-formed operands (`Bitmap.WF`, `Inv.lean`).  Everything multiops.rs
  itself does — collection thresholds, the sort (any key-sorted permutation), the empty-first shortcut, the
  early return, `merge_container_owned/ref` with promotion and copy-on-write, the final clean-up — is proved in
  `Lemmas/Multi*.lean` relative to the record `Multi.Kernel` of facts about code multiops.rs merely calls (the
  four `Store` `|=` / `^=` impls, `Store::to_bitmap`, `ensure_correct_store`, "`iter()` of a valid store is
  ascending `u16`s", `is_empty ⇔ no elements`, and the three whole-bitmap `&=`, `&= &`, `-= &` of ops.rs).
  That record is inhabited by `Multi.kernel` (`Lemmas/MultiKernelProof.lean`): from the core library, the
  store-level theorems of the binary algebra (`Lemmas/StoreOps.lean`) and C02 (`C02_and_ao`, `C02_and_ar`,
  `C02_sub_ar`; the local copies of the
  three whole-bitmap operators in `MultiOps.lean` are proved equal to the `Ops.lean` functions).
-/
namespace Roaring.C09
open Roaring Roaring.Multi Roaring.Spec

variable {ε : Type}

/-! ## kernel-free `Result` laws -/

/-- **An error in the first item is returned** — every operation, owned items, every truthful `size_hint`. -/
theorem C09_error_at_0_owned (op : Op) (h : Hint) (e : ε) (r : List (Except ε Bitmap))
    (hh : Hint.Admissible h (Except.error e :: r).length) :
    tryMultiOwned op h (Except.error e :: r) = .error e := by
  cases op
  · exact tryMultiOrOwnedWith_err sortDesc_isSortDesc.perm hh rfl
  · exact andWith_err_first (f := andAssignOwned) hh
  · rfl
  · rfl

/-- … and for borrowed items. -/
theorem C09_error_at_0_ref (op : Op) (h : Hint) (e : ε) (r : List (Except ε Bitmap))
    (hh : Hint.Admissible h (Except.error e :: r).length) :
    tryMultiRef op h (Except.error e :: r) = .error e := by
  cases op
  · exact tryMultiOrRefWith_err sortDesc_isSortDesc.perm hh rfl
  · exact andWith_err_first (f := andAssignRef) hh
  · rfl
  · rfl

example : Hint.Admissible (.upper 51) ([Except.error 7, .ok [⟨0, .array [1]⟩]] : List (Except Nat Bitmap)).length :=
  Hint.admissible_upper_pos _ _ (by decide)

/-- **`∪` and `⊕` return the first error anywhere in the sequence** (owned items), whatever the values,
    the `size_hint` and the order chosen by the sort. -/
theorem C09_first_error_union_xor_owned (sort : List Bitmap → List Bitmap) (hs : ∀ l, (sort l).Perm l)
    (h : Hint) (xs : List (Except ε Bitmap)) (e : ε) (hh : Hint.Admissible h xs.length)
    (hfe : firstError xs = some e) :
    tryMultiOrOwnedWith sort h xs = .error e ∧ tryMultiXorOwned xs = .error e :=
  ⟨tryMultiOrOwnedWith_err hs hh hfe, tryMultiXorOwned_err hfe⟩

theorem C09_first_error_union_xor_ref (sort : List Bitmap → List Bitmap) (hs : ∀ l, (sort l).Perm l)
    (h : Hint) (xs : List (Except ε Bitmap)) (e : ε) (hh : Hint.Admissible h xs.length)
    (hfe : firstError xs = some e) :
    tryMultiOrRefWith sort h xs = .error e ∧ tryMultiXorRef xs = .error e :=
  ⟨tryMultiOrRefWith_err hs hh hfe, tryMultiXorRef_err hfe⟩

example : firstError ([.ok [], .error 3, .ok [⟨1, .array [5]⟩], .error 4] : List (Except Nat Bitmap)) = some 3 := rfl

/-- **`∩` and `−` with an error somewhere**: the first error is returned, unless the accumulator was
    already empty when the loop reached it — then the answer is `Ok(∅)` (the property leaves this open). -/
theorem C09_later_error_inter_diff (sort : List Bitmap → List Bitmap) (hs : ∀ l, (sort l).Perm l)
    (h : Hint) (xs : List (Except ε Bitmap)) (e : ε) (hh : Hint.Admissible h xs.length)
    (hfe : firstError xs = some e) :
    (tryMultiAndOwnedWith sort h xs = .error e ∨ tryMultiAndOwnedWith sort h xs = .ok []) ∧
    (tryMultiAndRefWith sort h xs = .error e ∨ tryMultiAndRefWith sort h xs = .ok []) ∧
    (tryMultiSubOwned xs = .error e ∨ tryMultiSubOwned xs = .ok []) ∧
    (tryMultiSubRef xs = .error e ∨ tryMultiSubRef xs = .ok []) :=
  ⟨andWith_err (f := andAssignOwned) hs hh hfe, andWith_err (f := andAssignRef) hs hh hfe,
   subWith_err (f := subAssignOwned) hfe, subWith_err (f := subAssignRef) hfe⟩

/-- **The empty sequence gives the empty set**, for every operation, item kind and `size_hint`. -/
theorem C09_empty (op : Op) (h : Hint) :
    tryMultiOwned (ε := ε) op h [] = .ok [] ∧ tryMultiRef (ε := ε) op h [] = .ok [] := by
  have hc : collectStart (ε := ε) (α := Bitmap) h [] = .ok ([], []) := collectStart_nil h
  cases op
  · simp only [tryMultiOwned, tryMultiRef, tryMultiOrOwnedWith, tryMultiOrRefWith, orStartWith, hc]
    exact ⟨rfl, rfl⟩
  · simp only [tryMultiOwned, tryMultiRef, tryMultiAndOwnedWith, tryMultiAndRefWith, andStartWith, hc]
    exact ⟨rfl, rfl⟩
  · exact ⟨rfl, rfl⟩
  · exact ⟨rfl, rfl⟩

/-! ## equality with the fold -/

/-- **Union = fold of `∪`**, for `Result` items of owned values: every sequence, every truthful `size_hint`,
    every key-sorted permutation the unstable sort may produce.  (With an error: the first error.) -/
theorem C09_union_owned (sort : List Bitmap → List Bitmap) (hs : IsSortDesc nContainers sort)
    (h : Hint) (xs : List (Except ε Bitmap)) (hh : Hint.Admissible h xs.length)
    (hwf : ∀ b ∈ okValues xs, Bitmap.WF b) :
    (tryMultiOrOwnedWith sort h xs).map Bitmap.elems = match firstError xs with
      | some e => .error e
      | none => .ok (Spec.multi .or ((okValues xs).map Bitmap.elems)) := by
  rw [orOwned_bridge kernel.orOwned]
  exact (orWith_outcome (ownedEngine ε mergeLaw_or kernel.orOwned) hs hh (wf_of_all hwf)).map

/-- … of borrowed values (`merge_container_ref`, copy-on-write). -/
theorem C09_union_ref (sort : List Bitmap → List Bitmap) (hs : IsSortDesc nContainers sort)
    (h : Hint) (xs : List (Except ε Bitmap)) (hh : Hint.Admissible h xs.length)
    (hwf : ∀ b ∈ okValues xs, Bitmap.WF b) :
    (tryMultiOrRefWith sort h xs).map Bitmap.elems = match firstError xs with
      | some e => .error e
      | none => .ok (Spec.multi .or ((okValues xs).map Bitmap.elems)) := by
  rw [orRef_bridge kernel.orRef]
  exact (orWith_outcome (refEngine ε mergeLaw_or kernel.orRef) hs hh (wf_of_all hwf)).map

/-- **Symmetric difference = fold of `⊕`** (owned). -/
theorem C09_symmetric_difference_owned (xs : List (Except ε Bitmap)) (hwf : ∀ b ∈ okValues xs, Bitmap.WF b) :
    (tryMultiXorOwned xs).map Bitmap.elems = match firstError xs with
      | some e => .error e
      | none => .ok (Spec.multi .xor ((okValues xs).map Bitmap.elems)) := by
  rw [xorOwned_bridge kernel.xorOwned]
  exact (xorWith_outcome (ownedEngine ε mergeLaw_xor kernel.xorOwned) (wf_of_all hwf)).map

/-- … (borrowed). -/
theorem C09_symmetric_difference_ref (xs : List (Except ε Bitmap)) (hwf : ∀ b ∈ okValues xs, Bitmap.WF b) :
    (tryMultiXorRef xs).map Bitmap.elems = match firstError xs with
      | some e => .error e
      | none => .ok (Spec.multi .xor ((okValues xs).map Bitmap.elems)) := by
  rw [xorRef_bridge kernel.xorRef]
  exact (xorWith_outcome (refEngine ε mergeLaw_xor kernel.xorRef) (wf_of_all hwf)).map

/-- **Intersection = fold of `∩`** on an all-`Ok` sequence, for every key-sorted permutation and truthful
    `size_hint` (owned and borrowed). -/
theorem C09_intersection (sort : List Bitmap → List Bitmap) (hs : IsSortAsc nContainers sort)
    (h : Hint) (xs : List (Except ε Bitmap)) (hh : Hint.Admissible h xs.length)
    (hwf : ∀ b ∈ okValues xs, Bitmap.WF b) (hfe : firstError xs = none) :
    (tryMultiAndOwnedWith sort h xs).map Bitmap.elems = .ok (Spec.multi .and ((okValues xs).map Bitmap.elems)) ∧
    (tryMultiAndRefWith sort h xs).map Bitmap.elems = .ok (Spec.multi .and ((okValues xs).map Bitmap.elems)) :=
  ⟨(andWith_ok (andOwnedLaw kernel) hs hh (wf_of_all hwf) hfe).map,
   (andWith_ok (andRefLaw kernel) hs hh (wf_of_all hwf) hfe).map⟩

/-- **Difference = first minus all others** on an all-`Ok` sequence (owned and borrowed). -/
theorem C09_difference (xs : List (Except ε Bitmap)) (hwf : ∀ b ∈ okValues xs, Bitmap.WF b)
    (hfe : firstError xs = none) :
    (tryMultiSubOwned xs).map Bitmap.elems = .ok (Spec.multi .sub ((okValues xs).map Bitmap.elems)) ∧
    (tryMultiSubRef xs).map Bitmap.elems = .ok (Spec.multi .sub ((okValues xs).map Bitmap.elems)) :=
  ⟨(subWith_ok (subOwnedLaw kernel) (wf_of_all hwf) hfe).map, (subWith_ok (subRefLaw kernel) (wf_of_all hwf) hfe).map⟩

/-- **All-`Ok` ↦ `Ok(fold)`** for the executable model (the sorts the driver runs), owned items. -/
theorem C09_all_ok_owned (op : Op) (h : Hint) (xs : List (Except ε Bitmap)) (hh : Hint.Admissible h xs.length)
    (hwf : ∀ b ∈ okValues xs, Bitmap.WF b) (hfe : firstError xs = none) :
    (tryMultiOwned op h xs).map Bitmap.elems = .ok (Spec.multi (specOp op) ((okValues xs).map Bitmap.elems)) :=
  (tryMultiOwned_ok op h xs hh hwf hfe).map

/-- … borrowed items. -/
theorem C09_all_ok_ref (op : Op) (h : Hint) (xs : List (Except ε Bitmap)) (hh : Hint.Admissible h xs.length)
    (hwf : ∀ b ∈ okValues xs, Bitmap.WF b) (hfe : firstError xs = none) :
    (tryMultiRef op h xs).map Bitmap.elems = .ok (Spec.multi (specOp op) ((okValues xs).map Bitmap.elems)) :=
  (tryMultiRef_ok op h xs hh hwf hfe).map

/-- **The whole `Result` law, owned items** (`impl MultiOps<Result<RoaringBitmap, E>> for I`): the outcome,
    seen through `elems`, is one of the outcomes the SPEC admits — `Ok(fold)` when all items are `Ok`; the
    first error for `∪`/`⊕`; for `∩`/`−` the error of the first item, and otherwise the first error or `Ok(∅)`. -/
theorem C09_result_owned (op : Op) (h : Hint) (xs : List (Except ε Bitmap))
    (hh : Hint.Admissible h xs.length) (hwf : ∀ b ∈ okValues xs, Bitmap.WF b) :
    (tryMultiOwned op h xs).map Bitmap.elems ∈ Spec.multiRes (specOp op) (elemsItems xs) := by
  refine map_elems_mem_multiRes (C09_all_ok_owned op h xs hh hwf)
    (fun e t hx => by subst hx; exact C09_error_at_0_owned op h e t hh) fun e hfe => ?_
  have hu := C09_first_error_union_xor_owned sortDesc sortDesc_isSortDesc.perm h xs e hh hfe
  have hi := C09_later_error_inter_diff sortAsc sortAsc_isSortAsc.perm h xs e hh hfe
  cases op
  · exact .inl hu.1
  · exact hi.1.imp_right fun h1 => ⟨.inl rfl, h1⟩
  · exact hi.2.2.1.imp_right fun h1 => ⟨.inr rfl, h1⟩
  · exact .inl hu.2

/-- **The whole `Result` law, borrowed items** (`impl MultiOps<Result<&RoaringBitmap, E>> for I`). -/
theorem C09_result_ref (op : Op) (h : Hint) (xs : List (Except ε Bitmap))
    (hh : Hint.Admissible h xs.length) (hwf : ∀ b ∈ okValues xs, Bitmap.WF b) :
    (tryMultiRef op h xs).map Bitmap.elems ∈ Spec.multiRes (specOp op) (elemsItems xs) := by
  refine map_elems_mem_multiRes (C09_all_ok_ref op h xs hh hwf)
    (fun e t hx => by subst hx; exact C09_error_at_0_ref op h e t hh) fun e hfe => ?_
  have hu := C09_first_error_union_xor_ref sortDesc sortDesc_isSortDesc.perm h xs e hh hfe
  have hi := C09_later_error_inter_diff sortAsc sortAsc_isSortAsc.perm h xs e hh hfe
  cases op
  · exact .inl hu.1
  · exact hi.2.1.imp_right fun h1 => ⟨.inl rfl, h1⟩
  · exact hi.2.2.2.imp_right fun h1 => ⟨.inr rfl, h1⟩
  · exact .inl hu.2

/-- **The plain trait impls** (`impl MultiOps<RoaringBitmap> for I`, `impl MultiOps<&RoaringBitmap> for I`):
    the result *is* the fold — `∪`/`⊕` from `∅`, `∩`/`−` from the first operand, `∅` for the empty sequence. -/
theorem C09_fold (op : Op) (h : Hint) (l : List Bitmap) (hh : Hint.Admissible h l.length)
    (hwf : ∀ b ∈ l, Bitmap.WF b) :
    Bitmap.elems (multiOwned op h l) = Spec.multi (specOp op) (l.map Bitmap.elems) ∧
    Bitmap.elems (multiRef op h l) = Spec.multi (specOp op) (l.map Bitmap.elems) :=
  ⟨(multiOwned_law op h l hh hwf).2, (multiRef_law op h l hh hwf).2⟩

/-! ## non-vacuity: concrete values meeting the hypotheses -/

/-- a two-chunk operand and a one-chunk operand sharing chunk 0 -/
def exA : Bitmap := [⟨0, .array [1, 2, 3]⟩, ⟨2, .array [7]⟩]
def exB : Bitmap := [⟨0, .array [3, 4]⟩]

section
attribute [local instance] Concrete.decBitmapWF
example : Bitmap.WF exA ∧ Bitmap.WF exB := by decide
end

/-- truthful and untruthful-but-positive upper bounds on both sides of 50, `None`, exact -/
example : Hint.Admissible .exact 60 ∧ Hint.Admissible .none 60 ∧ Hint.Admissible (.upper 51) 60 ∧
    Hint.Admissible (.upper 1) 60 ∧ Hint.Admissible (.upper 0) 0 :=
  ⟨Hint.admissible_exact _, Hint.admissible_none _, Hint.admissible_upper_pos _ _ (by decide),
   Hint.admissible_upper_pos _ _ (by decide), Or.inr rfl⟩

/-- the sort hypotheses are met by the executable sorts (and by any other key-sorted permutation) -/
example : IsSortDesc nContainers sortDesc ∧ IsSortAsc nContainers sortAsc := ⟨sortDesc_isSortDesc, sortAsc_isSortAsc⟩

/-- the statements are about non-trivial values: the model computes, and the fold is, `{1,2,3,4, 2·2^16+7}` -/
example : Bitmap.elems (multiOwned .or .exact [exB, exA, exB]) = [1, 2, 3, 4, 131079] ∧
    Spec.multi .or ([exB, exA, exB].map Bitmap.elems) = [1, 2, 3, 4, 131079] ∧
    Bitmap.elems (multiRef .xor .none [exB, exA, exB]) = [1, 2, 3, 131079] ∧
    Bitmap.elems (multiOwned .and (.upper 1) [exA, exB]) = [3] ∧
    Bitmap.elems (multiRef .sub .exact [exA, exB]) = [1, 2, 131079] := by
  decide +kernel

end Roaring.C09
