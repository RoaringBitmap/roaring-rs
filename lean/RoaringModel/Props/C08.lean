import RoaringModel.Lemmas.BitmapLen
import RoaringModel.Props.C02
import RoaringModel.Lemmas.Mirror32
import RoaringModel.Lemmas.MirrorLemmas
/-!
# C08 — relations and cardinality-only operations match the real sets

For well-formed `a b` (DESIGN §8): `is_subset / is_superset / is_disjoint` decide the set relations on
the element lists (`Spec.isSubset / isSuperset / isDisjoint`), `intersection_len` is the cardinality of the
intersection, and `union_len / difference_len / symmetric_difference_len` are the cardinalities of the
mathematical results — the `wrapping_add / wrapping_sub` never wrap and the plain `-` of `difference_len`
never overflows.  With C02 these are the `len()` of the materialised operations
(`C08_len_materialised`).

The two early-outs of the relation code — `self.len() <= other.len()` in `Container::is_subset` and
`(Bitmap, Array) => false` in `Store::is_subset` — are proved sound *from well-formedness*
(`Container.isSubset_spec` in `Lemmas/ContainerOps.lean`): a bitset chunk holds more than 4096 values, an
array chunk at most 4096.

All theorems are unconditional: the container and relation lemmas call the `BStore.*` theorems
(`Lemmas/BStoreRange.lean`) directly.
-/
namespace Roaring.C08
open Roaring Roaring.Bitmap

theorem C08_is_subset (a b : Bitmap) (ha : a.WF) (hb : b.WF) :
    isSubset a b = Spec.isSubset (elems a) (elems b) ∧
    (isSubset a b = true ↔ ∀ y, y ∈ elems a → y ∈ elems b) :=
  ⟨isSubset_eq_spec a b ha hb, isSubset_spec a b ha hb⟩

theorem C08_is_superset (a b : Bitmap) (ha : a.WF) (hb : b.WF) :
    isSuperset a b = Spec.isSuperset (elems a) (elems b) ∧
    (isSuperset a b = true ↔ ∀ y, y ∈ elems b → y ∈ elems a) :=
  C08_is_subset b a hb ha

theorem C08_is_disjoint (a b : Bitmap) (ha : a.WF) (hb : b.WF) :
    isDisjoint a b = Spec.isDisjoint (elems a) (elems b) ∧
    (isDisjoint a b = true ↔ ∀ y, y ∈ elems a → ¬ y ∈ elems b) :=
  ⟨isDisjoint_eq_spec a b ha hb, isDisjoint_spec a b ha hb⟩

theorem C08_intersection_len (a b : Bitmap) (ha : a.WF) (hb : b.WF) :
    interLen a b = Spec.interLen (elems a) (elems b) :=
  interLen_spec a b ha hb

/-- the facts the inclusion–exclusion arithmetic needs -/
theorem C08_len_facts (a b : Bitmap) (ha : a.WF) (hb : b.WF) :
    len a = (elems a).length ∧ len b = (elems b).length ∧
    interLen a b = (Spec.sAnd (elems a) (elems b)).length ∧
    (Spec.sAnd (elems a) (elems b)).length ≤ (elems a).length ∧
    (Spec.sAnd (elems a) (elems b)).length ≤ (elems b).length ∧
    (elems a).length ≤ 4294967296 ∧ (elems b).length ≤ 4294967296 := by
  have hsa := sorted_elems a ha.dir
  have hsb := sorted_elems b hb.dir
  refine ⟨len_spec a ha, len_spec b hb,
    C08_intersection_len a b ha hb, ?_, ?_, length_elems_le a ha, length_elems_le b hb⟩
  · rw [Spec.sAnd_eq_filter _ _ hsa hsb]; exact List.length_filter_le _ _
  · rw [Spec.sAnd_comm _ _ hsa hsb, Spec.sAnd_eq_filter _ _ hsb hsa]; exact List.length_filter_le _ _

/-- `union_len` (ops.rs:56): `len + other.len - intersection_len`, and the `wrapping_*` never wrap -/
theorem C08_union_len (a b : Bitmap) (ha : a.WF) (hb : b.WF) :
    unionLen a b = Spec.unionLen (elems a) (elems b) :=
  unionLen_spec a b ha hb

/-- `difference_len` (ops.rs:77): the plain `-` never overflows (`some`), and the value is exact -/
theorem C08_difference_len (a b : Bitmap) (ha : a.WF) (hb : b.WF) :
    diffLen a b = some (Spec.diffLen (elems a) (elems b)) :=
  diffLen_spec a b ha hb

/-- `symmetric_difference_len` (ops.rs:98) -/
theorem C08_symmetric_difference_len (a b : Bitmap) (ha : a.WF) (hb : b.WF) :
    xorLen a b = Spec.xorLen (elems a) (elems b) :=
  xorLen_spec a b ha hb

/-- "hence the `len()` of the materialised operations" (with C02 for the `&a op &b` forms) -/
theorem C08_len_materialised (a b : Bitmap) (ha : a.WF) (hb : b.WF) :
    len (andRR a b) = interLen a b ∧ len (orRR a b) = unionLen a b ∧
    some (len (subRR a b)) = diffLen a b ∧ len (xorRR a b) = xorLen a b := by
  have hor := C02.C02_or_rr a b ha hb
  have hsub := C02.C02_sub_rr a b ha hb
  have hxor := C02.C02_xor_rr a b ha hb
  refine ⟨?_, ?_, ?_, ?_⟩
  · exact (interLen_eq_len_and a b ha hb).symm
  · rw [len_spec _ hor.1, hor.2, C08_union_len a b ha hb]; rfl
  · rw [len_spec _ hsub.1, hsub.2, C08_difference_len a b ha hb]; rfl
  · rw [len_spec _ hxor.1, hxor.2, C08_symmetric_difference_len a b ha hb]; rfl

/-- `is_superset` is `is_subset` with the operands exchanged (cmp.rs:95). -/
theorem C08_superset_def (a b : Bitmap) : isSuperset a b = isSubset b a := rfl

/-! Non-vacuity: well-formed two-chunk operands (array chunk + 4160-value bitset chunk), and the
    operations evaluated on small concrete values. -/
def exBits : BStore := { len := 4160, bits := List.replicate 65 wMax ++ List.replicate 959 0 }
def exA : Bitmap := [⟨0, .array [1, 5, 65535]⟩, ⟨7, .bitmap exBits⟩]
def exB : Bitmap := [⟨0, .array [5, 6]⟩, ⟨3, .array [9]⟩]

example : exA.WF ∧ exB.WF := by
  refine ⟨⟨by decide, ?_⟩, ⟨by decide, ?_⟩⟩
  · intro c hc
    simp only [exA, List.mem_cons, List.not_mem_nil, or_false] at hc
    rcases hc with rfl | rfl
    · exact ⟨by decide, ⟨⟨by unfold Sorted; decide, by decide⟩, by decide, by decide⟩⟩
    · exact ⟨by decide, BStore.inv_replicate 65 (by decide), by decide⟩
  · intro c hc
    simp only [exB, List.mem_cons, List.not_mem_nil, or_false] at hc
    rcases hc with rfl | rfl <;>
      exact ⟨by decide, ⟨⟨by unfold Sorted; decide, by decide⟩, by decide, by decide⟩⟩

example : isSubset exB exA = false ∧ isDisjoint exA exB = false ∧ interLen exA exB = 1
    ∧ unionLen exA exB = 4165 ∧ diffLen exA exB = some 4162 ∧ xorLen exA exB = 4164 := by decide +kernel

/-! ## Fidelity audit (stores): `ArrayStore::intersection_len` through the counting visitor

`notes/fidelity-stores-iter32.md`.  The array∘array kernel under `C08_intersection_len` is `Arr.interLen`, a monomorphic
copy of the `and` merge that counts.  The Rust (array_store/mod.rs:215-222) runs the *same generic* `scalar::and` as
`&a & &b`, with the `CardinalityCounter` visitor; `Arr.interLenVisit` is that (`Arr.scalarAnd Arr.cardCounter`).  The
compiled driver executes it wherever the model calls `Arr.interLen` (`@[csimp]`, unconditional). -/

/-- what the compiled driver runs in place of `Arr.interLen` -/
theorem C08_driver_runs_interLen_visitor : @Arr.interLen = @Arr.interLenVisit := Arr.interLen_eq_visit

/-- the generic merge with the counting visitor, from any count `n`: adds exactly the model's `interLen`; and the
    counting visitor counts what the writing visitor writes — both for arbitrary (also ill-formed) slices -/
theorem C08_interLen_visitor (l r : List Nat) (n : Nat) :
    Arr.scalarAnd Arr.cardCounter l r n = n + Arr.interLen l r
    ∧ Arr.interLenVisit l r = (Arr.andVisit l r).length :=
  ⟨Arr.scalarAnd_cardCounter l r n, Arr.interLenVisit_eq_length l r⟩

/-- on strictly ascending operands (array chunks of `Bitmap.WF` values) it is the cardinality of the intersection -/
theorem C08_interLen_visitor_exact (l r : List Nat) (hl : Sorted l) (hr : Sorted r) :
    ∃ v, Sorted v ∧ (∀ x, x ∈ v ↔ x ∈ l ∧ x ∈ r) ∧ Arr.interLenVisit l r = v.length :=
  ⟨Arr.and l r, Arr.sorted_and l r hl hr, Arr.mem_and l r hl hr, by rw [Arr.interLenVisit_eq, Arr.interLen_eq]⟩

example : Sorted [1, 5, 65535] ∧ Sorted [5, 6, 65535] := by unfold Sorted; decide
example : Arr.interLenVisit [1, 5, 65535] [5, 6, 65535] = 2 := by decide +kernel
/-! ### The relations as the driver executes them (`Mirror32.lean`): `is_subset` is the `for` loop over `Pairs`
    with its two early `return false` (cmp.rs:58-69), `is_disjoint` is `filter_map(zip)` followed by `all`
    (cmp.rs:30-32).  Both are unconditionally equal to the definitions above (`isSubset_mirror_eq`,
    `isDisjoint_mirror_eq`). -/
theorem C08_is_subset_mirror (a b : Bitmap) (ha : a.WF) (hb : b.WF) :
    isSubsetMirror a b = Spec.isSubset (elems a) (elems b) ∧
    (isSubsetMirror a b = true ↔ ∀ y, y ∈ elems a → y ∈ elems b) := by
  rw [isSubset_mirror_eq]; exact C08_is_subset a b ha hb
theorem C08_is_superset_mirror (a b : Bitmap) (ha : a.WF) (hb : b.WF) :
    isSupersetMirror a b = Spec.isSuperset (elems a) (elems b) ∧
    (isSupersetMirror a b = true ↔ ∀ y, y ∈ elems b → y ∈ elems a) := by
  rw [isSuperset_mirror_eq]; exact C08_is_superset a b ha hb
theorem C08_is_disjoint_mirror (a b : Bitmap) (ha : a.WF) (hb : b.WF) :
    isDisjointMirror a b = Spec.isDisjoint (elems a) (elems b) ∧
    (isDisjointMirror a b = true ↔ ∀ y, y ∈ elems a → ¬ y ∈ elems b) := by
  rw [isDisjoint_mirror_eq]; exact C08_is_disjoint a b ha hb
example : isSubsetMirror exB exA = false ∧ isDisjointMirror exA exB = false ∧ isSubsetMirror [] exA = true := by
  decide +kernel

end Roaring.C08
