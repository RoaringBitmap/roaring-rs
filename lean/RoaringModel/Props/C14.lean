import RoaringModel.Lemmas.IOLemmas
import RoaringModel.Lemmas.SpecRoundTrip
import RoaringModel.Lemmas.TreemapCodec
import RoaringModel.Lemmas.TreemapCodecWF
import RoaringModel.Lemmas.FidelityCodec
/-!
# C14 — I/O faults surface as errors; read/write chunking is irrelevant (32-bit half)

The theorems are about the decoder/encoder logic over `read_exact` / `write_all` as modelled in `IO.lean`
(the two std loops are quoted there).  That std's implementations behave as modelled is what the
correspondence check exercises with fault-injecting `Read`/`Write` implementations.
-/
namespace Roaring.C14
open Roaring Roaring.Parser

/-- `read_exact` is schedule-free: whatever the sequence of chunk sizes and `Interrupted` results, it delivers
    the same bytes, leaves the same unread data, and fails (with EOF) in exactly the same cases as on the plain
    byte slice. -/
theorem C14_readExact_sched (sched : List IoEv) (data : List Nat) (n : Nat) :
    (readExactS sched data n).map (fun r => (r.1, r.2.data)) = readN n data :=
  readExactS_eq sched data n

/-- Decoding (either decoder, either build configuration) through any scheduled reader gives the result of
    decoding the plain byte list: same value and same unread bytes, or the same error. -/
theorem C14_decode_sched (chk dbg : Bool) (data : List Nat) (sched : List IoEv) :
    (deserializeSched chk dbg data sched).map (fun r => (r.1, r.2.data)) = deserialize chk dbg data :=
  sim_deserializeG sim_sreader chk dbg ⟨data, sched⟩

example : deserializeSched true true [58, 48, 0, 0, 1, 0, 0, 0, 7, 0, 0, 0, 16, 0, 0, 0, 5, 0]
    [.intr, .chunk 1, .intr, .chunk 3] =
    .ok ([{ key := 7, store := .array [5] }], ⟨[], []⟩) := by rfl

/-- Every strict prefix of a stream that decodes completely is an error — `UnexpectedEof`, never a value,
    never a panic.  Holds for *every* stream the decoder accepts (run chunks, either cookie), in particular
    (with `C05_decode`) for every serialisation the crate writes. -/
theorem C14_prefix (chk dbg : Bool) (bs : List Nat) (b : Bitmap)
    (h : deserialize chk dbg bs = .ok (b, [])) (k : Nat) (hk : k < bs.length) :
    deserialize chk dbg (bs.take k) = .error .eof :=
  prefix_rest_eof _ (mono_deserializeG chk dbg) bs b [] h k hk

/-- Every strict prefix of a serialisation the crate writes is an error (EOF), for both decoders. -/
theorem C14_prefix_serialize (chk dbg : Bool) (b : Bitmap) (h : Bitmap.WF b) (k : Nat)
    (hk : k < (Bitmap.serialize b).length) :
    deserialize chk dbg ((Bitmap.serialize b).take k) = .error .eof := by
  have hd : deserialize chk dbg (Bitmap.serialize b) = .ok (b, []) := by
    have := deserialize_serialize chk dbg b h.toCodec []
    simpa using this
  exact C14_prefix chk dbg _ b hd k hk

/-- More generally: if decoding stops with `rest` unread, every prefix that is shorter than the consumed part
    is an EOF error. -/
theorem C14_prefix_rest (chk dbg : Bool) (bs rest : List Nat) (b : Bitmap)
    (h : deserialize chk dbg bs = .ok (b, rest)) (k : Nat) (hk : k < bs.length - rest.length) :
    deserialize chk dbg (bs.take k) = .error .eof :=
  prefix_rest_eof _ (mono_deserializeG chk dbg) bs b rest h k hk

example : deserialize true true ([58, 48, 0, 0, 1, 0, 0, 0, 7, 0, 0, 0, 16, 0, 0, 0, 5, 0].take 17) = .error .eof := by
  decide +kernel

/-- the buffers handed to `write_all` by `serialize_into`, concatenated, are the serialisation -/
theorem C14_serializeFields_flatten (b : Bitmap) : (Bitmap.serializeFields b).flatten = Bitmap.serialize b :=
  Bitmap.serializeFields_flatten b

/-- A sink that accepts `room` bytes — in whatever chunk sizes, interrupted however often, failing with `Err`
    or `Ok(0)` — receives exactly the first `room` bytes of the serialisation, and `serialize_into` returns
    `Ok` iff everything fit (no third outcome: the result is a `Bool`, there is no panic path). -/
theorem C14_write (b : Bitmap) (room : Nat) (zeroMode : Bool) (sched : List IoEv) :
    (Bitmap.serializeInto b { accRev := [], room := room, zeroMode := zeroMode, sched := sched }).2.bytes
        = (Bitmap.serialize b).take room ∧
    ((Bitmap.serializeInto b { accRev := [], room := room, zeroMode := zeroMode, sched := sched }).1 = true
        ↔ (Bitmap.serialize b).length ≤ room) := by
  have h := writeFields_spec (Bitmap.serializeFields b)
    { accRev := [], room := room, zeroMode := zeroMode, sched := sched }
  rw [C14_serializeFields_flatten] at h
  simpa [SWriter.bytes, Bitmap.serializeInto] using h

example : (Bitmap.serializeInto [{ key := 7, store := .array [5] }]
    { accRev := [], room := 5, zeroMode := true, sched := [.chunk 3, .intr, .chunk 1] }).2.bytes = [58, 48, 0, 0, 1] := by
  decide +kernel

/-! ### the writer path the driver executes (fidelity audit)

`Bitmap.serializeIntoM ovf` (IO.lean) evaluates the cardinality field `(container.len() - 1) as u16` in `u64`
arithmetic: on an empty container that is a panic (overflow checks on) raised *between* two writes.  For a value
without empty containers — every well-formed value — it is `serializeInto`, so `C14_write` holds for it and the panic
path is never taken. -/

/-- a well-formed value has no empty container -/
theorem wf_len_pos (b : Bitmap) (h : Bitmap.WF b) : ∀ c ∈ b, 1 ≤ c.len := Fidelity.wf_len_pos b h

theorem C14_serializeInto_mirror_eq (ovf : Bool) (b : Bitmap) (h : Bitmap.WF b) (w : SWriter) :
    Bitmap.serializeIntoM ovf b w = some (Bitmap.serializeInto b w) :=
  Fidelity.serializeIntoM_eq ovf b (wf_len_pos b h) w

/-- **C14_write for the executed writer path**: no panic, the sink holds exactly the first `room` bytes, `Ok` iff
    everything fit — in both build configurations. -/
theorem C14_write_mirror (ovf : Bool) (b : Bitmap) (h : Bitmap.WF b) (room : Nat) (zeroMode : Bool) (sched : List IoEv) :
    ∃ r, Bitmap.serializeIntoM ovf b { accRev := [], room := room, zeroMode := zeroMode, sched := sched } = some r ∧
      r.2.bytes = (Bitmap.serialize b).take room ∧ (r.1 = true ↔ (Bitmap.serialize b).length ≤ room) :=
  ⟨_, C14_serializeInto_mirror_eq ovf b h _, C14_write b room zeroMode sched⟩

/-- the panic path exists (empty container, overflow checks on) and comes only after the earlier writes succeeded:
    a sink with room for 9 bytes fails first (`Err`), one with room for 10 reaches the panic -/
example : (Bitmap.serializeIntoM true [⟨0, .array []⟩] { accRev := [], room := 9, zeroMode := false, sched := [] }).map
        (fun r => (r.1, r.2.bytes)) = some (false, [58, 48, 0, 0, 1, 0, 0, 0, 0])
    ∧ (Bitmap.serializeIntoM true [⟨0, .array []⟩] { accRev := [], room := 10, zeroMode := false, sched := [] }).isNone
        = true := by
  decide +kernel

end Roaring.C14

/-!
# C14, 64-bit half — `RoaringTreemap`

The treemap decoder is the same abstract-reader program (`Treemap.deserializeG R`), so the schedule-independence
and the prefix theorem lift through the bucket loop (`Lemmas/TreemapCodec.lean`); the writer hands the sink the
`u64` count, then per partition the `u32` key and the 32-bit fields, each through `write_all`.
-/
namespace Roaring.C14
open Roaring Roaring.Parser

/-- Decoding a treemap (either decoder, either build configuration) through any scheduled reader gives the
    result of decoding the plain byte list: same value and same unread bytes, or the same error. -/
theorem C14_t_decode_sched (chk dbg : Bool) (data : List Nat) (sched : List IoEv) :
    (Treemap.deserializeSched chk dbg data sched).map (fun r => (r.1, r.2.data))
      = Treemap.deserialize chk dbg data :=
  Treemap.sim_deserializeG sim_sreader chk dbg ⟨data, sched⟩

/-- Every strict prefix of a stream that decodes completely is an error — `UnexpectedEof`, never a value,
    never a panic.  Holds for *every* stream the decoder accepts (any bucket order, run chunks, …). -/
theorem C14_t_prefix (chk dbg : Bool) (bs : List Nat) (t : Treemap)
    (h : Treemap.deserialize chk dbg bs = .ok (t, [])) (k : Nat) (hk : k < bs.length) :
    Treemap.deserialize chk dbg (bs.take k) = .error .eof :=
  prefix_rest_eof _ (Treemap.mono_deserializeG chk dbg) bs t [] h k hk

/-- Every strict prefix of a serialisation the crate writes is an error (EOF), for both decoders. -/
theorem C14_t_prefix_serialize (chk dbg : Bool) (t : Treemap) (h : Treemap.WFd Bitmap.WF t) (k : Nat)
    (hk : k < (Treemap.serialize t).length) :
    Treemap.deserialize chk dbg ((Treemap.serialize t).take k) = .error .eof := by
  have hd : Treemap.deserialize chk dbg (Treemap.serialize t) = .ok (t, []) := by
    have := Treemap.deserialize_serialize_wf chk dbg t h []
    simpa using this
  exact C14_t_prefix chk dbg _ t hd k hk

/-- If decoding stops with `rest` unread, every prefix shorter than the consumed part is an EOF error. -/
theorem C14_t_prefix_rest (chk dbg : Bool) (bs rest : List Nat) (t : Treemap)
    (h : Treemap.deserialize chk dbg bs = .ok (t, rest)) (k : Nat) (hk : k < bs.length - rest.length) :
    Treemap.deserialize chk dbg (bs.take k) = .error .eof :=
  prefix_rest_eof _ (Treemap.mono_deserializeG chk dbg) bs t rest h k hk

/-- the buffers handed to `write_all` by the treemap's `serialize_into`, concatenated, are the serialisation -/
theorem C14_t_serializeFields_flatten (t : Treemap) :
    (Treemap.serializeFields t).flatten = Treemap.serialize t :=
  Treemap.serializeFields_flatten t

/-- A sink that accepts `room` bytes — in whatever chunk sizes, interrupted however often, failing with `Err`
    or `Ok(0)` — receives exactly the first `room` bytes of the serialisation, and `serialize_into` returns
    `Ok` iff everything fit. -/
theorem C14_t_write (t : Treemap) (room : Nat) (zeroMode : Bool) (sched : List IoEv) :
    (Treemap.serializeInto t { accRev := [], room := room, zeroMode := zeroMode, sched := sched }).2.bytes
        = (Treemap.serialize t).take room ∧
    ((Treemap.serializeInto t { accRev := [], room := room, zeroMode := zeroMode, sched := sched }).1 = true
        ↔ (Treemap.serialize t).length ≤ room) := by
  have h := writeFields_spec (Treemap.serializeFields t)
    { accRev := [], room := room, zeroMode := zeroMode, sched := sched }
  rw [C14_t_serializeFields_flatten] at h
  simpa [SWriter.bytes, Treemap.serializeInto] using h

/-- a one-partition treemap through an interrupting one/three-byte reader; its serialisation cut inside the
    `u32` key; a sink that fails inside the `u64` count -/
example : Treemap.deserializeSched true true
    [1, 0, 0, 0, 0, 0, 0, 0, 3, 0, 0, 0, 58, 48, 0, 0, 1, 0, 0, 0, 7, 0, 0, 0, 16, 0, 0, 0, 5, 0]
    [.intr, .chunk 1, .intr, .chunk 3] =
    .ok ([(3, [{ key := 7, store := .array [5] }])], ⟨[], []⟩) := by rfl
example : Treemap.deserialize true true
    ([1, 0, 0, 0, 0, 0, 0, 0, 3, 0, 0, 0, 58, 48, 0, 0, 1, 0, 0, 0, 7, 0, 0, 0, 16, 0, 0, 0, 5, 0].take 10) = .error .eof := by
  decide +kernel
example : (Treemap.serializeInto [(3, [{ key := 7, store := .array [5] }])]
    { accRev := [], room := 5, zeroMode := true, sched := [.chunk 3, .intr, .chunk 1] }).2.bytes = [1, 0, 0, 0, 0] := by
  decide +kernel

/-- The executed treemap writer path (`Treemap.serializeIntoM`) on a well-formed treemap:
    no panic, and the outcome of `Treemap.serializeInto`, so `C14_t_write` holds for it. -/
theorem C14_t_write_mirror (ovf : Bool) (t : Treemap) (h : Treemap.WFd Bitmap.WF t) (room : Nat) (zeroMode : Bool)
    (sched : List IoEv) :
    ∃ r, Treemap.serializeIntoM ovf t { accRev := [], room := room, zeroMode := zeroMode, sched := sched } = some r ∧
      r.2.bytes = (Treemap.serialize t).take room ∧ (r.1 = true ↔ (Treemap.serialize t).length ≤ room) :=
  ⟨_, Fidelity.tserializeIntoM_eq ovf t (fun p hp => wf_len_pos p.2 (h.parts p hp).2.1) _,
    C14_t_write t room zeroMode sched⟩

end Roaring.C14
