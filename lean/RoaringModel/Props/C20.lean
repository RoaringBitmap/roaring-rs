import RoaringModel.Lemmas.MiscStats
import RoaringModel.Lemmas.BStoreBasic
import RoaringModel.Lemmas.BitmapQuery
import RoaringModel.Lemmas.FidelityCodec
import RoaringModel.Lemmas.Concrete
/-!
# C20 — `statistics()` describes the set and the Roaring space rule (property theorems)

`Spec.stats s` (SpecLsb0.lean) is what the property says about a set `s`, computed from the sorted element
list alone: group by `x / 65536`; a prefix with ≤ 4096 values is an array container (with its values), any
other a bitset container; no run containers; `serialized_size = 8 + Σ (8 + min(2·card, 8192))`.
The theorems are about well-formed bitmaps (the shared `Bitmap.WF` of Inv.lean, the invariant of every value
produced by the public API — C01/C02/C04 producer theorems); the statement fails for non-well-formed values,
e.g. a bitset store of exactly 4096 values (what `Store::from_lsb0_bytes` builds with `<` for `<=`, defect D2) or
an array store of more than 4096 (a run chunk decoded without `ensure_correct_store`, defect D3).
`C20` is the whole statement,
`C20_counts` / `C20_serialized_size` / `C20_minmax` its parts, `C20_groups` pins down `Spec.groups`
(one group per distinct 16-bit prefix, ascending, with the number of elements under that prefix).
-/
namespace Roaring.C20
open Roaring Roaring.MiscLemmas

theorem C20_no_runs (b : Bitmap) : (Bitmap.statistics b).nRun = 0 ∧ (Bitmap.statistics b).valuesRun = 0 :=
  ⟨rfl, rfl⟩

/-- Container counts, value totals and cardinality are those of the element set under the space rule:
    `n_containers` = number of distinct 16-bit prefixes, prefixes with ≤ 4096 values are the array
    containers (counted with their values), all others are bitset containers, no run containers,
    `cardinality = len()`. -/
theorem C20_counts (b : Bitmap) (hwf : Bitmap.WF b) :
    (Bitmap.statistics b).nContainers = (Spec.stats (Bitmap.elems b)).nContainers ∧
    (Bitmap.statistics b).nArray = (Spec.stats (Bitmap.elems b)).nArray ∧
    (Bitmap.statistics b).nBitset = (Spec.stats (Bitmap.elems b)).nBitset ∧
    (Bitmap.statistics b).valuesArray = (Spec.stats (Bitmap.elems b)).valuesArray ∧
    (Bitmap.statistics b).valuesBitset = (Spec.stats (Bitmap.elems b)).valuesBitset ∧
    (Bitmap.statistics b).cardinality = (Spec.stats (Bitmap.elems b)).cardinality ∧
    (Bitmap.statistics b).cardinality = Bitmap.len b := by
  have hc := cards_eq b hwf
  have ha := filter_arr b hwf
  have hb := filter_bm b hwf
  have hfa : (b.map Container.len).filter (fun x => decide (x ≤ 4096))
      = (b.filter (fun c => decide (c.len ≤ 4096))).map Container.len := by
    rw [List.filter_map]; rfl
  have hfb : (b.map Container.len).filter (fun x => decide (4096 < x))
      = (b.filter (fun c => decide (4096 < c.len))).map Container.len := by
    rw [List.filter_map]; rfl
  simp only [Bitmap.statistics, Spec.stats, hc, hfa, hfb, List.length_map, len_eq_sum,
    ← Bitmap.len_eq_length b hwf.dir]
  -- the two `match`es on the store kind are different auxiliary matchers, equal by unfolding
  refine ⟨trivial, ?_, ?_, ?_, ?_, trivial, trivial⟩
  · exact congrArg List.length ha
  · exact congrArg List.length hb
  · exact congrArg (fun l => Spec.sum (List.map Container.len l)) ha
  · exact congrArg (fun l => Spec.sum (List.map Container.len l)) hb

/-- `serialized_size() = 8 + Σ over prefixes (8 + min(2·cardinality, 8192))` — the Roaring space bound. -/
theorem C20_serialized_size (b : Bitmap) (hwf : Bitmap.WF b) :
    Bitmap.serializedSize b = (Spec.stats (Bitmap.elems b)).serializedSize := by
  simp only [Bitmap.serializedSize, Spec.stats, cards_eq b hwf, List.map_map]
  rw [foldl_add]
  congr 1
  rw [Nat.zero_add]
  congr 1
  apply List.map_congr_left
  intro c hc
  have hw := (hwf.2 c hc).2
  cases hs : c.store with
  | array v => rw [hs] at hw; have := hw.2.2; simp [Container.len, hs, Store.len]; omega
  | bitmap bs => rw [hs] at hw; have := hw.2; simp [Container.len, hs, Store.len]; omega

/-- What the SPEC's grouping means on the element list `s` of a well-formed bitmap: the group keys are strictly
    ascending (so pairwise distinct), each group `(k, n)` has `n > 0` = the number of elements of `s` with
    `x / 65536 = k`, and every element's prefix is a group key.  Hence `(Spec.stats s).nContainers` is the
    number of distinct 16-bit prefixes, and the `≤ 4096` / `> 4096` split and the size formula in `Spec.stats`
    are about the number of values under each prefix. -/
theorem C20_groups (b : Bitmap) (hwf : Bitmap.WF b) :
    ((Spec.groups (Bitmap.elems b)).map (·.1)).Pairwise (· < ·) ∧
    (∀ k n, (k, n) ∈ Spec.groups (Bitmap.elems b) →
      0 < n ∧ n = ((Bitmap.elems b).filter (fun x => x / 65536 = k)).length) ∧
    (∀ x ∈ Bitmap.elems b, ∃ n, (x / 65536, n) ∈ Spec.groups (Bitmap.elems b)) ∧
    Spec.groups (Bitmap.elems b) = b.map (fun c => (c.key, c.len)) := by
  have hg := groups_elems b hwf
  have hok := hwf.dir.ok
  rw [hg]
  refine ⟨?_, fun k n hkn => ?_, fun x hx => ?_, rfl⟩
  · rw [List.map_map]
    exact hwf.1
  · obtain ⟨c, hc, e⟩ := List.mem_map.mp hkn
    cases e
    have hinv := hwf.dir.inv hc
    have hlen := Bitmap.cLen_eq c hinv
    refine ⟨hlen ▸ List.length_pos_iff.mpr (hwf.ne c hc), ?_⟩
    rw [hlen, Bitmap.elems_eq_blk, Blk.filter_key hok.keys hok.lt hc, List.length_map]
  · obtain ⟨c, hc, e⟩ := Blk.div_of_mem hok.lt hx
    exact ⟨c.len, List.mem_map.mpr ⟨c, hc, by rw [e]⟩⟩

/-- a bitset store with 65 full words (4160 values) -/
def exBitset : BStore := ⟨4160, List.replicate 65 wMax ++ List.replicate 959 0⟩

/-- Non-vacuity of `C20_counts` / `C20_serialized_size`: a two-chunk bitmap with one array chunk (3 values
    under prefix 0) and one bitset chunk (4160 values under prefix 3) is well-formed. -/
example : Bitmap.WF [⟨0, .array [1, 2, 70]⟩, ⟨3, .bitmap exBitset⟩] := by
  refine ⟨by decide, ?_⟩
  intro c hc
  simp only [List.mem_cons, List.not_mem_nil, or_false] at hc
  rcases hc with rfl | rfl
  · exact ⟨by decide, ⟨by unfold Sorted; decide, by decide⟩, by decide, by decide⟩
  · exact ⟨by decide, BStore.inv_replicate 65 (by decide), by decide⟩

/-- `min_value` / `max_value` are `min()` / `max()` of the set, given `BStoreMinMax` for the bitset stores of `b`
    (first non-zero word + `trailing_zeros`, last non-zero word + `leading_zeros`). -/
theorem C20_minmax_local (b : Bitmap) (h : BitmapWF b)
    (hK : ∀ c ∈ b, ∀ bs, c.store = .bitmap bs → BStoreMinMax bs) :
    (Bitmap.statistics b).minValue = (Spec.stats (Bitmap.elems b)).minValue ∧
    (Bitmap.statistics b).maxValue = (Spec.stats (Bitmap.elems b)).maxValue :=
  stats_minmax b ((bitmapWF_iff b).1 h) hK

theorem C20_minmax_of_kernel (b : Bitmap) (hwf : Bitmap.WF b)
    (hK : ∀ c ∈ b, ∀ bs, c.store = .bitmap bs → BStoreMinMax bs) :
    (Bitmap.statistics b).minValue = (Spec.stats (Bitmap.elems b)).minValue ∧
    (Bitmap.statistics b).maxValue = (Spec.stats (Bitmap.elems b)).maxValue :=
  stats_minmax b hwf hK

/-- **`min_value` / `max_value` are the smallest / largest element of the set** (`BStoreMinMax` is
    `BStore.min?_spec` / `BStore.max?_spec`). -/
theorem C20_minmax (b : Bitmap) (hwf : Bitmap.WF b) :
    (Bitmap.statistics b).minValue = (Spec.stats (Bitmap.elems b)).minValue ∧
    (Bitmap.statistics b).maxValue = (Spec.stats (Bitmap.elems b)).maxValue := by
  refine C20_minmax_of_kernel b hwf ?_
  intro c hc bs hs
  have hst := (hwf.2 c hc).2
  rw [hs] at hst
  exact ⟨BStore.min?_spec bs hst.1, BStore.max?_spec bs hst.1⟩

/-- **C20**, the whole statement: every field of `statistics()` and `serialized_size()` is the value the SPEC
    computes from the element set alone (`Spec.stats`: group the elements by 16-bit prefix; a prefix with
    ≤ 4096 values is an array container, any other a bitset container; no run containers;
    `serialized_size = 8 + Σ (8 + min(2·card, 8192))`; min / max / cardinality of the set). -/
theorem C20 (b : Bitmap) (hwf : Bitmap.WF b) :
    let st := Bitmap.statistics b
    let sp := Spec.stats (Bitmap.elems b)
    st.nContainers = sp.nContainers ∧ st.nArray = sp.nArray ∧ st.nBitset = sp.nBitset ∧ st.nRun = 0 ∧
    st.valuesArray = sp.valuesArray ∧ st.valuesBitset = sp.valuesBitset ∧ st.valuesRun = 0 ∧
    st.cardinality = sp.cardinality ∧ st.minValue = sp.minValue ∧ st.maxValue = sp.maxValue ∧
    Bitmap.serializedSize b = sp.serializedSize := by
  obtain ⟨c1, c2, c3, c4, c5, c6, _⟩ := C20_counts b hwf
  obtain ⟨m1, m2⟩ := C20_minmax b hwf
  exact ⟨c1, c2, c3, rfl, c4, c5, rfl, c6, m1, m2, C20_serialized_size b hwf⟩

attribute [local instance] Concrete.decBitmapWF

/-- Non-vacuity: a two-chunk bitmap (an array chunk with 3 values under prefix 0 and one with 2 values
    under prefix 3) is well-formed, has no bitset store (so the hypothesis of `C20_minmax_of_kernel` holds
    vacuously for it), and the statistics/space-rule values are the expected ones. -/
example :
    let b : Bitmap := [⟨0, .array [1, 2, 70]⟩, ⟨3, .array [0, 65535]⟩]
    Bitmap.WF b ∧ (∀ c ∈ b, ∀ bs, c.store = .bitmap bs → BStoreMinMax bs) ∧
      Spec.stats (Bitmap.elems b) = ⟨2, 2, 0, 5, 0, 5, some 1, some 262143, 34⟩ := by
  refine ⟨by decide, ?_, by decide +kernel⟩
  intro c hc bs hs
  simp only [List.mem_cons, List.not_mem_nil, or_false] at hc
  rcases hc with rfl | rfl <;> cases hs

/-! ### `Bitmap.statisticsM`: the single accumulating loop of statistics.rs:73-89 -/

/-- `Bitmap.statisticsM` — one pass over the containers bumping the `let mut` counters, exactly as the
    Rust does — returns the record of `Bitmap.statistics`, for EVERY value (no well-formedness needed). -/
theorem C20_statistics_mirror_eq (b : Bitmap) : Bitmap.statisticsM b = Bitmap.statistics b :=
  Fidelity.statisticsM_eq b

/-- **C20** for `Bitmap.statisticsM`. -/
theorem C20_mirror (b : Bitmap) (hwf : Bitmap.WF b) :
    let st := Bitmap.statisticsM b
    let sp := Spec.stats (Bitmap.elems b)
    st.nContainers = sp.nContainers ∧ st.nArray = sp.nArray ∧ st.nBitset = sp.nBitset ∧ st.nRun = 0 ∧
    st.valuesArray = sp.valuesArray ∧ st.valuesBitset = sp.valuesBitset ∧ st.valuesRun = 0 ∧
    st.cardinality = sp.cardinality ∧ st.minValue = sp.minValue ∧ st.maxValue = sp.maxValue ∧
    Bitmap.serializedSize b = sp.serializedSize := by
  rw [C20_statistics_mirror_eq]; exact C20 b hwf

/-- Non-vacuity: the loop on a two-chunk value (an array chunk and a second array chunk) -/
example : Bitmap.statisticsM [⟨0, .array [1, 2, 70]⟩, ⟨3, .array [0, 65535]⟩]
    = ⟨2, 2, 0, 0, 5, 0, 0, some 262143, some 1, 5⟩ := by decide +kernel

end Roaring.C20
