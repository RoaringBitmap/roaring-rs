import RoaringModel.Lemmas.MiscLsb0
import RoaringModel.Lemmas.MiscWF
import RoaringModel.Lemmas.MiscLsb0Aligned
import RoaringModel.Lemmas.Canonical
import RoaringModel.Lemmas.BitmapMut2
import RoaringModel.Lemmas.SpecFacts
/-!
# C17 — `from_lsb0_bytes` imports exactly the set bits, canonically (property theorems)

`C17` (no panic, shared `Bitmap.WF`, membership `off + 8i + j`), `C17_elems`,
`C17_canonical` / `C17_eq_native` (the result is structurally THE well-formed bitmap of the SPEC set, e.g. equal
to `from_iter` of it), `C17_panics_iff` / `C17_panics_iff_aligned` / `C17_panic_only_outside` (the exact panic
domain), `C17_full_slice_ok` (a slice ending exactly at `2^32`).  The pieces: the unaligned path (`shift_bytes` +
carry + recursion with the aligned offset) at the bit level; the chunk-split arithmetic; the popcount threshold
(`<= 4096` ⇒ array, canonical cached cardinality for bitsets); per-chunk extraction (word-wise drain,
little-endian byte→word copy: Lemmas/MiscLsb0Store.lean) and the chunk assembly (Lemmas/MiscLsb0Aligned.lean),
which give the statement for a multiple-of-8 offset, `AlignedSpec` (`C17_alignedSpec`).

**Defect D8.**  `from_lsb0_bytes` computes the inclusive end bit `offset + 8·len - 1` in `u64` (commit 1f53bea;
Lsb0.lean mirrors that code), so the theorems hold on the whole DESIGN domain `off + 8·len ≤ 2^32`.  With the
product taken by `u32::checked_mul(8)` it overflows for a slice of exactly `2^29` bytes *before* the `- 1`, and
`from_lsb0_bytes(0, &[0; 1 << 29])` hits the `expect` although the slice ends exactly at `2^32` (also reachable
through an unaligned offset whose carry byte makes the shifted slice `2^29` bytes long):
`corpus/C17/D8-slice-ending-at-2pow32.ops.rustonly`.
-/
namespace Roaring.C17
open Roaring Roaring.Lsb0 Roaring.MiscLemmas

/-- The empty slice is the empty bitmap at every offset (no panic, also at `u32::MAX`). -/
theorem C17_empty (dbg : Bool) (off : Nat) : fromLsb0 dbg off [] = some [] := by
  unfold fromLsb0
  split <;> simp [fromLsb0Aligned, shiftBytes, shiftLoop]

/-- `shift_bytes` at the bit level: for an unaligned offset, the shifted slice (with its carry byte) read
    from the aligned offset `off - off % 8` has exactly the set bits of the original slice read from `off`;
    and it is again a list of bytes. -/
theorem C17_shift_bits (off : Nat) (bytes : List Nat) (hb : ∀ b ∈ bytes, b < 256) (h : off % 8 ≠ 0) :
    (∀ b ∈ shiftBytes bytes (off % 8), b < 256) ∧
    ∀ x, x ∈ Spec.bitsOfBytes (off - off % 8) (shiftBytes bytes (off % 8)) ↔ x ∈ Spec.bitsOfBytes off bytes := by
  have hk : off % 8 < 8 := Nat.mod_lt _ (by decide)
  have hc : 0 < 2 ^ (off % 8) := Nat.two_pow_pos _
  have hbs : ∀ b ∈ shiftBytes bytes (off % 8), b < 256 := shiftLoop_bytes (off % 8) hk bytes 0 hb hc
  have hv : leVal (shiftBytes bytes (off % 8)) = leVal bytes * 2 ^ (off % 8) + 0 :=
    leVal_shiftLoop (off % 8) hk bytes 0 hb hc
  refine ⟨hbs, fun x => ?_⟩
  rw [mem_bitsOfBytes_iff_testBit _ _ hbs, mem_bitsOfBytes_iff_testBit _ _ hb, hv, Nat.add_zero,
    shifted_testBit_iff, Nat.sub_add_cancel (Nat.mod_le off 8)]

/-- Non-vacuity (the doc example of the crate): offset 3, bytes `[0b101, 0b10, 0, 0b1000_0000]`. -/
example : (∀ b ∈ [5, 2, 0, 128], b < 256) ∧ 3 % 8 ≠ 0 ∧
    Spec.bitsOfBytes 3 [5, 2, 0, 128] = [3, 5, 12, 34] ∧ shiftBytes [5, 2, 0, 128] 3 = [40, 16, 0, 0, 4] := by
  decide +kernel

/-- The unaligned call continues at the aligned body with the shifted slice; the shifted slice still ends
    at or before `2^32` whenever the original one does. -/
theorem C17_unaligned (dbg : Bool) (off : Nat) (bytes : List Nat) (h : off % 8 ≠ 0)
    (hfit : off + 8 * bytes.length ≤ 4294967296) :
    fromLsb0 dbg off bytes = fromLsb0Aligned dbg (off - off % 8) (shiftBytes bytes (off % 8)) ∧
    (off - off % 8) % 8 = 0 ∧
    (off - off % 8) + 8 * (shiftBytes bytes (off % 8)).length ≤ 4294967296 := by
  refine ⟨by rw [fromLsb0, if_pos h], Nat.sub_mod_eq_zero_of_mod_eq (Nat.mod_mod off 8).symm, ?_⟩
  have := (shiftLoop_length (off % 8) bytes 0).2
  simp only [shiftBytes]
  omega

/-- The documented panic: an aligned, non-empty slice that extends past `2^32` hits the `expect`. -/
theorem C17_expect_panic (dbg : Bool) (off : Nat) (bytes : List Nat) (hal : off % 8 = 0) (hne : bytes ≠ [])
    (hover : off + 8 * bytes.length > 4294967296) : fromLsb0 dbg off bytes = none := by
  rw [fromLsb0, if_neg fun h => h hal]
  exact fromLsb0Aligned_none dbg off bytes hne hover

/-- Non-vacuity: one byte too many at `2^32 - 8`. -/
example : fromLsb0 true 4294967288 [255, 1] = none := by decide +kernel

/-- Chunk-split arithmetic for an aligned, non-empty slice inside the domain (`so`/`eo` are the byte
    offsets of the first / one past the last byte inside their chunks, `sc`/`ec` the chunk keys):
    keys fit `u16`; in the one-chunk case the first piece is the whole slice and stays inside the chunk;
    otherwise the partial first piece (`8192 - so` bytes), the full pieces and the last piece (`eo` bytes)
    add up to the slice, so no `split_at`, no subtraction and no `assert!(offset + len <= 8192)` can fail. -/
theorem C17_split_arith (off len : Nat) (hal : off % 8 = 0) (hlen : 0 < len) (hfit : off + 8 * len ≤ 4294967296) :
    let e := off + (len * 8 - 1)
    let sc := off / 65536
    let so := off % 65536 / 8
    let ec := e / 65536
    let eo := (e % 65536 + 1) / 8
    ec < 65536 ∧ sc ≤ ec ∧ 0 < eo ∧ eo ≤ 8192 ∧ so < 8192 ∧
    (ec = sc → so + len = eo) ∧
    (sc < ec → so ≠ 0 → (8192 - so) + 8192 * (ec - (sc + 1)) + eo = len) ∧
    (sc < ec → so = 0 → 8192 * (ec - sc) + eo = len) := by
  intro e sc so ec eo
  obtain ⟨h1, h2, h4, h5, hle, hk, hsum⟩ := aligned_split (sc := sc) (so := so) (ec := ec) (eo := eo) hal hlen hfit
    rfl rfl rfl rfl
  refine ⟨hk, hle, h4, h5, h2, fun h => ?_, fun hlt _ => ?_, fun _ h0 => ?_⟩
  · rw [h, Nat.sub_self, Nat.mul_zero, Nat.zero_add] at hsum
    exact hsum
  · rw [Nat.add_assoc]
    exact (aligned_first h1 h2 hlt hsum).2.symm
  · rw [h0, Nat.zero_add] at hsum
    exact hsum.symm

/-- The popcount threshold: a chunk becomes an array store iff at most 4096 bits are set (`<=`,
    `store/mod.rs:76`; with `<` a chunk of exactly 4096 bits is a bitset store, defect D2), a bitset store otherwise
    with the cached cardinality equal to the count; no store at all for an all-zero piece. -/
theorem C17_threshold (dbg : Bool) (bytes : List Nat) (bo : Nat) (st : Option Store)
    (h : storeFromLsb0 dbg bytes bo = some st) :
    (st = none ↔ bitsSet bytes = 0) ∧
    (∀ v, st = some (.array v) → 0 < bitsSet bytes ∧ bitsSet bytes ≤ 4096) ∧
    (∀ b, st = some (.bitmap b) → 4096 < bitsSet bytes ∧ b.len = bitsSet bytes) := by
  unfold storeFromLsb0 at h
  split at h
  · cases h
  · by_cases h0 : bitsSet bytes = 0
    · simp [h0] at h; subst h; simp [h0]
    · by_cases h1 : bitsSet bytes ≤ ARRAY_LIMIT
      · simp only [h0, h1, if_false, if_true, Option.map_eq_some_iff] at h
        obtain ⟨v, _, rfl⟩ := h
        simp only [ARRAY_LIMIT] at h1
        refine ⟨by simp [h0], fun v' _ => ⟨by omega, h1⟩, fun b hb => by cases hb⟩
      · simp only [h0, h1, if_false, Option.map_eq_some_iff] at h
        obtain ⟨b, hb, rfl⟩ := h
        simp only [ARRAY_LIMIT] at h1
        refine ⟨by simp [h0], fun v hv => (by cases hv), fun b' hb' => ?_⟩
        cases hb'
        refine ⟨by omega, ?_⟩
        exact bmFromLsb0_len dbg bytes bo _ _ hb

/-- Non-vacuity: nine set bits in two bytes give an array store (the 4096-bit case, 512 bytes of `0xff`,
    is `corpus/C17/exactly-4096.ops`: too deep for kernel evaluation). -/
example : storeFromLsb0 true [255, 1] 0 = some (some (.array [0, 1, 2, 3, 4, 5, 6, 7, 8])) ∧ bitsSet [255, 1] = 9 := by
  decide +kernel

/-- The slice the aligned body works on: the bytes themselves for a multiple-of-8 offset, the output of
    `shift_bytes` (with its carry byte) otherwise. -/
def alignedSlice (off : Nat) (bytes : List Nat) : List Nat :=
  if off % 8 = 0 then bytes else shiftBytes bytes (off % 8)

theorem C17_eq_aligned (dbg : Bool) (off : Nat) (bytes : List Nat) :
    fromLsb0 dbg off bytes = fromLsb0Aligned dbg (off - off % 8) (alignedSlice off bytes) := by
  unfold fromLsb0 alignedSlice
  by_cases h : off % 8 = 0
  · simp [h]
  · simp [h]

/-- For a multiple-of-8 offset and a slice inside the domain the call succeeds with a well-formed bitmap whose
    elements are exactly the SPEC set. -/
def AlignedSpec (dbg : Bool) : Prop :=
  ∀ (off : Nat) (bytes : List Nat), off % 8 = 0 → (∀ b ∈ bytes, b < 256) → off + 8 * bytes.length ≤ 4294967296 →
    ∃ b, fromLsb0Aligned dbg off bytes = some b ∧ BitmapWF b ∧
      ∀ x, x ∈ Bitmap.elems b ↔ x ∈ Spec.bitsOfBytes off bytes

theorem C17_alignedSpec (dbg : Bool) : AlignedSpec dbg := by
  intro off bytes hal hb hfit
  obtain ⟨b, h1, h2, h3⟩ := fromLsb0Aligned_spec dbg off bytes hal hb hfit
  exact ⟨b, h1, (bitmapWF_iff b).2 h2, fun x => by rw [h3]⟩

/-- The statement of DESIGN §8 C17 (all offsets, aligned or not) from `AlignedSpec`: `shift_bytes`, its
    carry and the recursion are covered here. -/
theorem C17_of_alignedSpec (dbg : Bool) (hA : AlignedSpec dbg) (off : Nat) (bytes : List Nat)
    (hb : ∀ b ∈ bytes, b < 256) (hfit : off + 8 * bytes.length ≤ 4294967296) :
    ∃ b, fromLsb0 dbg off bytes = some b ∧ BitmapWF b ∧
      ∀ x, x ∈ Bitmap.elems b ↔
        ∃ i j byte, bytes[i]? = some byte ∧ j < 8 ∧ byte.testBit j = true ∧ x = off + 8 * i + j := by
  by_cases hal : off % 8 = 0
  · obtain ⟨b, h1, h2, h3⟩ := hA off bytes hal hb hfit
    refine ⟨b, by simp [fromLsb0, hal, h1], h2, fun x => ?_⟩
    rw [h3 x, mem_bitsOfBytes]
  · obtain ⟨hr, ha, hf⟩ := C17_unaligned dbg off bytes hal hfit
    obtain ⟨hbs, hbits⟩ := C17_shift_bits off bytes hb hal
    obtain ⟨b, h1, h2, h3⟩ := hA _ _ ha hbs hf
    refine ⟨b, by rw [hr, h1], h2, fun x => ?_⟩
    rw [h3 x, hbits x, mem_bitsOfBytes]

/-- **C17** (the DESIGN §8 statement).  For every offset and byte slice with
    `off + 8·len ≤ 2^32`, `from_lsb0_bytes(offset, bytes)` does not panic (in either build configuration), the
    result is well-formed (shared `Bitmap.WF`: keys strictly ascending, no empty chunk, array iff at most 4096
    values, correct cached cardinalities) and contains exactly the integers `off + 8i + j` such that bit `j`
    (LSB first) of byte `i` is set. -/
theorem C17 (dbg : Bool) (off : Nat) (bytes : List Nat)
    (hb : ∀ b ∈ bytes, b < 256) (hfit : off + 8 * bytes.length ≤ 4294967296) :
    ∃ b, fromLsb0 dbg off bytes = some b ∧ Bitmap.WF b ∧
      ∀ x, x ∈ Bitmap.elems b ↔
        ∃ i j byte, bytes[i]? = some byte ∧ j < 8 ∧ byte.testBit j = true ∧ x = off + 8 * i + j := by
  obtain ⟨b, h1, h2, h3⟩ := C17_of_alignedSpec dbg (C17_alignedSpec dbg) off bytes hb hfit
  exact ⟨b, h1, (bitmapWF_iff b).1 h2, h3⟩

theorem C17_elems (dbg : Bool) (off : Nat) (bytes : List Nat)
    (hb : ∀ b ∈ bytes, b < 256) (hfit : off + 8 * bytes.length ≤ 4294967296) :
    ∃ b, fromLsb0 dbg off bytes = some b ∧ Bitmap.WF b ∧
      ∀ x, x ∈ Bitmap.elems b ↔ x ∈ Spec.bitsOfBytes off bytes := by
  obtain ⟨b, h1, h2, h3⟩ := C17 dbg off bytes hb hfit
  exact ⟨b, h1, h2, fun x => by rw [h3 x, mem_bitsOfBytes]⟩

/-- The panic domain, exactly: the call panics iff the slice handed to the aligned body (the
    bytes themselves, or the output of `shift_bytes` — one byte longer when the carry is non-zero — read from the
    offset rounded down to a multiple of 8) is non-empty and extends past `2^32`. -/
theorem C17_panics_iff (dbg : Bool) (off : Nat) (bytes : List Nat) (hb : ∀ b ∈ bytes, b < 256) :
    fromLsb0 dbg off bytes = none ↔
      alignedSlice off bytes ≠ [] ∧
        (off - off % 8) + 8 * (alignedSlice off bytes).length > 4294967296 := by
  have hbs : ∀ b ∈ alignedSlice off bytes, b < 256 := by
    unfold alignedSlice
    split
    · exact hb
    · rename_i h
      exact (C17_shift_bits off bytes hb h).1
  have hal : (off - off % 8) % 8 = 0 := Nat.sub_mod_eq_zero_of_mod_eq (Nat.mod_mod off 8).symm
  rw [C17_eq_aligned]
  exact fromLsb0Aligned_eq_none_iff dbg _ _ hal hbs

/-- Inside the domain `off + 8·len ≤ 2^32` there is no panic (`C17`), so a panic happens only outside of it. -/
theorem C17_panic_only_outside (dbg : Bool) (off : Nat) (bytes : List Nat) (hb : ∀ b ∈ bytes, b < 256)
    (h : fromLsb0 dbg off bytes = none) : off + 8 * bytes.length > 4294967296 := by
  by_cases hfit : off + 8 * bytes.length ≤ 4294967296
  · obtain ⟨b, h1, _⟩ := C17 dbg off bytes hb hfit
    rw [h1] at h; cases h
  · omega

/-- For a multiple-of-8 offset the panic condition of `C17_panics_iff` is exactly "non-empty and past `2^32`" (the
    documented panic); for an unaligned offset a slice just past the domain whose carry is zero is still accepted. -/
theorem C17_panics_iff_aligned (dbg : Bool) (off : Nat) (bytes : List Nat) (hb : ∀ b ∈ bytes, b < 256)
    (hal : off % 8 = 0) :
    fromLsb0 dbg off bytes = none ↔ bytes ≠ [] ∧ off + 8 * bytes.length > 4294967296 := by
  rw [C17_panics_iff dbg off bytes hb]
  simp only [alignedSlice, hal, if_true, Nat.sub_zero]

/-- The boundary of defect D8: the full-domain slice (`2^29` bytes at offset 0, ending exactly at `2^32`) is accepted. -/
theorem C17_full_slice_ok (dbg : Bool) (bytes : List Nat) (hb : ∀ b ∈ bytes, b < 256)
    (hl : bytes.length = 536870912) : ∃ b, fromLsb0 dbg 0 bytes = some b ∧ Bitmap.WF b := by
  obtain ⟨b, h1, h2, _⟩ := C17 dbg 0 bytes hb (by omega)
  exact ⟨b, h1, h2⟩

/-! ### canonical form: the result is *the* well-formed bitmap of the SPEC set -/

theorem mem_spec_extend (vs : List Nat) : ∀ (s : List Nat) (x : Nat), x ∈ Spec.extend s vs ↔ x ∈ s ∨ x ∈ vs :=
  Spec.mem_extend vs

/-- The result is structurally equal to ANY well-formed bitmap with the same elements (however it was built). -/
theorem C17_canonical (dbg : Bool) (off : Nat) (bytes : List Nat)
    (hb : ∀ b ∈ bytes, b < 256) (hfit : off + 8 * bytes.length ≤ 4294967296)
    (b' : Bitmap) (hwf : Bitmap.WF b') (hel : ∀ x, x ∈ Bitmap.elems b' ↔ x ∈ Spec.bitsOfBytes off bytes) :
    fromLsb0 dbg off bytes = some b' := by
  obtain ⟨b, h1, h2, h3⟩ := C17_elems dbg off bytes hb hfit
  rw [h1]
  congr 1
  apply Bitmap.canonical b b' h2 hwf
  apply Arr.sorted_ext _ _ (Bitmap.sorted_elems b h2.dir) (Bitmap.sorted_elems b' hwf.dir)
  intro x
  rw [h3 x, hel x]

/-- In particular it is structurally equal (same containers, same store kinds, same cached cardinalities) to the
    bitmap built natively by inserting the SPEC elements one at a time. -/
theorem C17_eq_native (dbg : Bool) (off : Nat) (bytes : List Nat)
    (hb : ∀ b ∈ bytes, b < 256) (hfit : off + 8 * bytes.length ≤ 4294967296) :
    fromLsb0 dbg off bytes = some (Bitmap.fromIter (Spec.bitsOfBytes off bytes)) := by
  have hlt : ∀ v ∈ Spec.bitsOfBytes off bytes, v < 4294967296 := fun v hv =>
    Nat.lt_of_lt_of_le ((sortedIn_bitsOfBytes bytes off).2 v hv).2 hfit
  have hnew : Bitmap.WF Bitmap.new := ⟨List.Pairwise.nil, by simp [Bitmap.new]⟩
  obtain ⟨e1, e2⟩ := Bitmap.extend_spec Bitmap.new hnew (Spec.bitsOfBytes off bytes) hlt
  apply C17_canonical dbg off bytes hb hfit _ e1
  intro x
  rw [e2, mem_spec_extend]
  simp [Bitmap.new, Bitmap.elems]

/-- Non-vacuity of `AlignedSpec`'s conclusion at a concrete aligned point (two chunks: the slice straddles the
    edge at 65536), in both configurations. -/
example : ∀ dbg : Bool, fromLsb0Aligned dbg 65528 [129, 3] = some [⟨0, .array [65528, 65535]⟩, ⟨1, .array [0, 1]⟩]
    ∧ Spec.bitsOfBytes 65528 [129, 3] = [65528, 65535, 65536, 65537] := by
  decide +kernel

end Roaring.C17
