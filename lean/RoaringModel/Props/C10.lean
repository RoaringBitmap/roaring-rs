import RoaringModel.Lemmas.TreemapKernel32
import RoaringModel.Lemmas.TreemapKernel
import RoaringModel.Lemmas.TreemapQuery
import RoaringModel.Lemmas.TreemapRemoveRange
import RoaringModel.Lemmas.TreemapInsertRange
import RoaringModel.Lemmas.TreemapAppend
import RoaringModel.Lemmas.TreemapCanonical
import RoaringModel.Lemmas.TreemapFull
import RoaringModel.Step64
/-!
# C10 — RoaringTreemap is an exact set of u64 under mutation and query (property theorems)

Every theorem is stated against `Spec` on strictly ascending lists of `u64` (`maxV = 2^64-1`).
`TWF t` = keys strictly ascending, every key `< 2^32`, every partition `Bitmap.WF` (Inv.lean) and non-empty.

* Theorems named `…_partial` are stated for an arbitrary bundle `K : Kernel32` of 32-bit refinement facts about
  `RoaringBitmap` (`Treemap.WF K t` = the same invariant over `K.WF`).
* `Treemap.kernel32 : Kernel32` (Lemmas/TreemapKernel.lean) **proves the bundle** for the mirrored 32-bit model
  with `WF := Bitmap.WF` from the core library (C01 mutators, C07 queries, `RoaringBitmap::full()`), and the
  theorems **without** suffix are unconditional: `C10_insert`, `C10_remove`, `C10_contains`, `C10_extend`,
  `C10_push`, `C10_pushUnchecked`, `C10_insertRange` (spans over 1, 2 and ≥ 3 partitions, whole middle partitions
  = `RoaringBitmap::full()`), `C10_removeRange`, `C10_append` / `C10_fromSortedIter`, `C10_fromBitmaps`, `C10_len`,
  `C10_isEmpty`, `C10_isFull` / `C10_isFull_iff` (+ `C10_full` for `RoaringTreemap::full()`), `C10_eq_iff` (the
  derived `==`), `C10_min`, `C10_max`, `C10_rank`, `C10_select`, `C10_new_clear`, `C10_elems`, and the history
  induction `C10_step` / `C10_run` / `C10_history` over the alphabet `Op64` (Step64.lean: `insert`, `remove`,
  `insert_range`, `remove_range`, `push`, `append`, `extend`, `clear`, `contains`, `len`, `is_empty`, `min`, `max`,
  `rank`, `select`, `is_full`): no panic in either build configuration, every returned value is the abstract one.
  Also `C10_eq_iff_eq` (`==` is structural equality of the model value), `C10_convertRange`, and the `split`/`join`
  arithmetic `C10_join_split` / `C10_split_join`.

What is proved at this level is the partition directory: `split`/`join` arithmetic at 2^32, the sorted
association list, creation / replacement / removal of partitions, `elems` = concatenation of the partitions
(Lemmas/TreemapDir, TreemapKernel32, TreemapQuery, TreemapRemoveRange, TreemapInsertRange, TreemapAppend).
-/
namespace Roaring.C10
open Roaring Roaring.TL Roaring.Treemap

/-! ### arithmetic at bit 32 (no hypotheses beyond the integer widths) -/

/-- `join (split v) = v` for every `u64`, and both halves are `u32`. -/
theorem C10_join_split (v : Nat) (hv : v < 18446744073709551616) :
    join (split v).1 (split v).2 = v ∧ (split v).1 < 4294967296 ∧ (split v).2 < 4294967296 :=
  ⟨join_split hv, split_fst_lt v, split_snd_lt v⟩

/-- `split (join hi lo) = (hi, lo)` for `u32` halves; `join` is `hi·2^32 + lo`, a `u64`. -/
theorem C10_split_join (hi lo : Nat) (hh : hi < 4294967296) (hl : lo < 4294967296) :
    split (join hi lo) = (hi, lo) ∧ join hi lo = hi * 4294967296 + lo ∧ join hi lo < 18446744073709551616 :=
  ⟨split_join hh hl, join_eq hl, join_lt hh hl⟩
example : split (join 3 7) = (3, 7) := by decide

/-! ### the abstraction -/

/-- `new()` / `clear()` give the well-formed empty set. -/
theorem C10_new_clear_partial (K : Kernel32) (t : Treemap) :
    WF K Treemap.new ∧ elems Treemap.new = [] ∧ WF K (Treemap.clear t) ∧ elems (Treemap.clear t) = [] :=
  ⟨WFd.nil, rfl, WFd.nil, rfl⟩

/-- The values of a well-formed treemap are strictly ascending `u64`s, and `x` is a value iff its low half is
    in the partition of its high half. -/
theorem C10_elems_partial (K : Kernel32) (t : Treemap) (hw : WF K t) :
    Spec.Sorted (elems t) ∧ (∀ x ∈ elems t, x < 18446744073709551616) ∧
    ∀ x, x ∈ elems t ↔ ∃ b, get t (x / 4294967296) = some b ∧ x % 4294967296 ∈ Bitmap.elems b :=
  ⟨sorted_elems (kE K) hw, elems_lt (kE K) hw, mem_elems (kE K) hw⟩

/-- `insert`: well-formedness is preserved, the set becomes `s ∪ {v}`, the result is `v ∉ s`. -/
theorem C10_insert_partial (K : Kernel32) (t : Treemap) (hw : WF K t) (v : Nat) (hv : v < 18446744073709551616) :
    WF K (Treemap.insert t v).1 ∧ elems (Treemap.insert t v).1 = (Spec.insert (elems t) v).1 ∧
      (Treemap.insert t v).2 = (Spec.insert (elems t) v).2 := insert_spec K t hw v hv

/-- `remove`: the set becomes `s \ {v}` (an emptied partition is dropped), the result is `v ∈ s`. -/
theorem C10_remove_partial (K : Kernel32) (t : Treemap) (hw : WF K t) (v : Nat) (hv : v < 18446744073709551616) :
    WF K (Treemap.remove t v).1 ∧ elems (Treemap.remove t v).1 = (Spec.remove (elems t) v).1 ∧
      (Treemap.remove t v).2 = (Spec.remove (elems t) v).2 := remove_spec K t hw v hv

/-- `contains` answers membership exactly. -/
theorem C10_contains_partial (K : Kernel32) (t : Treemap) (hw : WF K t) (v : Nat) (hv : v < 18446744073709551616) :
    Treemap.contains t v = Spec.contains (elems t) v := contains_spec K t hw v hv

/-- `extend` / `from_iter`: the set becomes `s ∪ vs` (fold of `insert`). -/
theorem C10_extend_partial (K : Kernel32) (vs : List Nat) (hv : ∀ v ∈ vs, v < 18446744073709551616) :
    ∀ (t : Treemap), WF K t →
      WF K (Treemap.extend t vs) ∧ elems (Treemap.extend t vs) = Spec.extend (elems t) vs := extend_spec K vs hv

/-- `push` succeeds exactly when `v` is above the current maximum (it compares with the last partition
    first), and then appends `v`. -/
theorem C10_push_partial (K : Kernel32) (t : Treemap) (hw : WF K t) (v : Nat) (hv : v < 18446744073709551616) :
    WF K (Treemap.push t v).1 ∧ elems (Treemap.push t v).1 = (Spec.push (elems t) v).1 ∧
      (Treemap.push t v).2 = (Spec.push (elems t) v).2 := push_spec K t hw v hv

/-! ### cardinality, emptiness, extrema -/

/-- `len` is the number of values. -/
theorem C10_len_partial (K : Kernel32) (t : Treemap) (hw : WF K t) : Treemap.len t = (elems t).length :=
  len_eq_length K fun p hp => (hw.parts p hp).2.1

/-- `is_empty` answers emptiness (and a well-formed empty treemap has no partition). -/
theorem C10_isEmpty_partial (K : Kernel32) (t : Treemap) (hw : WF K t) :
    Treemap.isEmpty t = (elems t).isEmpty := isEmpty_spec K t hw

/-- `min` is the first value. -/
theorem C10_min_partial (K : Kernel32) (t : Treemap) (hw : WF K t) : Treemap.min? t = Spec.min? (elems t) :=
  min?_spec K t hw

/-- `max` is the last value. -/
theorem C10_max_partial (K : Kernel32) (t : Treemap) (hw : WF K t) : Treemap.max? t = Spec.max? (elems t) :=
  max?_spec K t hw

/-! ### unconditional forms (the 32-bit kernel is `Treemap.kernel32`, proved from the core library); a `C10_X` without
    docstring is `C10_X_partial` at `kernel32` and claims what is said there -/

theorem C10_new_clear (t : Treemap) :
    TWF Treemap.new ∧ elems Treemap.new = [] ∧ TWF (Treemap.clear t) ∧ elems (Treemap.clear t) = [] :=
  C10_new_clear_partial kernel32 t

theorem C10_elems (t : Treemap) (hw : TWF t) :
    Spec.Sorted (elems t) ∧ (∀ x ∈ elems t, x < 18446744073709551616) ∧
    ∀ x, x ∈ elems t ↔ ∃ b, get t (x / 4294967296) = some b ∧ x % 4294967296 ∈ Bitmap.elems b :=
  C10_elems_partial kernel32 t hw

theorem C10_insert (t : Treemap) (hw : TWF t) (v : Nat) (hv : v < 18446744073709551616) :
    TWF (Treemap.insert t v).1 ∧ elems (Treemap.insert t v).1 = (Spec.insert (elems t) v).1 ∧
      (Treemap.insert t v).2 = (Spec.insert (elems t) v).2 := C10_insert_partial kernel32 t hw v hv

theorem C10_remove (t : Treemap) (hw : TWF t) (v : Nat) (hv : v < 18446744073709551616) :
    TWF (Treemap.remove t v).1 ∧ elems (Treemap.remove t v).1 = (Spec.remove (elems t) v).1 ∧
      (Treemap.remove t v).2 = (Spec.remove (elems t) v).2 := C10_remove_partial kernel32 t hw v hv

theorem C10_contains (t : Treemap) (hw : TWF t) (v : Nat) (hv : v < 18446744073709551616) :
    Treemap.contains t v = Spec.contains (elems t) v := C10_contains_partial kernel32 t hw v hv

theorem C10_extend (vs : List Nat) (hv : ∀ v ∈ vs, v < 18446744073709551616) (t : Treemap) (hw : TWF t) :
    TWF (Treemap.extend t vs) ∧ elems (Treemap.extend t vs) = Spec.extend (elems t) vs :=
  C10_extend_partial kernel32 vs hv t hw

/-- `push` succeeds exactly when `v` is above the current maximum, and then appends `v`. -/
theorem C10_push (t : Treemap) (hw : TWF t) (v : Nat) (hv : v < 18446744073709551616) :
    TWF (Treemap.push t v).1 ∧ elems (Treemap.push t v).1 = (Spec.push (elems t) v).1 ∧
      (Treemap.push t v).2 = (Spec.push (elems t) v).2 := C10_push_partial kernel32 t hw v hv

theorem C10_len (t : Treemap) (hw : TWF t) : Treemap.len t = (elems t).length := C10_len_partial kernel32 t hw

/-- `is_empty` answers emptiness. -/
theorem C10_isEmpty (t : Treemap) (hw : TWF t) : Treemap.isEmpty t = (elems t).isEmpty :=
  C10_isEmpty_partial kernel32 t hw

theorem C10_min (t : Treemap) (hw : TWF t) : Treemap.min? t = Spec.min? (elems t) := C10_min_partial kernel32 t hw

theorem C10_max (t : Treemap) (hw : TWF t) : Treemap.max? t = Spec.max? (elems t) := C10_max_partial kernel32 t hw

/-- `convert_range_to_inclusive` (the `u64` copy of treemap/util.rs) computes exactly the interval of values
    selected by the two bounds, and `None` exactly when that interval is empty. -/
theorem C10_convertRange (lo hi : Bound) (hlo : Bound.le u64Max lo) (hhi : Bound.le u64Max hi) :
    convertRange64 lo hi = Spec.interval u64Max lo hi := convertRange64_interval lo hi hlo hhi

/-- `insert_range`: every value of the range is added — for spans inside one partition, across two, and over
    any number of whole middle partitions (which become `RoaringBitmap::full()`) — and the result is the number
    of values that were new.  (The model's counter is a `Nat`: the `u64` counter of the code can overflow only
    when all 2^64 values are new, see C16.) -/
theorem C10_insertRange (t : Treemap) (hw : TWF t) (lo hi : Bound)
    (hlo : Bound.le u64Max lo) (hhi : Bound.le u64Max hi) :
    TWF (Treemap.insertRange t lo hi).1 ∧
    elems (Treemap.insertRange t lo hi).1 = (Spec.insertRange u64Max (elems t) lo hi).1 ∧
    (Treemap.insertRange t lo hi).2 = (Spec.insertRange u64Max (elems t) lo hi).2 :=
  insertRange_spec kernel32 t hw lo hi hlo hhi

/-- `remove_range`: every value of the range is removed, emptied partitions are dropped, and the result is the
    number of values that were present. -/
theorem C10_removeRange (t : Treemap) (hw : TWF t) (lo hi : Bound)
    (hlo : Bound.le u64Max lo) (hhi : Bound.le u64Max hi) :
    TWF (Treemap.removeRange t lo hi).1 ∧
    elems (Treemap.removeRange t lo hi).1 = (Spec.removeRange u64Max (elems t) lo hi).1 ∧
    (Treemap.removeRange t lo hi).2 = (Spec.removeRange u64Max (elems t) lo hi).2 :=
  removeRange_spec kernel32 t hw lo hi hlo hhi

/-- `push_unchecked` of a value above the maximum appends it; neither the debug assertions nor the explicit
    `panic!` fire, in either build configuration. -/
theorem C10_pushUnchecked (dbg : Bool) (t : Treemap) (hw : TWF t) (v : Nat) (hv : v < 18446744073709551616)
    (hmax : ∀ x ∈ elems t, x < v) :
    ∃ t', Treemap.pushUnchecked dbg t v = some t' ∧ TWF t' ∧ elems t' = elems t ++ [v] :=
  pushUnchecked_spec kernel32 dbg t hw v hv hmax

/-- `append`: never panics (in either build configuration); exactly the strictly ascending prefix that starts
    above the current maximum is added; `Ok(n)` iff everything was accepted, else `Err(k)` with exactly the
    first `k` values added. -/
theorem C10_append (dbg : Bool) (t : Treemap) (hw : TWF t) (vs : List Nat) (hvs : ∀ v ∈ vs, v < 18446744073709551616) :
    ∃ t', Treemap.append dbg t vs = some (t', (Spec.append (elems t) vs).2) ∧ TWF t' ∧
      elems t' = (Spec.append (elems t) vs).1 :=
  append_spec kernel32 dbg t hw (C10_max t hw) vs hvs

/-- `from_sorted_iter` is `append` on the empty treemap. -/
theorem C10_fromSortedIter (dbg : Bool) (vs : List Nat) (hvs : ∀ v ∈ vs, v < 18446744073709551616) :
    ∃ t', Treemap.append dbg [] vs = some (t', (Spec.append [] vs).2) ∧ TWF t' ∧ elems t' = (Spec.append [] vs).1 :=
  C10_append dbg [] WFd.nil vs hvs

/-- `rank(v)` is the number of values `≤ v` (whether or not the partition of `v` exists). -/
theorem C10_rank (t : Treemap) (hw : TWF t) (v : Nat) (hv : v < 18446744073709551616) :
    Treemap.rank t v = Spec.rank (elems t) v := rank_spec kernel32 t hw v hv

/-- `select(n)` is the `n`-th smallest value (`None` past the end); the `.unwrap()` on the partition's
    `select` never panics. -/
theorem C10_select (t : Treemap) (hw : TWF t) (n : Nat) :
    Treemap.select t n = some (Spec.select (elems t) n) := select_spec kernel32 t hw n

/-- `from_bitmaps`: empty bitmaps are skipped and a repeated key replaces the earlier partition. -/
theorem C10_fromBitmaps (items : List (Nat × Bitmap)) (h : ∀ p ∈ items, p.1 < 4294967296 ∧ Bitmap.WF p.2) :
    TWF (Treemap.fromBitmaps items) ∧
    elems (Treemap.fromBitmaps items) = Spec.fromBitmaps (items.map (fun p => (p.1, Bitmap.elems p.2))) :=
  fromBitmaps_spec kernel32 items h

/-! ### `==` and `is_full` -/

/-- **`==` is extensional.** The derived `PartialEq` (`BTreeMap` equality: same number of partitions, pairwise
    equal keys and `RoaringBitmap`s — `Treemap.eq`, with `Bitmap.eq` the mirrored 32-bit `==`) of two well-formed
    treemaps holds exactly when they contain the same integers.  (From the canonical-form theorem
    `Treemap.canonical`, Lemmas/TreemapCanonical.lean, over the 32-bit `Bitmap.canonical` / `Bitmap.eq_iff` of C04.) -/
theorem C10_eq_iff (a b : Treemap) (ha : TWF a) (hb : TWF b) :
    Treemap.eq a b = true ↔ elems a = elems b := Treemap.eq_iff_elems a b ha hb

/-- `==` is moreover structural equality of the model values (no hypothesis) -/
theorem C10_eq_iff_eq (a b : Treemap) : Treemap.eq a b = true ↔ a = b := Treemap.eq_iff a b

/-- `is_full` answers "all 2^64 values are present" (as a cardinality, the form the driver's SPEC column uses). -/
theorem C10_isFull (t : Treemap) (hw : TWF t) : Treemap.isFull t = Spec.isFull u64Max (elems t) :=
  Treemap.isFull_spec t hw

/-- **`is_full`, characterised exactly** for every well-formed treemap.  What the code tests — exactly 2^32
    partitions, every one of them `RoaringBitmap::is_full` — is equivalent to: the element list is all of
    `0 ..= u64::MAX` (2^64 entries; every `u64` is a member), and to: `contains(v)` for every `u64`. -/
theorem C10_isFull_iff (t : Treemap) (hw : TWF t) :
    (Treemap.isFull t = true ↔ t.length = 4294967296 ∧ ∀ p ∈ t, Bitmap.isFull p.2 = true) ∧
    (Treemap.isFull t = true ↔ (elems t).length = 18446744073709551616) ∧
    (Treemap.isFull t = true ↔ ∀ v, v < 18446744073709551616 → v ∈ elems t) ∧
    (Treemap.isFull t = true ↔ ∀ v, v < 18446744073709551616 → Treemap.contains t v = true) := by
  refine ⟨by simp [Treemap.isFull], ?_, Treemap.isFull_iff_forall_mem t hw, Treemap.isFull_iff_forall_contains t hw⟩
  rw [C10_isFull t hw]; simp [Spec.isFull, u64Max]

/-- `RoaringTreemap::full()` (2^32 partitions `RoaringBitmap::full()`) is well-formed, `is_full`, and contains
    every `u64`; conversely, by `C10_eq_iff`, every well-formed `is_full` treemap `==` it. -/
theorem C10_full :
    TWF Treemap.full ∧ Treemap.isFull Treemap.full = true ∧
    (∀ v, v < 18446744073709551616 → Treemap.contains Treemap.full v = true) ∧
    ∀ t, TWF t → Treemap.isFull t = true → Treemap.eq t Treemap.full = true :=
  ⟨Treemap.full_TWF, Treemap.isFull_full,
    (Treemap.isFull_iff_forall_contains _ Treemap.full_TWF).mp Treemap.isFull_full,
    fun t hw hf => (C10_eq_iff t _ hw Treemap.full_TWF).mpr
      (Treemap.elems_eq_of_isFull hw Treemap.full_TWF hf Treemap.isFull_full)⟩

/-- non-vacuity: a two-partition treemap is not full, `==` does not see the insertion order and tells a smaller set
    apart -/
example : Treemap.isFull (Treemap.fromIter [1, 5, 8589934595]) = false ∧
    Treemap.eq (Treemap.fromIter [1, 8589934595]) (Treemap.fromIter [8589934595, 1]) = true ∧
    Treemap.eq (Treemap.fromIter [1, 8589934595]) (Treemap.fromIter [1]) = false := by decide +kernel

/-! ### histories (MODEL `Treemap.step` / `Treemap.run`, SPEC `Spec.step64` / `Spec.run64`: Step64.lean) -/

/-- **One step.** Every call on a well-formed value, in either build configuration, succeeds (no panic),
    returns exactly what the set operation reports, and yields a well-formed value whose element list is the
    set operation's result. -/
theorem C10_step (dbg : Bool) (t : Treemap) (h : TWF t) (op : Op64) (hv : op.Valid) :
    ∃ t', Treemap.step dbg t op = some (t', (Spec.step64 (elems t) op).2) ∧ TWF t' ∧
      elems t' = (Spec.step64 (elems t) op).1 := by
  -- both `step` functions reduce on a constructor: each case is the theorem of its operation under `some (_, _)`
  cases op with
  | insert v =>
    obtain ⟨h1, h2, h3⟩ := C10_insert t h v hv
    exact ⟨_, congrArg (fun r => some (_, Ret64.bool r)) h3, h1, h2⟩
  | remove v =>
    obtain ⟨h1, h2, h3⟩ := C10_remove t h v hv
    exact ⟨_, congrArg (fun r => some (_, Ret64.bool r)) h3, h1, h2⟩
  | insertRange lo hi =>
    obtain ⟨h1, h2, h3⟩ := C10_insertRange t h lo hi hv.1 hv.2
    exact ⟨_, congrArg (fun r => some (_, Ret64.count r)) h3, h1, h2⟩
  | removeRange lo hi =>
    obtain ⟨h1, h2, h3⟩ := C10_removeRange t h lo hi hv.1 hv.2
    exact ⟨_, congrArg (fun r => some (_, Ret64.count r)) h3, h1, h2⟩
  | push v =>
    obtain ⟨h1, h2, h3⟩ := C10_push t h v hv
    exact ⟨_, congrArg (fun r => some (_, Ret64.bool r)) h3, h1, h2⟩
  | append vs =>
    obtain ⟨t', h1, h2, h3⟩ := C10_append dbg t h vs hv
    exact ⟨t', congrArg (Option.map fun r : Treemap × Except Nat Nat => (r.1, Ret64.appended r.2)) h1, h2, h3⟩
  | extend vs => exact ⟨_, rfl, C10_extend vs hv t h⟩
  | clear => exact ⟨_, rfl, (C10_new_clear t).2.2⟩
  | contains v => exact ⟨t, congrArg (fun r => some (t, Ret64.bool r)) (C10_contains t h v hv), h, rfl⟩
  | len => exact ⟨t, congrArg (fun r => some (t, Ret64.count r)) (C10_len t h), h, rfl⟩
  | isEmpty => exact ⟨t, congrArg (fun r => some (t, Ret64.bool r)) (C10_isEmpty t h), h, rfl⟩
  | min => exact ⟨t, congrArg (fun r => some (t, Ret64.opt r)) (C10_min t h), h, rfl⟩
  | max => exact ⟨t, congrArg (fun r => some (t, Ret64.opt r)) (C10_max t h), h, rfl⟩
  | rank v => exact ⟨t, congrArg (fun r => some (t, Ret64.count r)) (C10_rank t h v hv), h, rfl⟩
  | select n => exact ⟨t, congrArg (Option.map fun r => (t, Ret64.opt r)) (C10_select t h n), h, rfl⟩
  | isFull => exact ⟨t, congrArg (fun r => some (t, Ret64.bool r)) (C10_isFull t h), h, rfl⟩

theorem C10_run (dbg : Bool) (ops : List Op64) : ∀ (t : Treemap), TWF t → (∀ op ∈ ops, op.Valid) →
    ∃ t', Treemap.run dbg t ops = some (t', (Spec.run64 (elems t) ops).2) ∧ TWF t' ∧
      elems t' = (Spec.run64 (elems t) ops).1 := by
  induction ops with
  | nil => intro t h _; exact ⟨t, rfl, h, rfl⟩
  | cons op ops ih =>
    intro t h hv
    obtain ⟨t1, s1, w1, e1⟩ := C10_step dbg t h op (hv op (List.mem_cons_self ..))
    obtain ⟨t2, s2, w2, e2⟩ := ih t1 w1 (fun o ho => hv o (List.mem_cons_of_mem _ ho))
    refine ⟨t2, ?_, w2, ?_⟩
    · simp only [Treemap.run, s1, s2, Spec.run64, Option.map_some, e1]
    · simp only [Spec.run64]; rw [← e1]; exact e2

/-- **Every history.** After any finite sequence of calls from `RoaringTreemap::new()`, with all `u64`
    arguments, in builds with and without debug assertions: no panic, every returned value (including every
    query along the way) is the abstract one, and the treemap contains exactly the integers the same sequence
    produces on a mathematical set of `u64`. -/
theorem C10_history (dbg : Bool) (ops : List Op64) (hv : ∀ op ∈ ops, op.Valid) :
    ∃ t, Treemap.run dbg Treemap.new ops = some (t, (Spec.run64 [] ops).2) ∧ TWF t ∧
      elems t = (Spec.run64 [] ops).1 :=
  C10_run dbg ops Treemap.new (C10_new_clear []).1 hv

/-! ### non-vacuity: a three-partition treemap built through the public API meets the invariant

A concrete value meets `WFd` for a concrete 32-bit invariant (`wfEx`: ascending `u32`s), the hypothesis of the
`_partial` theorems, and `TWF`, the hypothesis of the unconditional ones. -/

def wfEx (b : Bitmap) : Prop := TL.Sorted (Bitmap.elems b) ∧ ∀ x ∈ Bitmap.elems b, x < 4294967296
private theorem wfEx_elems32 : Elems32 wfEx := ⟨fun _ h => h.1, fun _ h => h.2⟩

/-- `{1, 5, 2^33+3, 2^33+50, 2^34+7}`: partitions 0, 2, 4 (absent partitions in between) -/
def tEx : Treemap := Treemap.fromIter [1, 5, 8589934595, 8589934642, 17179869191]

def tExLit : Treemap := [(0, [{ key := 0, store := .array [1, 5] }]), (2, [{ key := 0, store := .array [3, 50] }]),
    (4, [{ key := 0, store := .array [7] }])]
private theorem tEx_eq : tEx = tExLit := by decide +kernel

theorem tEx_TWF : TWF tEx := by
  rw [tEx_eq]
  refine ⟨by decide, ?_⟩
  intro p hp
  simp only [tExLit, List.mem_cons, List.not_mem_nil, or_false] at hp
  rcases hp with rfl | rfl | rfl <;>
    exact ⟨by decide, ⟨by decide, List.forall_mem_singleton.2
      ⟨by decide, ⟨by unfold Roaring.Sorted; decide, by decide⟩, by decide, by decide⟩⟩, by decide⟩

example : WFd wfEx tEx :=
  ⟨tEx_TWF.sorted, fun p hp =>
    have ⟨h1, h2, h3⟩ := tEx_TWF.parts p hp
    ⟨h1, ⟨elems32.sorted _ h2, elems32.lt _ h2⟩, h3⟩⟩

example : elems tEx = [1, 5, 8589934595, 8589934642, 17179869191] := by decide +kernel
/-- non-vacuity of the history theorem: a concrete history over three partitions satisfies the hypotheses … -/
def opsEx : List Op64 :=
  [.insert 4294967296, .push 5, .insertRange (.incl 4294967290) (.excl 4294967300), .rank 4294967296,
   .removeRange (.incl 0) (.incl 4294967295), .select 3, .append [8589934595, 8589934642, 7]]
example : ∀ op ∈ opsEx, op.Valid := by
  intro op hop
  simp only [opsEx, List.mem_cons, List.not_mem_nil, or_false] at hop
  rcases hop with rfl | rfl | rfl | rfl | rfl | rfl | rfl <;> simp only [Op64.Valid, Bound.le] <;> decide
/-- … and the model ends in the value set the theorem says -/
example : (Treemap.run true Treemap.new opsEx).map (fun r => elems r.1) = some (Spec.run64 [] opsEx).1 := by
  decide +kernel
example : (Spec.run64 [] opsEx).1 = [4294967296, 4294967297, 4294967298, 4294967299, 8589934595, 8589934642] := by
  decide +kernel

/-- `push` compares with the maximum of the whole set: after `insert(2^32)`, `push(5)` is refused -/
example : (Treemap.push (Treemap.insert [] 4294967296).1 5).2 = false := by decide

end Roaring.C10
