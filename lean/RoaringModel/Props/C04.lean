import RoaringModel.Lemmas.Canonical
import RoaringModel.Ser
import RoaringModel.Lemmas.TreemapCanonical
import RoaringModel.Props.C01
import RoaringModel.Props.C10
/-!
# C04 — equality is extensional: same elements, equal values, whatever the history (property theorems)

`Bitmap.eq` is the model of `==` (derived `PartialEq` over `Vec<Container>` with `Store::eq`).
The canonical-form theorem says a well-formed value is determined by its element set; "every producer returns a
well-formed value" (the producer table: the `…_WF` parts of the C01/C02/C06/C09/C17 theorems) then gives
extensional equality for every pair of construction histories.
-/
namespace Roaring.C04
open Roaring

/-- `==` holds exactly when the two values contain the same integers (32-bit) -/
theorem C04_eq_iff_elems (a b : Bitmap) (ha : a.WF) (hb : b.WF) :
    Bitmap.eq a b = true ↔ Bitmap.elems a = Bitmap.elems b := by
  rw [Bitmap.eq_iff]
  constructor
  · intro h; rw [h]
  · exact Bitmap.canonical a b ha hb

/-- consequently equal sets serialize to identical bytes and report the same `serialized_size` -/
theorem C04_serialize_eq (a b : Bitmap) (ha : a.WF) (hb : b.WF) (h : Bitmap.elems a = Bitmap.elems b) :
    Bitmap.serialize a = Bitmap.serialize b ∧ Bitmap.serializedSize a = Bitmap.serializedSize b := by
  rw [Bitmap.canonical a b ha hb h]; exact ⟨rfl, rfl⟩

theorem C04_canonical (a b : Bitmap) (ha : a.WF) (hb : b.WF) (h : Bitmap.elems a = Bitmap.elems b) : a = b :=
  Bitmap.canonical a b ha hb h

/-- four rows of the producer table (each returns a well-formed value): `new`, `insert`, `remove`, `remove_range`;
    the other rows are the `…_WF` parts of the theorems the header names -/
theorem C04_producers_partial (b : Bitmap) (h : b.WF) (v : Nat) (hv : v < 4294967296) (lo hi : Bound)
    (hlo : Bound.le u32Max lo) (hhi : Bound.le u32Max hi) :
    Bitmap.WF Bitmap.new ∧ (Bitmap.insert b v).1.WF ∧ (Bitmap.remove b v).1.WF ∧
    (Bitmap.removeRange b lo hi).1.WF :=
  ⟨⟨List.Pairwise.nil, by simp [Bitmap.new]⟩, (Bitmap.insert_spec b h v hv).1, (Bitmap.remove_spec b h v).1,
   (Bitmap.removeRange_spec b h lo hi hlo hhi).1⟩

/-- **64-bit.** Two well-formed treemaps (partition keys strictly ascending and `< 2^32`, every partition a
    well-formed non-empty 32-bit bitmap) with the same elements are the same value -/
theorem C04_canonical64 (s t : Treemap) (hs : Treemap.WFd Bitmap.WF s) (ht : Treemap.WFd Bitmap.WF t)
    (h : Treemap.elems s = Treemap.elems t) : s = t :=
  Treemap.canonical s t hs ht h

/-- `==` on treemaps holds exactly when they contain the same integers -/
theorem C04_eq_iff_elems64 (s t : Treemap) (hs : Treemap.WFd Bitmap.WF s) (ht : Treemap.WFd Bitmap.WF t) :
    Treemap.eq s t = true ↔ Treemap.elems s = Treemap.elems t :=
  Treemap.eq_iff_elems s t hs ht

/-- **Whatever the history (32-bit).** Two finite mutation histories from `new()` that produce the same mathematical
    set produce *the same value* (hence `==`, identical bytes, same `serialized_size`), in either build configuration. -/
theorem C04_histories32 (dbg : Bool) (ops1 ops2 : List Op32) (h1 : ∀ op ∈ ops1, op.Valid) (h2 : ∀ op ∈ ops2, op.Valid)
    (h : (Spec.run [] ops1).1 = (Spec.run [] ops2).1) :
    ∃ b, Bitmap.run dbg Bitmap.new ops1 = some (b, (Spec.run [] ops1).2) ∧
         Bitmap.run dbg Bitmap.new ops2 = some (b, (Spec.run [] ops2).2) := by
  obtain ⟨b1, r1, w1, e1⟩ := C01.C01_history dbg ops1 h1
  obtain ⟨b2, r2, w2, e2⟩ := C01.C01_history dbg ops2 h2
  have : b1 = b2 := Bitmap.canonical b1 b2 w1 w2 (by rw [e1, e2, h])
  subst this
  exact ⟨b1, r1, r2⟩

/-- **Whatever the history (64-bit).** The same for `RoaringTreemap` histories (insert, remove, ranges, push, append,
    extend, clear and the queries of `Op64`). -/
theorem C04_histories64 (dbg : Bool) (ops1 ops2 : List Op64) (h1 : ∀ op ∈ ops1, op.Valid) (h2 : ∀ op ∈ ops2, op.Valid)
    (h : (Spec.run64 [] ops1).1 = (Spec.run64 [] ops2).1) :
    ∃ t, Treemap.run dbg Treemap.new ops1 = some (t, (Spec.run64 [] ops1).2) ∧
         Treemap.run dbg Treemap.new ops2 = some (t, (Spec.run64 [] ops2).2) := by
  obtain ⟨t1, r1, w1, e1⟩ := C10.C10_history dbg ops1 h1
  obtain ⟨t2, r2, w2, e2⟩ := C10.C10_history dbg ops2 h2
  have : t1 = t2 := Treemap.canonical t1 t2 w1 w2 (by rw [e1, e2, h])
  subst this
  exact ⟨t1, r1, r2⟩

/-- non-vacuity (64-bit): a two-partition treemap reached by two insertion orders -/
example : (Treemap.insert (Treemap.insert [] 5).1 8589934599).1 = (Treemap.insert (Treemap.insert [] 8589934599).1 5).1 := by
  decide +kernel

/-- non-vacuity: the same set {5, 70000} reached by two different histories is one value -/
example : (Bitmap.insert (Bitmap.insert [] 5).1 70000).1 = (Bitmap.remove (Bitmap.insert (Bitmap.insert (Bitmap.insert [] 70000).1 9).1 5).1 9).1 := by
  decide +kernel

/-! ### `==` as the driver executes it (`Bitmap.eqMirror`, `Mirror32.lean`): `Store::eq` compares two bitsets through
    their cached `len` and the *zipped value iterators* (store/mod.rs:524-527), not word by word; equal to `Bitmap.eq`
    on stores satisfying their invariant (`Bitmap.eq_mirror_eq`; `Bitmap.WF` provides it). -/

theorem C04_eqMirror_iff_elems (a b : Bitmap) (ha : a.WF) (hb : b.WF) :
    Bitmap.eqMirror a b = true ↔ Bitmap.elems a = Bitmap.elems b := by
  rw [Bitmap.eq_mirror_eq a b ha.storesInv hb.storesInv]; exact C04_eq_iff_elems a b ha hb

/-- producer row `full()` (inherent.rs:35): well-formed -/
theorem C04_producer_full : Bitmap.WF Bitmap.full := Bitmap.full_wf

/-- non-vacuity: a well-formed two-chunk value with a bitset chunk; `eqMirror` evaluated through the equality
    theorem (a kernel evaluation of two full `BitmapIter` drains is slow on the list model), and directly on
    array chunks -/
def exBits : BStore := { len := 4160, bits := List.replicate 65 wMax ++ List.replicate 959 0 }
def exA : Bitmap := [⟨0, .array [1, 5, 65535]⟩, ⟨7, .bitmap exBits⟩]

example : exA.WF ∧ Bitmap.eqMirror exA exA = true ∧
    Bitmap.eqMirror [⟨0, .array [1, 5]⟩, ⟨3, .array [9]⟩] [⟨0, .array [1, 5]⟩, ⟨3, .array [8]⟩] = false := by
  have hwf : exA.WF := by
    refine ⟨by decide, List.forall_mem_cons.2 ⟨?_, List.forall_mem_cons.2 ⟨?_, nofun⟩⟩⟩
    · exact ⟨by decide, ⟨⟨by unfold Sorted; decide, by decide⟩, by decide, by decide⟩⟩
    · -- 65 full words, then 959 empty ones
      exact ⟨by decide, BStore.inv_replicate 65 (by decide), by decide⟩
  refine ⟨hwf, ?_, by decide +kernel⟩
  rw [Bitmap.eq_mirror_eq exA exA hwf.storesInv hwf.storesInv]
  exact (Bitmap.eq_iff exA exA).mpr rfl

end Roaring.C04
