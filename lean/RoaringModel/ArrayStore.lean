import RoaringModel.Word
/-!
# `ArrayStore` — sorted `Vec<u16>` (array_store/mod.rs, scalar.rs, visitor.rs)

The vector is a `List Nat`.  `binary_search` on a sorted, duplicate-free vector is modelled by its
contract (`Ok(i)` with `v[i] = x`, else `Err(lower bound)`).
-/
namespace Roaring
namespace Arr

/-- number of elements `< x` at the front: the `Err` position of `binary_search` on sorted input -/
def lowerBound (v : List Nat) (x : Nat) : Nat := (v.takeWhile (· < x)).length

/-- `vec.binary_search(&x)`: `(true, i)` for `Ok(i)`, `(false, i)` for `Err(i)` -/
def bsearch (v : List Nat) (x : Nat) : Bool × Nat :=
  let i := lowerBound v x
  (v[i]? == some x, i)

/-- array_store/mod.rs:85 `insert` -/
def insert (v : List Nat) (x : Nat) : List Nat × Bool :=
  match bsearch v x with
  | (true, _) => (v, false)
  | (false, loc) => (v.take loc ++ x :: v.drop loc, true)

/-- array_store/mod.rs:89 `insert_range` (callers guarantee `s ≤ e`) -/
def insertRange (v : List Nat) (s e : Nat) : List Nat × Nat :=
  let ps := (bsearch v s).2
  let pe := ps + (match bsearch (v.drop ps) e with
    | (true, x) => x + 1
    | (false, x) => x)
  (v.take ps ++ List.range' s (e - s + 1) ++ v.drop pe, e - s + 1 - (pe - ps))

def max? (v : List Nat) : Option Nat := v.getLast?
def min? (v : List Nat) : Option Nat := v.head?

/-- array_store/mod.rs:109 `push` -/
def push (v : List Nat) (x : Nat) : List Nat × Bool :=
  match max? v with
  | none => (v ++ [x], true)
  | some m => if m < x then (v ++ [x], true) else (v, false)

/-- array_store/mod.rs:125 `push_unchecked`; `none` = the debug assertion fired -/
def pushUnchecked (dbg : Bool) (v : List Nat) (x : Nat) : Option (List Nat) :=
  if dbg then
    match max? v with
    | some m => if x > m then some (v ++ [x]) else none
    | none => some (v ++ [x])
  else some (v ++ [x])

/-- array_store/mod.rs:134 `remove` -/
def remove (v : List Nat) (x : Nat) : List Nat × Bool :=
  match bsearch v x with
  | (true, loc) => (v.take loc ++ v.drop (loc + 1), true)
  | (false, _) => (v, false)

/-- array_store/mod.rs:138 `remove_range` (callers guarantee `s ≤ e`) -/
def removeRange (v : List Nat) (s e : Nat) : List Nat × Nat :=
  let ps := (bsearch v s).2
  let pe := ps + (match bsearch (v.drop ps) e with
    | (true, x) => x + 1
    | (false, x) => x)
  (v.take ps ++ v.drop pe, pe - ps)

/-- array_store/mod.rs:153 `remove_smallest`: `rotate_left(n); truncate(len - n)` (callers guarantee `n ≤ len`) -/
def removeSmallest (v : List Nat) (n : Nat) : List Nat :=
  (v.drop n ++ v.take n).take (v.length - n)

/-- array_store/mod.rs:158 `remove_biggest` -/
def removeBiggest (v : List Nat) (n : Nat) : List Nat := v.take (v.length - n)

def contains (v : List Nat) (x : Nat) : Bool := (bsearch v x).1

/-- array_store/mod.rs:166 `contains_range` (callers guarantee `s ≤ e`) -/
def containsRange (v : List Nat) (s e : Nat) : Bool :=
  let rangeCount := e - s + 1
  if v.length < rangeCount then false
  else match bsearch v s with
    | (false, _) => false
    | (true, i) => v[i + rangeCount - 1]? == some e

/-- array_store/mod.rs:183 `is_disjoint` -/
def isDisjoint : List Nat → List Nat → Bool
  | [], _ => true
  | _, [] => true
  | a :: l, b :: r =>
    if a = b then false
    else if a < b then isDisjoint l (b :: r)
    else isDisjoint (a :: l) r
termination_by l r => l.length + r.length

/-- array_store/mod.rs:196 `is_subset` -/
def isSubset : List Nat → List Nat → Bool
  | [], _ => true
  | _ :: _, [] => false
  | a :: l, b :: r =>
    if a = b then isSubset l r
    else if a < b then false
    else isSubset (a :: l) r
termination_by l r => l.length + r.length

/-- scalar.rs `or` -/
def or : List Nat → List Nat → List Nat
  | [], r => r
  | l, [] => l
  | a :: l, b :: r =>
    if a < b then a :: or l (b :: r)
    else if b < a then b :: or (a :: l) r
    else a :: or l r
termination_by l r => l.length + r.length

/-- scalar.rs `and` -/
def and : List Nat → List Nat → List Nat
  | [], _ => []
  | _, [] => []
  | a :: l, b :: r =>
    if a < b then and l (b :: r)
    else if b < a then and (a :: l) r
    else a :: and l r
termination_by l r => l.length + r.length

/-- scalar.rs `sub` -/
def sub : List Nat → List Nat → List Nat
  | [], _ => []
  | l, [] => l
  | a :: l, b :: r =>
    if a < b then a :: sub l (b :: r)
    else if b < a then sub (a :: l) r
    else sub l r
termination_by l r => l.length + r.length

/-- scalar.rs `xor` -/
def xor : List Nat → List Nat → List Nat
  | [], r => r
  | l, [] => l
  | a :: l, b :: r =>
    if a < b then a :: xor l (b :: r)
    else if b < a then b :: xor (a :: l) r
    else xor l r
termination_by l r => l.length + r.length

/-- array_store/mod.rs:215 `intersection_len` = `scalar::and` into a `CardinalityCounter` -/
def interLen : List Nat → List Nat → Nat
  | [], _ => 0
  | _, [] => 0
  | a :: l, b :: r =>
    if a < b then interLen l (b :: r)
    else if b < a then interLen (a :: l) r
    else 1 + interLen l r
termination_by l r => l.length + r.length

/-- `i += rhs.iter().skip(i).position(|y| *y >= x).unwrap_or(rhs.len())` — the galloping index of the
    in-place `&=` / `-=`; `rest` is `rhs[i..]`, the result is the new `rhs[i..]`.
    (When `position` is `None`, `i` becomes `≥ rhs.len()` and `rhs.get(i)` is `None`: same as `[]`.) -/
def gallop (rest : List Nat) (x : Nat) : List Nat := rest.dropWhile (· < x)

/-- array_store/mod.rs:374 `bitand_assign(&Self)` (scalar path): `retain` with the galloping index -/
def andAssign : List Nat → List Nat → List Nat
  | [], _ => []
  | x :: l, rest =>
    let rest' := gallop rest x
    if rest'.head? == some x then x :: andAssign l rest' else andAssign l rest'

/-- array_store/mod.rs:413 `sub_assign(&Self)` (scalar path) -/
def subAssign : List Nat → List Nat → List Nat
  | [], _ => []
  | x :: l, rest =>
    let rest' := gallop rest x
    if rest'.head? == some x then subAssign l rest' else x :: subAssign l rest'

def rank (v : List Nat) (x : Nat) : Nat :=
  match bsearch v x with
  | (true, i) => i + 1
  | (false, i) => i

def select (v : List Nat) (n : Nat) : Option Nat := v[n]?

/-- `TryFrom<Vec<u16>>`: strictly ascending check -/
def isStrictlySorted : List Nat → Bool
  | [] => true
  | [_] => true
  | a :: b :: l => a < b && isStrictlySorted (b :: l)

/-- `from_vec_unchecked`: with debug assertions the vector is validated (`none` = panic) -/
def fromVecUnchecked (dbg : Bool) (v : List Nat) : Option (List Nat) :=
  if dbg then (if isStrictlySorted v then some v else none) else some v


/-! ### `scalar.rs` / `visitor.rs` as the ONE generic function per operator that the Rust has (fidelity audit)

`Arr.or/and/sub/xor` above are the merges specialised to the `VecWriter` visitor (result = the written vector) and
`Arr.interLen` is `and` specialised to the `CardinalityCounter` visitor.  Below, the visitor is a parameter, as in the
Rust; the equalities `scalar*_vecWriter` / `scalarAnd_cardCounter` are unconditional and the `@[csimp]` equations make
the compiled driver execute the generic code with the respective visitor wherever the model calls
`Arr.or/and/sub/xor/interLen`.  The theorems stay about the specialised definitions. -/

/-- visitor.rs:14-19 `BinaryOperationVisitor` (without the `simd`-only `visit_vector`): the visitor's state `σ` and its
    two callbacks, state-passing -/
structure Visitor (σ : Type) where
  visitScalar : σ → Nat → σ
  visitSlice : σ → List Nat → σ

/-- visitor.rs:23-63 `VecWriter`: `visit_scalar` = `vec.push(value)`, `visit_slice` = `vec.extend_from_slice(values)` -/
def vecWriter : Visitor (Array Nat) :=
  { visitScalar := fun vec x => vec.push x, visitSlice := fun vec xs => vec ++ xs.toArray }

/-- visitor.rs:65-92 `CardinalityCounter`: `count += 1`, `count += values.len()` -/
def cardCounter : Visitor Nat :=
  { visitScalar := fun count _ => count + 1, visitSlice := fun count xs => count + xs.length }

/-- scalar.rs:7-38 `or`, generic in the visitor; the two lists are `lhs[i..]` and `rhs[j..]` -/
def scalarOr {σ : Type} (V : Visitor σ) : List Nat → List Nat → σ → σ
  | [], r, st => V.visitSlice (V.visitSlice st []) r                 -- visit_slice(&lhs[i..]); visit_slice(&rhs[j..])
  | a :: l, [], st => V.visitSlice (V.visitSlice st (a :: l)) []
  | a :: l, b :: r, st =>
    if a < b then scalarOr V l (b :: r) (V.visitScalar st a)         -- Less
    else if b < a then scalarOr V (a :: l) r (V.visitScalar st b)    -- Greater
    else scalarOr V l r (V.visitScalar st a)                         -- Equal
termination_by l r => l.length + r.length

/-- scalar.rs:41-62 `and` -/
def scalarAnd {σ : Type} (V : Visitor σ) : List Nat → List Nat → σ → σ
  | [], _, st => st
  | _ :: _, [], st => st
  | a :: l, b :: r, st =>
    if a < b then scalarAnd V l (b :: r) st
    else if b < a then scalarAnd V (a :: l) r st
    else scalarAnd V l r (V.visitScalar st a)
termination_by l r => l.length + r.length

/-- scalar.rs:65-91 `sub` -/
def scalarSub {σ : Type} (V : Visitor σ) : List Nat → List Nat → σ → σ
  | [], _, st => V.visitSlice st []                                  -- visit_slice(&lhs[i..])
  | a :: l, [], st => V.visitSlice st (a :: l)
  | a :: l, b :: r, st =>
    if a < b then scalarSub V l (b :: r) (V.visitScalar st a)
    else if b < a then scalarSub V (a :: l) r st
    else scalarSub V l r st
termination_by l r => l.length + r.length

/-- scalar.rs:94-124 `xor` -/
def scalarXor {σ : Type} (V : Visitor σ) : List Nat → List Nat → σ → σ
  | [], r, st => V.visitSlice (V.visitSlice st []) r
  | a :: l, [], st => V.visitSlice (V.visitSlice st (a :: l)) []
  | a :: l, b :: r, st =>
    if a < b then scalarXor V l (b :: r) (V.visitScalar st a)
    else if b < a then scalarXor V (a :: l) r (V.visitScalar st b)
    else scalarXor V l r st
termination_by l r => l.length + r.length

/-! In each proof the first `simp` unfolds the merge one step and uses the induction hypothesis (stated with the visitor
    folded), the second evaluates the visitor's callbacks. -/

theorem scalarOr_vecWriter (l r : List Nat) (acc : Array Nat) :
    (scalarOr vecWriter l r acc).toList = acc.toList ++ or l r := by
  fun_induction scalarOr vecWriter l r acc <;> simp [or, *] <;> simp [vecWriter]

theorem scalarAnd_vecWriter (l r : List Nat) (acc : Array Nat) :
    (scalarAnd vecWriter l r acc).toList = acc.toList ++ and l r := by
  fun_induction scalarAnd vecWriter l r acc <;> simp [and, *] <;> simp [vecWriter]

theorem scalarSub_vecWriter (l r : List Nat) (acc : Array Nat) :
    (scalarSub vecWriter l r acc).toList = acc.toList ++ sub l r := by
  fun_induction scalarSub vecWriter l r acc <;> simp [sub, *] <;> simp [vecWriter]

theorem scalarXor_vecWriter (l r : List Nat) (acc : Array Nat) :
    (scalarXor vecWriter l r acc).toList = acc.toList ++ xor l r := by
  fun_induction scalarXor vecWriter l r acc <;> simp [xor, *] <;> simp [vecWriter]

theorem scalarAnd_cardCounter (l r : List Nat) (n : Nat) :
    scalarAnd cardCounter l r n = n + interLen l r := by
  fun_induction scalarAnd cardCounter l r n <;> simp [interLen, *] <;> simp [cardCounter] <;> omega

/-- `VecWriter::new(cap)`, `scalar::or(.., &mut visitor)`, `visitor.into_inner()` (array_store/mod.rs:353-359, before
    `from_vec_unchecked`) -/
def orVisit (a b : List Nat) : List Nat := (scalarOr vecWriter a b #[]).toList
def andVisit (a b : List Nat) : List Nat := (scalarAnd vecWriter a b #[]).toList
def subVisit (a b : List Nat) : List Nat := (scalarSub vecWriter a b #[]).toList
def xorVisit (a b : List Nat) : List Nat := (scalarXor vecWriter a b #[]).toList
/-- array_store/mod.rs:215-222 `intersection_len`: `CardinalityCounter::new()`, `scalar::and`, `into_inner()` -/
def interLenVisit (a b : List Nat) : Nat := scalarAnd cardCounter a b 0

@[csimp] theorem or_eq_visit : @or = @orVisit := by funext a b; simp [orVisit, scalarOr_vecWriter]
@[csimp] theorem and_eq_visit : @and = @andVisit := by funext a b; simp [andVisit, scalarAnd_vecWriter]
@[csimp] theorem sub_eq_visit : @sub = @subVisit := by funext a b; simp [subVisit, scalarSub_vecWriter]
@[csimp] theorem xor_eq_visit : @xor = @xorVisit := by funext a b; simp [xorVisit, scalarXor_vecWriter]
@[csimp] theorem interLen_eq_visit : @interLen = @interLenVisit := by
  funext a b; simp [interLenVisit, scalarAnd_cardCounter]

/-! #### the four `&ArrayStore ∘ &ArrayStore` operator impls with their closing `from_vec_unchecked` (fidelity audit)

`Store.orRef` etc. use the bare merge result `Arr.or a b`; the Rust wraps it in `ArrayStore::from_vec_unchecked`, which
validates the vector in a debug build (`none` = the `unwrap()` panics).  `Lemmas/MirrorLemmas.lean` proves
`orOp dbg a b = some (Arr.or a b)` for strictly ascending operands (what `Store.Inv` provides): the validation never
fires, so dropping it in `Store.*` loses nothing on well-formed values. -/

/-- array_store/mod.rs:348-361 `BitOr for &ArrayStore` -/
def orOp (dbg : Bool) (a b : List Nat) : Option (List Nat) := fromVecUnchecked dbg (orVisit a b)
/-- array_store/mod.rs:363-374 `BitAnd for &ArrayStore` -/
def andOp (dbg : Bool) (a b : List Nat) : Option (List Nat) := fromVecUnchecked dbg (andVisit a b)
/-- array_store/mod.rs:402-413 `Sub for &ArrayStore` -/
def subOp (dbg : Bool) (a b : List Nat) : Option (List Nat) := fromVecUnchecked dbg (subVisit a b)
/-- array_store/mod.rs:441-454 `BitXor for &ArrayStore` -/
def xorOp (dbg : Bool) (a b : List Nat) : Option (List Nat) := fromVecUnchecked dbg (xorVisit a b)

end Arr
end Roaring
