/-!
# Word-level arithmetic of `bitmap_store.rs`

`u64` words are modelled as `Nat` below `2^64`.  Every definition mirrors one Rust expression; the
Rust text is quoted next to it.  This file is import-free so that the driver links as a `lean_exe`.
-/
namespace Roaring

/-- `2^64` -/
def W : Nat := 18446744073709551616
/-- `u64::MAX` -/
def wMax : Nat := 18446744073709551615

/-- `!w` on `u64` -/
@[inline] def not64 (w : Nat) : Nat := wMax ^^^ w

/-- `w.count_ones()` (on any Nat; for words < 2^64 it is the Rust value) -/
def popcount (w : Nat) : Nat :=
  if h : w = 0 then 0 else (w % 2) + popcount (w / 2)
decreasing_by omega

/-- `w.trailing_zeros()`; `tz 0 = 64` as in Rust -/
def tz : Nat → Nat
  | 0 => 64
  | n+1 => if (n+1) % 2 = 1 then 0 else tz ((n+1)/2) + 1
decreasing_by omega

/-! ### compiled-code replacements (`@[csimp]`, kernel-checked equalities)

`popcount` and `tz` recurse bit by bit; on words with bit 63 set that is bignum arithmetic in compiled
code.  The proved equalities below let the compiler evaluate them on the two 32-bit halves instead.
They change nothing for the logic: the definitions above are what every theorem is about. -/

theorem popcount_zero : popcount 0 = 0 := by unfold popcount; simp
theorem popcount_step (w : Nat) : popcount w = w % 2 + popcount (w / 2) := by
  by_cases h : w = 0
  · subst h; simp [popcount_zero]
  · rw [popcount]; simp [h]

/-! Peeling the lowest bit off `w % 2^(k+1)` and `w / 2^(k+1)`: the steps of every induction on `k` below. -/

theorem mod_two_pow_succ_mod_two (w k : Nat) : w % 2^(k+1) % 2 = w % 2 := by
  rw [Nat.pow_succ, Nat.mul_comm]; exact Nat.mod_mul_right_mod w 2 (2^k)
theorem mod_two_pow_succ_div_two (w k : Nat) : w % 2^(k+1) / 2 = w / 2 % 2^k := by
  rw [Nat.pow_succ, Nat.mul_comm, Nat.mod_mul_right_div_self]
theorem div_two_pow_succ (w k : Nat) : w / 2^(k+1) = w / 2 / 2^k := by
  rw [Nat.pow_succ, Nat.mul_comm, Nat.div_div_eq_div_mul]

theorem popcount_split (k : Nat) : ∀ w, popcount w = popcount (w % 2^k) + popcount (w / 2^k) := by
  induction k with
  | zero => intro w; simp [Nat.mod_one, popcount_zero]
  | succ k ih =>
    intro w
    rw [popcount_step w, ih (w/2), popcount_step (w % 2^(k+1)), mod_two_pow_succ_mod_two,
      mod_two_pow_succ_div_two, div_two_pow_succ]
    omega

def popcountFast (w : Nat) : Nat := popcount (w % 4294967296) + popcount (w / 4294967296)
@[csimp] theorem popcount_eq_fast : @popcount = @popcountFast := by
  funext w; unfold popcountFast; exact popcount_split 32 w

theorem tz_zero : tz 0 = 64 := by unfold tz; rfl
theorem tz_odd (w : Nat) (h : w % 2 = 1) : tz w = 0 := by
  cases w with
  | zero => simp at h
  | succ n => unfold tz; simp [h]
theorem tz_even (w : Nat) (h0 : w ≠ 0) (h : w % 2 = 0) : tz w = tz (w / 2) + 1 := by
  cases w with
  | zero => contradiction
  | succ n => conv => lhs; unfold tz
              simp [h]

theorem tz_mod (k : Nat) : ∀ w, w % 2^k ≠ 0 → tz w = tz (w % 2^k) := by
  induction k with
  | zero => intro w h; simp [Nat.mod_one] at h
  | succ k ih =>
    intro w h
    have h1 := mod_two_pow_succ_mod_two w k
    have h2 := mod_two_pow_succ_div_two w k
    by_cases hodd : w % 2 = 1
    · rw [tz_odd w hodd, tz_odd _ (h1.trans hodd)]
    · have hev : w % 2 = 0 := (Nat.mod_two_eq_zero_or_one w).resolve_right hodd
      have hw0 : w ≠ 0 := by intro h0; subst h0; simp at h
      rw [tz_even w hw0 hev, tz_even _ h (h1.trans hev), h2]
      -- `w % 2^(k+1)` is even and not `0`, so its half is not `0`
      have : w / 2 % 2^k ≠ 0 := fun hz =>
        h (by rw [← Nat.div_add_mod (w % 2^(k+1)) 2, h2, hz, h1, hev])
      rw [ih (w/2) this]

theorem tz_div (k : Nat) : ∀ w, w ≠ 0 → w % 2^k = 0 → tz w = k + tz (w / 2^k) := by
  induction k with
  | zero => intro w _ _; simp
  | succ k ih =>
    intro w hw h
    have hev : w % 2 = 0 := by rw [← mod_two_pow_succ_mod_two w k, h]
    have h3 : w / 2 % 2^k = 0 := by rw [← mod_two_pow_succ_div_two, h]
    have hw2 : w / 2 ≠ 0 := fun hz => hw (by rw [← Nat.div_add_mod w 2, hz, hev])
    rw [tz_even w hw hev, ih (w/2) hw2 h3, div_two_pow_succ]
    exact Nat.add_right_comm k _ 1

def tzFast (w : Nat) : Nat :=
  if w = 0 then 64
  else if w % 4294967296 ≠ 0 then tz (w % 4294967296) else 32 + tz (w / 4294967296)
@[csimp] theorem tz_eq_fast : @tz = @tzFast := by
  funext w; unfold tzFast
  by_cases h0 : w = 0
  · subst h0; simp [tz_zero]
  · simp only [h0, if_false]
    by_cases h : w % 4294967296 ≠ 0
    · simp only [h, ne_eq, not_false_eq_true, if_true]; exact tz_mod 32 w h
    · simp only [h, if_false]; exact tz_div 32 w h0 (by simpa using h)

/-- `63 - w.leading_zeros()` for `w ≠ 0` (index of the highest set bit); 0 for `w = 0`
    (every Rust call site guards `w != 0`). -/
def hiBit (w : Nat) : Nat := Nat.log2 w

/-- `w & (w - 1)` : clear the lowest set bit (callers guard `w != 0`; `0 - 1` would wrap in Rust) -/
@[inline] def popLow (w : Nat) : Nat := w &&& (w - 1)

/-- `w & !(1 << (63 - w.leading_zeros()))` : clear the highest set bit -/
@[inline] def popHigh (w : Nat) : Nat := w &&& not64 (1 <<< hiBit w)

/-- `key(index) = index / 64` -/
@[inline] def wkey (i : Nat) : Nat := i / 64
/-- `bit(index) = index % 64` -/
@[inline] def wbit (i : Nat) : Nat := i % 64

/-- `!((1 << start_bit) - 1)` : bits `start_bit..=63` -/
@[inline] def maskGE (s : Nat) : Nat := not64 ((1 <<< s) - 1)
/-- `if end_bit == 63 { u64::MAX } else { (1 << (end_bit + 1)) - 1 }` : bits `0..=end_bit` -/
@[inline] def maskLE (e : Nat) : Nat := if e = 63 then wMax else (1 <<< (e + 1)) - 1
/-- `u64::MAX << start_bit` (wrapping to 64 bits) -/
@[inline] def shlMax (s : Nat) : Nat := (wMax <<< s) % W
/-- `u64::MAX >> (63 - end_bit)` -/
@[inline] def shrMax (e : Nat) : Nat := wMax >>> (63 - e)
/-- `(!0) >> (64 - (end_bit + 1))` (contains_range) and `u64::MAX >> (64 - bit - 1)` (advance_back_to) -/
@[inline] def shrMax' (e : Nat) : Nat := wMax >>> (64 - (e + 1))

/-- `select(value, n)`: reset the `n` least significant set bits, then `trailing_zeros` -/
def selectBit (w : Nat) : Nat → Nat
  | 0 => tz w
  | n+1 => selectBit (popLow w) n

/-- positions of the set bits of a word, ascending -/
def bitPos (w : Nat) : List Nat := (List.range 64).filter (fun i => w.testBit i)

/-- the values `64*k + i` for the set bits `i` of word `w` at word index `k` -/
def bitsOf (k w : Nat) : List Nat := (bitPos w).map (fun i => 64*k + i)

/-- the `while word != 0 { push(tz(word)+base); word &= word - 1 }` loop (fuel = 64 is enough for a `u64`) -/
def drainWord (base : Nat) : Nat → Nat → List Nat
  | 0, _ => []
  | fuel+1, w => if w = 0 then [] else (base + tz w) :: drainWord base fuel (popLow w)

/-- repeat `w & (w-1)` `n` times -/
def popLowN (w : Nat) : Nat → Nat
  | 0 => w
  | n+1 => popLowN (popLow w) n

/-- repeat clear-highest-bit `n` times -/
def popHighN (w : Nat) : Nat → Nat
  | 0 => w
  | n+1 => popHighN (popHigh w) n

end Roaring
