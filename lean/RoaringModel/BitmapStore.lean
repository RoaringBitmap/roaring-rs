import RoaringModel.ArrayStore
/-!
# `BitmapStore` — 1024-word bitset with cached cardinality (bitmap_store.rs)

`len` is the *cached* field the Rust maintains incrementally; it is never recomputed here unless the
Rust recomputes it (`op_bitmaps`).
-/
namespace Roaring

structure BStore where
  len : Nat
  bits : List Nat
deriving Repr, BEq, DecidableEq

namespace BStore

def zeros : List Nat := List.replicate 1024 0
def new : BStore := { len := 0, bits := zeros }
def full : BStore := { len := 65536, bits := List.replicate 1024 wMax }

@[inline] def word (bits : List Nat) (k : Nat) : Nat := bits.getD k 0

def popSum (ws : List Nat) : Nat := ws.foldl (fun acc w => acc + popcount w) 0

/-- bitmap_store.rs:35 `try_from` -/
def tryFrom (len : Nat) (bits : List Nat) : Option BStore :=
  if len != popSum bits then none else some { len, bits }

/-- bitmap_store.rs:93 `from_unchecked` (`none` = the debug `unwrap` panics) -/
def fromUnchecked (dbg : Bool) (len : Nat) (bits : List Nat) : Option BStore :=
  if dbg then tryFrom len bits else some { len, bits }

/-- bitmap_store.rs:102 `insert` -/
def insert (b : BStore) (i : Nat) : BStore × Bool :=
  let k := wkey i
  let bit := wbit i
  let old := word b.bits k
  let new := old ||| (1 <<< bit)
  let inserted := (old ^^^ new) >>> bit
  ({ len := b.len + inserted, bits := b.bits.set k new }, inserted != 0)

/-- set words `from..to` (exclusive) to `val` -/
def fillWords (bits : List Nat) (lo hi val : Nat) : List Nat :=
  bits.take lo ++ List.replicate (hi - lo) val ++ bits.drop hi

/-- bitmap_store.rs:112 `insert_range` (callers guarantee `s ≤ e`) -/
def insertRange (b : BStore) (s e : Nat) : BStore × Nat :=
  let sk := wkey s; let sb := wbit s
  let ek := wkey e; let eb := wbit e
  if sk = ek then
    let mask := maskLE eb &&& maskGE sb
    let existed := popcount (word b.bits sk &&& mask)
    let bits := b.bits.set sk (word b.bits sk ||| mask)
    let inserted := (e - s + 1) - existed
    ({ len := b.len + inserted, bits }, inserted)
  else
    let mask := maskGE sb
    let existed := popcount (word b.bits sk &&& mask)
    let bits := b.bits.set sk (word b.bits sk ||| mask)
    let existed := existed + popSum ((bits.drop (sk + 1)).take (ek - (sk + 1)))
    let bits := fillWords bits (sk + 1) ek wMax
    let mask := maskLE eb
    let existed := existed + popcount (word bits ek &&& mask)
    let bits := bits.set ek (word bits ek ||| mask)
    let inserted := e - s + 1 - existed
    ({ len := b.len + inserted, bits }, inserted)

/-- bitmap_store.rs:295 `min` -/
def min? (b : BStore) : Option Nat :=
  match b.bits.zipIdx.find? (fun p => p.1 != 0) with
  | some (w, i) => some (i * 64 + tz w)
  | none => none

/-- bitmap_store.rs:304 `max` -/
def max? (b : BStore) : Option Nat :=
  match b.bits.zipIdx.reverse.find? (fun p => p.1 != 0) with
  | some (w, i) => some (i * 64 + hiBit w)
  | none => none

/-- bitmap_store.rs:159 `push` -/
def push (b : BStore) (i : Nat) : BStore × Bool :=
  match max? b with
  | none => ((insert b i).1, true)
  | some m => if m < i then ((insert b i).1, true) else (b, false)

/-- bitmap_store.rs:175 `push_unchecked` -/
def pushUnchecked (dbg : Bool) (b : BStore) (i : Nat) : Option BStore :=
  if dbg then
    match max? b with
    | some m => if i > m then some (insert b i).1 else none
    | none => some (insert b i).1
  else some (insert b i).1

/-- bitmap_store.rs:184 `remove` -/
def remove (b : BStore) (i : Nat) : BStore × Bool :=
  let k := wkey i
  let bit := wbit i
  let old := word b.bits k
  let new := old &&& not64 (1 <<< bit)
  let removed := (old ^^^ new) >>> bit
  ({ len := b.len - removed, bits := b.bits.set k new }, removed != 0)

/-- bitmap_store.rs:194 `remove_range` (callers guarantee `s ≤ e`) -/
def removeRange (b : BStore) (s e : Nat) : BStore × Nat :=
  let sk := wkey s; let sb := wbit s
  let ek := wkey e; let eb := wbit e
  if sk = ek then
    let mask := shlMax sb &&& shrMax eb
    let removed := popcount (word b.bits sk &&& mask)
    let bits := b.bits.set sk (word b.bits sk &&& not64 mask)
    ({ len := b.len - removed, bits }, removed)
  else
    let removed := popcount (word b.bits sk &&& shlMax sb)
    let bits := b.bits.set sk (word b.bits sk &&& not64 (shlMax sb))
    let removed := removed + popSum ((bits.drop (sk + 1)).take (ek - (sk + 1)))
    let bits := fillWords bits (sk + 1) ek 0
    let removed := removed + popcount (word bits ek &&& shrMax eb)
    let bits := bits.set ek (word bits ek &&& not64 (shrMax eb))
    ({ len := b.len - removed, bits }, removed)

/-- bitmap_store.rs:233 `contains` -/
def contains (b : BStore) (i : Nat) : Bool :=
  word b.bits (wkey i) &&& (1 <<< wbit i) != 0

/-- bitmap_store.rs:237 `contains_range` (callers guarantee `s ≤ e`) -/
def containsRange (b : BStore) (s e : Nat) : Bool :=
  if b.len < e - s + 1 then false
  else
    let si := wkey s; let sb := wbit s
    let ei := wkey e; let eb := wbit e
    let startMask := maskGE sb
    let endMask := shrMax' eb
    if si = ei then
      word b.bits si &&& (startMask &&& endMask) == (startMask &&& endMask)
    else
      (word b.bits si &&& startMask == startMask)
        && ((b.bits.drop (si + 1)).take (ei - (si + 1))).all (· == wMax)
        && (word b.bits ei &&& endMask == endMask)

/-- bitmap_store.rs:268 -/
def isDisjoint (a b : BStore) : Bool :=
  (List.zipWith (fun x y => x &&& y == 0) a.bits b.bits).all id

/-- bitmap_store.rs:272 -/
def isSubset (a b : BStore) : Bool :=
  (List.zipWith (fun x y => x &&& y == x) a.bits b.bits).all id

/-- the inner loop of `to_array_store`, over the words from index `k` on -/
def toArrayFrom : Nat → List Nat → List Nat
  | _, [] => []
  | k, w :: ws => drainWord (64 * k) 64 w ++ toArrayFrom (k + 1) ws

/-- bitmap_store.rs:276 `to_array_store` (before `from_vec_unchecked`) -/
def toArray (b : BStore) : List Nat := toArrayFrom 0 b.bits

/-- bitmap_store.rs:280-289 `to_array_store` *with* its closing `ArrayStore::from_vec_unchecked(vec)` (`none` = the
    debug validation panics).  `Lemmas/MirrorLemmas.lean`: `= some b.toArray` for every `BStore.Inv` store, so the
    callers (`ensureCorrectStore`, `remove_smallest/biggest`) may use the bare `toArray`. (fidelity audit) -/
def toArrayOp (dbg : Bool) (b : BStore) : Option (List Nat) := Arr.fromVecUnchecked dbg b.toArray

/-- bitmap_store.rs:313 `rank` -/
def rank (b : BStore) (i : Nat) : Nat :=
  let k := wkey i
  let bit := wbit i
  popSum (b.bits.take k) + popcount ((word b.bits k <<< (63 - bit)) % W)

def selectFrom : Nat → List Nat → Nat → Option Nat
  | _, [], _ => none
  | k, w :: ws, n =>
    let len := popcount w
    if n < len then some (64 * k + selectBit w n) else selectFrom (k + 1) ws (n - len)

/-- bitmap_store.rs:320 `select` -/
def select (b : BStore) (n : Nat) : Option Nat := selectFrom 0 b.bits n

/-- bitmap_store.rs:335 -/
def interLenBitmap (a b : BStore) : Nat :=
  (List.zipWith (fun x y => popcount (x &&& y)) a.bits b.bits).foldl (· + ·) 0

/-- bitmap_store.rs:339 -/
def interLenArray (b : BStore) (v : List Nat) : Nat :=
  v.foldl (fun acc i =>
    let old := word b.bits (wkey i)
    acc + ((old &&& (1 <<< wbit i)) >>> wbit i)) 0

def clear (_b : BStore) : BStore := new

def rsLoop : List Nat → Nat → List Nat
  | [], _ => []
  | w :: ws, n =>
    let c := popcount w
    if n < c then popLowN w n :: ws
    else
      let n' := n - c
      if n' = 0 then 0 :: ws else 0 :: rsLoop ws n'

/-- bitmap_store.rs:370 `remove_smallest` -/
def removeSmallest (b : BStore) (n : Nat) : BStore :=
  if b.len < n then new
  else { len := b.len - n, bits := rsLoop b.bits n }

def rbLoop : List Nat → Nat → List Nat
  | [], _ => []
  | w :: ws, n =>
    let c := popcount w
    if n < c then popHighN w n :: ws
    else
      let n' := n - c
      if n' = 0 then 0 :: ws else 0 :: rbLoop ws n'

/-- bitmap_store.rs:393 `remove_biggest` (the loop runs over `bits.iter_mut().rev()`) -/
def removeBiggest (b : BStore) (n : Nat) : BStore :=
  if b.len < n then new
  else { len := b.len - n, bits := (rbLoop b.bits.reverse n).reverse }

/-- bitmap_store.rs:619 `op_bitmaps`: word-wise op, `len` recounted -/
def opBitmaps (f : Nat → Nat → Nat) (a b : BStore) : BStore :=
  let bits := List.zipWith f a.bits b.bits
  { len := popSum bits, bits }

/-! #### `op_bitmaps` as the single loop the Rust runs (fidelity audit)

`opBitmaps` above computes all words first and recounts afterwards (two passes); the Rust is ONE loop that applies the
operator to a word and immediately adds that word's `count_ones()` to `bits1.len`, starting from `bits1.len = 0`.
`opBitmapsMirror` is that loop; `opBitmaps_mirror_eq` proves it equal (unconditionally) and the `@[csimp]` equation
makes the compiled driver execute the mirrored loop wherever the model calls `opBitmaps` (`orB/andB/subB/xorB`).
The theorems stay about `opBitmaps`. -/

theorem popSum_foldl (ws : List Nat) (a : Nat) :
    ws.foldl (fun acc w => acc + popcount w) a = a + popSum ws := by
  unfold popSum
  induction ws generalizing a with
  | nil => rfl
  | cons w ws ih => simp only [List.foldl_cons]; rw [ih, ih (0 + popcount w)]; omega

theorem popSum_nil : popSum [] = 0 := rfl

theorem popSum_cons (w : Nat) (ws : List Nat) : popSum (w :: ws) = popcount w + popSum ws := by
  show (w :: ws).foldl (fun acc w => acc + popcount w) 0 = _
  rw [List.foldl_cons, popSum_foldl]; omega

theorem popSum_append (a b : List Nat) : popSum (a ++ b) = popSum a + popSum b := by
  induction a with
  | nil => rw [List.nil_append, popSum_nil, Nat.zero_add]
  | cons w a ih => rw [List.cons_append, popSum_cons, popSum_cons, ih, Nat.add_assoc]

/-- bitmap_store.rs:636-639 `for (index1, &index2) in bits1.bits.iter_mut().zip(bits2.bits.iter()) { op(index1, index2);
    bits1.len += index1.count_ones() as u64; }` — `len` is the running value of `bits1.len` -/
def opLoop (f : Nat → Nat → Nat) : List Nat → List Nat → Nat → Nat × List Nat
  | x :: xs, y :: ys, len =>
    let w := f x y                                   -- op(index1, index2)
    let r := opLoop f xs ys (len + popcount w)       -- bits1.len += index1.count_ones()
    (r.1, w :: r.2)
  | _, _, len => (len, [])

/-- bitmap_store.rs:634 `op_bitmaps`, mirrored: `bits1.len = 0;` then the loop -/
def opBitmapsMirror (f : Nat → Nat → Nat) (a b : BStore) : BStore :=
  let r := opLoop f a.bits b.bits 0                  -- bits1.len = 0
  { len := r.1, bits := r.2 }

theorem opLoop_eq (f : Nat → Nat → Nat) : ∀ (xs ys : List Nat) (len : Nat),
    opLoop f xs ys len = (len + popSum (List.zipWith f xs ys), List.zipWith f xs ys) := by
  intro xs
  induction xs with
  | nil => intro ys len; simp [opLoop, popSum]
  | cons x xs ih =>
    intro ys len
    cases ys with
    | nil => simp [opLoop, popSum]
    | cons y ys =>
      simp only [opLoop, List.zipWith_cons_cons, ih, popSum_cons]
      simp only [Prod.mk.injEq, and_true]; omega

theorem opBitmaps_mirror_eq (f : Nat → Nat → Nat) (a b : BStore) : opBitmapsMirror f a b = opBitmaps f a b := by
  simp [opBitmapsMirror, opBitmaps, opLoop_eq]

@[csimp] theorem opBitmaps_eq_mirror : @opBitmaps = @opBitmapsMirror := by
  funext f a b; exact (opBitmaps_mirror_eq f a b).symm

def orB := opBitmaps (· ||| ·)
def andB := opBitmaps (· &&& ·)
def subB := opBitmaps (fun l r => l &&& not64 r)
def xorB := opBitmaps (· ^^^ ·)

/-- bitmap_store.rs:633 `bitor_assign(&ArrayStore)` -/
def orArr (b : BStore) (v : List Nat) : BStore :=
  v.foldl (fun b i =>
    let k := wkey i; let bit := wbit i
    let old := word b.bits k
    let new := old ||| (1 <<< bit)
    { len := b.len + ((old ^^^ new) >>> bit), bits := b.bits.set k new }) b

/-- bitmap_store.rs:658 `sub_assign(&ArrayStore)` -/
def subArr (b : BStore) (v : List Nat) : BStore :=
  v.foldl (fun b i =>
    let k := wkey i; let bit := wbit i
    let old := word b.bits k
    let new := old &&& not64 (1 <<< bit)
    { len := b.len - ((old ^^^ new) >>> bit), bits := b.bits.set k new }) b

/-- bitmap_store.rs:677 `bitxor_assign(&ArrayStore)`; `len` goes through an `i64` -/
def xorArr (b : BStore) (v : List Nat) : BStore :=
  let r := v.foldl (fun (p : Int × List Nat) i =>
    let k := wkey i; let bit := wbit i
    let old := word p.2 k
    let new := old ^^^ (1 <<< bit)
    (p.1 + 1 - 2 * (((1 <<< bit) &&& old) >>> bit : Nat), p.2.set k new)) ((b.len : Int), b.bits)
  { len := (r.1 % (W : Int)).toNat, bits := r.2 }

/-! #### `insert_range` with the fused middle loop of the Rust (fidelity audit)

`insertRange` above handles the full words between the first and the last word in two passes (`popSum` of the slice,
then `fillWords`); the Rust is ONE loop that counts a word and overwrites it.  `insertRangeMirror` runs that loop
(`midLoop`); `insertRange_mirror_eq` proves it equal whenever the last word index is inside the word list (for a
`BStore.Inv` store — 1024 words — and a `u16` argument: always; the Rust would panic on the index otherwise).  The
`@[csimp]` equation makes the compiled driver execute the mirrored loop under exactly that (run-time checked) guard. -/

/-- bitmap_store.rs:148-151 `for i in (start_key + 1)..end_key { existed += self.bits[i].count_ones();
    self.bits[i] = u64::MAX; }` — `n` iterations left, loop variable `i` -/
def midLoop : Nat → Nat → Nat → List Nat → Nat × List Nat
  | 0, _, existed, bits => (existed, bits)
  | n+1, i, existed, bits => midLoop n (i+1) (existed + popcount (word bits i)) (bits.set i wMax)

theorem fillWords_set_succ (bits : List Nat) (i hi v : Nat) (h : i < hi) (hl : i < bits.length) :
    fillWords (bits.set i v) (i + 1) hi v = fillWords bits i hi v := by
  have e1 : (bits.set i v).take (i + 1) = bits.take i ++ [v] := by
    rw [List.take_set, List.take_succ_eq_append_getElem hl,
      List.set_append_right _ _ (Nat.le_of_eq (List.length_take_of_le (Nat.le_of_lt hl))),
      List.length_take_of_le (Nat.le_of_lt hl), Nat.sub_self, List.set_cons_zero]
  have e2 : List.replicate (hi - i) v = v :: List.replicate (hi - (i + 1)) v := by
    rw [← List.replicate_succ, ← Nat.sub_sub, Nat.sub_add_cancel (Nat.sub_pos_of_lt h)]
  unfold fillWords
  rw [e1, e2, List.drop_set_of_lt h, List.append_assoc, List.append_assoc, List.append_assoc, List.singleton_append]
  rfl

theorem midLoop_eq : ∀ (n i existed : Nat) (bits : List Nat), i + n ≤ bits.length →
    midLoop n i existed bits = (existed + popSum ((bits.drop i).take n), fillWords bits i (i + n) wMax) := by
  intro n
  induction n with
  | zero =>
    intro i existed bits _
    rw [midLoop, List.take_zero, popSum_nil, fillWords, Nat.add_zero, Nat.add_zero, Nat.sub_self, List.replicate_zero,
      List.append_nil, List.take_append_drop]
  | succ n ih =>
    intro i existed bits h
    have hi : i < bits.length := Nat.lt_of_lt_of_le (Nat.lt_add_of_pos_right (Nat.succ_pos n)) h
    rw [midLoop, ih (i + 1) _ _ (by rw [List.length_set, Nat.add_right_comm]; exact h),
      List.drop_set_of_lt (Nat.lt_succ_self i), Nat.add_right_comm i 1 n,
      fillWords_set_succ _ _ _ _ (Nat.lt_succ_of_le (Nat.le_add_right i n)) hi,
      List.drop_eq_getElem_cons hi, List.take_succ_cons, popSum_cons, Nat.add_assoc,
      show word bits i = bits[i] by rw [word, List.getD_eq_getElem?_getD, List.getElem?_eq_getElem hi]; rfl]
    rfl

/-- bitmap_store.rs:116 `insert_range`, the middle words handled by the single fused loop of the Rust -/
def insertRangeMirror (b : BStore) (s e : Nat) : BStore × Nat :=
  let sk := wkey s; let sb := wbit s
  let ek := wkey e; let eb := wbit e
  if sk = ek then
    let mask := maskLE eb &&& maskGE sb
    let existed := popcount (word b.bits sk &&& mask)
    let bits := b.bits.set sk (word b.bits sk ||| mask)
    let inserted := (e - s + 1) - existed
    ({ len := b.len + inserted, bits }, inserted)
  else
    let mask := maskGE sb
    let existed := popcount (word b.bits sk &&& mask)
    let bits := b.bits.set sk (word b.bits sk ||| mask)
    let r := midLoop (ek - (sk + 1)) (sk + 1) existed bits     -- for i in (start_key + 1)..end_key
    let existed := r.1
    let bits := r.2
    let mask := maskLE eb
    let existed := existed + popcount (word bits ek &&& mask)
    let bits := bits.set ek (word bits ek ||| mask)
    let inserted := e - s + 1 - existed
    ({ len := b.len + inserted, bits }, inserted)

theorem insertRange_mirror_eq (b : BStore) (s e : Nat) (hse : s ≤ e) (he : wkey e ≤ b.bits.length) :
    insertRangeMirror b s e = insertRange b s e := by
  unfold insertRangeMirror insertRange
  by_cases hk : wkey s = wkey e
  · simp only [if_pos hk]
  · have hlt : wkey s < wkey e := Nat.lt_of_le_of_ne (Nat.div_le_div_right hse) hk
    have hmid : wkey s + 1 + (wkey e - (wkey s + 1)) = wkey e := Nat.add_sub_cancel' hlt
    simp only [if_neg hk]
    rw [midLoop_eq _ _ _ _ (by rw [hmid, List.length_set]; exact he), hmid]

/-- what the compiled driver runs for `insertRange`: the mirrored loop whenever the index range is inside the word
    list (always, for a `BStore.Inv` store and `s ≤ e < 65536`) -/
def insertRangeExec (b : BStore) (s e : Nat) : BStore × Nat :=
  if s ≤ e ∧ wkey e ≤ b.bits.length then insertRangeMirror b s e else insertRange b s e

@[csimp] theorem insertRange_eq_exec : @insertRange = @insertRangeExec := by
  funext b s e
  unfold insertRangeExec
  split
  · next h => exact (insertRange_mirror_eq b s e h.1 h.2).symm
  · rfl

end BStore

/-! ## `BitmapIter` (bitmap_store.rs:455-604) -/

structure BIter where
  key : Nat
  value : Nat
  keyBack : Nat
  valueBack : Nat
  bits : List Nat
deriving Repr, BEq

namespace BIter
open BStore (word)

/-- bitmap_store.rs:466 -/
def new (bits : List Nat) : BIter :=
  { key := 0, value := word bits 0, keyBack := 1023, valueBack := word bits 1023, bits }

def emit (it : BIter) : BIter × Option Nat :=
  ({ it with value := popLow it.value }, some (64 * it.key + tz it.value))

/-- bitmap_store.rs:540 `next` -/
def next (it : BIter) : BIter × Option Nat :=
  if it.value ≠ 0 then it.emit
  else if it.key ≥ it.keyBack then (it, none)
  else match (List.range' (it.key+1) (it.keyBack - it.key - 1)).find? (fun k => word it.bits k != 0) with
    | some k => BIter.emit { it with key := k, value := word it.bits k }
    | none =>
      let it' := { it with key := it.keyBack, value := it.valueBack }
      if it'.value = 0 then (it', none) else it'.emit

/-- bitmap_store.rs:585 `next_back` (the `loop` terminates: `key_back` decreases) -/
def nextBack (it : BIter) : BIter × Option Nat :=
  if it.keyBack ≤ it.key then
    if it.value = 0 then (it, none)
    else ({ it with value := it.value &&& not64 (1 <<< hiBit it.value) }, some (64 * it.keyBack + hiBit it.value))
  else
    if it.valueBack = 0 then
      nextBack { it with keyBack := it.keyBack - 1, valueBack := word it.bits (it.keyBack - 1) }
    else ({ it with valueBack := it.valueBack &&& not64 (1 <<< hiBit it.valueBack) },
          some (64 * it.keyBack + hiBit it.valueBack))
termination_by it.keyBack
decreasing_by omega

/-- bitmap_store.rs:477 `advance_to` -/
def advanceTo (it : BIter) (index : Nat) : BIter :=
  let newKey := wkey index
  let lowBits := (1 <<< wbit index) - 1
  if newKey < it.key then it
  else if newKey = it.key then { it with key := newKey, value := it.value &&& not64 lowBits }
  else if newKey < it.keyBack then
    { it with key := newKey, value := word it.bits newKey &&& not64 lowBits }
  else if newKey = it.keyBack then
    { it with key := newKey, value := it.valueBack &&& not64 lowBits }
  else
    { it with key := it.keyBack, value := 0, valueBack := 0 }

/-- bitmap_store.rs:505 `advance_back_to` -/
def advanceBackTo (it : BIter) (index : Nat) : BIter :=
  let newKey := wkey index
  let lowBits := shrMax' (wbit index)
  if newKey > it.keyBack then it
  else if newKey = it.keyBack then
    if it.keyBack ≤ it.key then { it with keyBack := newKey, value := it.value &&& lowBits }
    else { it with keyBack := newKey, valueBack := it.valueBack &&& lowBits }
  else if newKey > it.key then
    { it with keyBack := newKey, valueBack := word it.bits newKey &&& lowBits }
  else if newKey = it.key then
    { it with keyBack := newKey, value := it.value &&& lowBits }
  else
    { it with keyBack := newKey, value := 0 }

/-- bitmap_store.rs:565 `size_hint` -/
def sizeHint (it : BIter) : Nat :=
  if it.key < it.keyBack then
    popcount it.value
      + BStore.popSum ((it.bits.drop (it.key + 1)).take (it.keyBack - (it.key + 1)))
      + popcount it.valueBack
  else popcount it.value

end BIter
end Roaring
