import RoaringModel.Safe
import RoaringModel.SerOps
import RoaringModel.Lsb0
import RoaringModel.TreemapSer
/-!
# `Safe_*` for the codec area (C16): decoders, intersection with a serialized bitmap, `from_lsb0_bytes`, treemap codec

Same conventions as `RoaringModel/Safe.lean`: for one Rust function, the decidable side condition under which every
`-`, `+`, `+=`, `*`, `<<`, `>>`, slice index / slice range and narrowing `as` cast of that function is panic-free in the
Rust integer types; each conjunct is followed by the `file.rs:LINE` it covers.  The predicates depend on the model only;
the proofs are in `Lemmas/SafeCodecLemmas.lean`, the property theorems `C16_safe_*` at the end of `Props/C16.lean`.

The decoders read ARBITRARY bytes, so their predicates are functions of the reader state, not of a well-formed value:
they follow the control flow of the model decoder (`Ser.lean`, `SerOps.lean`) over the same abstract `read_exact`
function `R` and state the conditions of the arithmetic that the Rust executes *up to the point where the decoder
returns* (an `Err` return — EOF, unknown cookie, size too big, invalid data — ends the obligations: `True`).
`usize` is taken to be 64 bits wide (DESIGN §15 item 5); wherever a `usize` value provably fits 32 bits the
stronger `U32` is stated, so that the condition also covers a 32-bit target.
-/
namespace Roaring

/-! ## `RoaringBitmap::deserialize_from_impl` (roaring/src/bitmap/serialization.rs:170-271)

The header code of `intersection_with_serialized_impl` (ops_with_serialized.rs:70-106) is the same text; the line
numbers of both files are given. -/

/-- serialization.rs:183-193 = ops_with_serialized.rs:70-80: the cookie and the `(size, has_run_containers)` it
    determines.  AUXILIARY (not a model definition): `decodeHeader` (Ser.lean) computes exactly these values in its
    first two steps but does not return the cookie, and returns nothing at all when a later read fails; this function
    recomputes them from the same reader state with the same expressions
    (`Lemmas/SafeCodecLemmas.lean: decodeHeader_cookieSize` proves the agreement). -/
def cookieSize {σ : Type} (R : Nat → Parser σ (List Nat)) : Parser σ (Nat × Nat × Bool) := fun s =>
  match R 4 s with
  | .error e => .error e
  | .ok (cb, s1) =>
    let cookie := leVal cb
    if cookie = 12346 then
      match R 4 s1 with
      | .error e => .error e
      | .ok (sb, s2) => .ok ((cookie, leVal sb, false), s2)
    else if cookie % 65536 = 12347 then .ok ((cookie, cookie / 65536 + 1, true), s1)
    else .error .unknownCookie

/-- serialization.rs:183-217 (`deserialize_from_impl`, header) = ops_with_serialized.rs:70-106 -/
def Safe_decodeHeader {σ : Type} (R : Nat → Parser σ (List Nat)) (s : σ) : Prop :=
  match cookieSize R s with
  | .error _ => True                              -- :184 :186 `?` (EOF), :191 `return Err(..)`: nothing else is evaluated
  | .ok ((cookie, size, hasRun), _) =>
    U32 cookie                                    -- :184 / ows:71 the value of `read_u32` (so `cookie as u16` truncates a `u32`)
    ∧ U32 size                                    -- :186 / ows:73 `read_u32()? as usize`, :188 / ows:75 `(…) as usize`: widening casts
    ∧ (hasRun = true →
         16 < 32                                  -- :188 / ows:75 `cookie >> 16` on a `u32`
         ∧ U32 (cookie / 65536 + 1)               -- :188 / ows:75 `(cookie >> 16) + 1` in `u32`
         ∧ U32 (size + 7))                        -- :197 / ows:84 `(size + 7) / 8` in `usize` (the divisor is the constant 8)
    ∧ (size ≤ 65536 →                             -- behind :204 / ows:91 `size > u16::MAX as usize + 1` (`65535 + 1`: constants)
         U32 (size * 4))                          -- :209 `size * DESCRIPTION_BYTES`, :214 `size * OFFSET_BYTES` (usize);
                                                  -- ows:96-97 ows:104-105 `vec![[0; 2]; size]` / `vec![0u32; size]` viewed as bytes

instance {σ : Type} (R : Nat → Parser σ (List Nat)) (s : σ) : Decidable (Safe_decodeHeader R s) := by
  unfold Safe_decodeHeader; split <;> infer_instance

/-- the replay loop serialization.rs:241-245 (= ops_with_serialized.rs:143-149, :248-252) on the evolving store:
    `s.checked_add(len)` is total (`None` = `InvalidData`, the model's `s + len > 65535` test), and
    `store.insert_range(RangeInclusive::new(s, end))` (store/mod.rs:91-101: `s ≤ end`, so not the `is_empty` return)
    is `Store.Safe_insertRange` on the store built so far -/
def Safe_replayRuns : Store → List (Nat × Nat) → Prop
  | _, [] => True
  | st, (s, len) :: rs =>
    U16 s ∧ U16 len                               -- :234-237 the interval fields are `u16`s (operands of `checked_add`)
    ∧ (¬ s + len > 65535 →                        -- :242 `checked_add` succeeded
         s ≤ s + len                              -- :243 `RangeInclusive::new(s, end)` is not empty
         ∧ st.Safe_insertRange s (s + len)        -- :243 → store/mod.rs:97-100 → array_store/mod.rs:89-107 / bitmap_store.rs:116-161
         ∧ Safe_replayRuns (st.insertRange s (s + len)).1 rs)

instance : ∀ (st : Store) (rs : List (Nat × Nat)), Decidable (Safe_replayRuns st rs)
  | _, [] => isTrue trivial
  | st, (s, len) :: rs => by
    unfold Safe_replayRuns
    have := instDecidableSafe_replayRuns (st.insertRange s (s + len)).1 rs
    infer_instance

/-- serialization.rs:231-246 = ops_with_serialized.rs:131-150, :238-253: one run chunk (`decodeRunStore`) -/
def Safe_decodeRunStore {σ : Type} (R : Nat → Parser σ (List Nat)) (s : σ) : Prop :=
  match R 2 s with
  | .error _ => True                              -- :231 `?`
  | .ok (rb, s1) =>
    let runs := leVal rb
    U16 runs                                      -- :231 the value of `read_u16` (so :232 `runs as usize` widens)
    ∧ U32 (runs * 4)                              -- :232-233 `vec![[0, 0]; runs as usize]` viewed as bytes by `cast_slice_mut`
    ∧ (match R (runs * 4) s1 with
       | .error _ => True                         -- :233 `?`
       | .ok (ib, _) =>
         let intervals := pairs (leWords 2 ib)
         let cap := (intervals.map (·.2)).foldl (· + ·) 0
         U32 cap                                  -- :239 `.map(|[_, len]| *len as usize).sum()` (usize; monotone partial sums)
         ∧ Safe_replayRuns (Store.withCapacity cap) intervals)   -- :240-245 (store/mod.rs:42-48 `with_capacity`: a comparison)

instance {σ : Type} (R : Nat → Parser σ (List Nat)) (s : σ) : Decidable (Safe_decodeRunStore R s) := by
  unfold Safe_decodeRunStore
  split
  · infer_instance
  · simp only []
    refine @instDecidableAnd _ _ _ (@instDecidableAnd _ _ _ ?_)
    split <;> infer_instance

/-- serialization.rs:247-252 = ops_with_serialized.rs:158-166, :254-259: an array chunk of `card ≤ 4096` values
    (`ArrayStore::try_from`, array_store/mod.rs:331-345, has no arithmetic besides `enumerate`'s counter `< len`) -/
def Safe_decodeArrayStore (card : Nat) : Prop :=
  U32 card                                        -- :248 `cardinality as usize` (u64 → usize)
  ∧ U32 (card * 2)                                -- :248-249 `vec![0; cardinality as usize]` (u16s) viewed as bytes

instance (card : Nat) : Decidable (Safe_decodeArrayStore card) := by unfold Safe_decodeArrayStore; infer_instance

/-- serialization.rs:253-259 = ops_with_serialized.rs:174-182, :260-267: a bitset chunk.  `validate` = the closure `b`
    sums the population counts: always for `BitmapStore::try_from` (checked decoder), under `debug_assertions` for
    `BitmapStore::from_unchecked` (bitmap_store.rs:93-99) -/
def Safe_decodeBitmapStore {σ : Type} (R : Nat → Parser σ (List Nat)) (validate : Bool) (s : σ) : Prop :=
  match R 8192 s with
  | .error _ => True                              -- :255 `?`
  | .ok (wb, _) =>
    (leWords 8 wb).length = 1024                  -- :254-256 the `Box<[u64; 1024]>` is filled completely by 8192 bytes
    ∧ (validate = true →
         U64 (BStore.popSum (leWords 8 wb)))      -- bitmap_store.rs:36 `.map(|v| v.count_ones() as u64).sum()` (monotone partial sums)

instance {σ : Type} (R : Nat → Parser σ (List Nat)) (validate : Bool) (s : σ) :
    Decidable (Safe_decodeBitmapStore R validate s) := by
  unfold Safe_decodeBitmapStore; split <;> infer_instance

/-- serialization.rs:230-266: the store of one container (`decodeStore`), including :263-266
    `container.ensure_correct_store()` on the replayed run store -/
def Safe_decodeStore {σ : Type} (R : Nat → Parser σ (List Nat)) (chk dbg : Bool) (card : Nat) (isRun : Bool)
    (s : σ) : Prop :=
  if isRun then
    Safe_decodeRunStore R s                                                -- :231-246
    ∧ (match decodeRunStore R s with
       | .ok (st, _) => Container.Safe_ensureCorrectStore { key := 0, store := st }   -- :265 → container.rs:177-190
       | .error _ => True)
  else if card ≤ ARRAY_LIMIT then Safe_decodeArrayStore card              -- :247-252
  else Safe_decodeBitmapStore R (chk || dbg) s                            -- :253-259

instance {σ : Type} (R : Nat → Parser σ (List Nat)) (chk dbg : Bool) (card : Nat) (isRun : Bool) (s : σ) :
    Decidable (Safe_decodeStore R chk dbg card isRun s) := by
  unfold Safe_decodeStore
  split
  · refine @instDecidableAnd _ _ _ ?_
    split <;> infer_instance
  · infer_instance

/-- serialization.rs:224 and :227-228 (= ops_with_serialized.rs:124, :127-128 and :231, :234-235): the cardinality
    and the run-flag lookup for container `i` with description `(key, cardM1)` -/
def Safe_descr (runBitmap : Option (List Nat)) (i cardM1 : Nat) : Prop :=
  U16 cardM1                                      -- :224 the operand of `u64::from` is a `u16`
  ∧ U64 (cardM1 + 1)                              -- :224 `u64::from(…) + 1`
  ∧ (match runBitmap with
     | some bm =>
       i / 8 < bm.length                          -- :228 `bm[i / 8]`
       ∧ i % 8 < 8                                -- :228 `1 << (i % 8)` on a `u8` (the other operand of `&` is a `u8`)
     | none => True)

instance (runBitmap : Option (List Nat)) (i cardM1 : Nat) : Decidable (Safe_descr runBitmap i cardM1) := by
  unfold Safe_descr
  refine @instDecidableAnd _ _ _ (@instDecidableAnd _ _ _ ?_)
  split <;> infer_instance

/-- serialization.rs:222-268, the `for i in 0..size` loop (`decodeContainers`): the list is the remaining
    descriptions, `i` the container index, `s` the reader state before container `i` -/
def Safe_decodeContainers {σ : Type} (R : Nat → Parser σ (List Nat)) (chk dbg : Bool)
    (runBitmap : Option (List Nat)) : List (Nat × Nat) → Nat → σ → Prop
  | [], _, _ => True
  | (_, cardM1) :: ds, i, s =>
    Safe_descr runBitmap i cardM1                                           -- :224 :228
    ∧ Safe_decodeStore R chk dbg (cardM1 + 1) (isRunAt runBitmap i) s      -- :230-266
    ∧ (match decodeStore R chk dbg (cardM1 + 1) (isRunAt runBitmap i) s with
       | .ok (_, s') => Safe_decodeContainers R chk dbg runBitmap ds (i + 1) s'     -- next iteration
       | .error _ => True)                                                  -- `?`: the function returns

instance {σ : Type} (R : Nat → Parser σ (List Nat)) (chk dbg : Bool) (runBitmap : Option (List Nat)) :
    ∀ (ds : List (Nat × Nat)) (i : Nat) (s : σ), Decidable (Safe_decodeContainers R chk dbg runBitmap ds i s)
  | [], _, _ => isTrue trivial
  | (_, cardM1) :: ds, i, s => by
    unfold Safe_decodeContainers
    have := fun s' => instDecidableSafe_decodeContainers R chk dbg runBitmap ds (i + 1) s'
    refine @instDecidableAnd _ _ _ (@instDecidableAnd _ _ _ ?_)
    split <;> infer_instance

/-- serialization.rs:170-271 `deserialize_from_impl` (the whole function, for `deserialize_from` with `chk = true` and
    `deserialize_unchecked_from` with `chk = false`) over the reader `R` from state `s`.  The validation that
    `deserialize_from` appends (:133-138: `any(is_empty)`, `windows(2)` with `pair[0]`, `pair[1]` on windows of
    length 2) has no partial operation.
    NOT an arithmetic site and not part of this predicate: with `chk = false` under `debug_assertions` the "unchecked"
    constructors validate and `unwrap()` (array_store/mod.rs:51, bitmap_store.rs:99) — the model's `DecErr.panic`;
    the checked decoder never reaches them (`Parser.np_deserializeG`, `Lemmas/Parser.lean`). -/
def Safe_deserialize {σ : Type} (R : Nat → Parser σ (List Nat)) (chk dbg : Bool) (s : σ) : Prop :=
  Safe_decodeHeader R s                                                     -- :183-217
  ∧ (match decodeHeader R s with
     | .error _ => True
     | .ok (h, s') =>
       h.descr.length = h.size                    -- :222-224 `for i in 0..size` reads `size` descriptions out of the
                                                  -- `size * 4` bytes of `description_bytes`: the slice reads never hit EOF
       ∧ h.size ≤ 65536                           -- :219 `Vec::with_capacity(size)` is small (:204)
       ∧ Safe_decodeContainers R chk dbg h.runBitmap h.descr 0 s')         -- :222-268

instance {σ : Type} (R : Nat → Parser σ (List Nat)) (chk dbg : Bool) (s : σ) :
    Decidable (Safe_deserialize R chk dbg s) := by
  unfold Safe_deserialize
  refine @instDecidableAnd _ _ _ ?_
  split <;> infer_instance

/-! ## `RoaringBitmap::intersection_with_serialized_unchecked` (roaring/src/bitmap/ops_with_serialized.rs:44-277)

The reader is the `Cursor` of `SerOps.lean`.  The header (:70-106) is `Safe_decodeHeader Cursor.readExact`.  NOT part of
these predicates: the in-memory `other_container &= container` (:194, :270 → container.rs:236-241), whose operands are
the stores built by the *unchecked* constructors; for a conformant stream they satisfy `Store.Inv` and the store-level
predicates of `Safe.lean` apply (C18 proves the functional result), for arbitrary bytes nothing is known about them.
Likewise not arithmetic sites: the validating `unwrap()`s of the unchecked constructors under `debug_assertions`
(array_store/mod.rs:51, bitmap_store.rs:99; the model's `DecErr.panic`, covered by C18 for conformant streams). -/

/-- ops_with_serialized.rs:130-150, :158-166, :174-182 (the `Some(_)` arms) and :237-267: reading one chunk with the
    unchecked constructors (`interReadStore`); the bitset sum of bitmap_store.rs:36 runs under `debug_assertions` only -/
def Safe_interReadStore (dbg : Bool) (card : Nat) (isRun : Bool) (c : Cursor) : Prop :=
  if isRun then Safe_decodeRunStore Cursor.readExact c                    -- :131-150 / :238-253
  else if card ≤ ARRAY_LIMIT then Safe_decodeArrayStore card              -- :161-166 / :255-259
  else Safe_decodeBitmapStore Cursor.readExact dbg c                      -- :177-182 / :261-266

instance (dbg : Bool) (card : Nat) (isRun : Bool) (c : Cursor) : Decidable (Safe_interReadStore dbg card isRun c) := by
  unfold Safe_interReadStore; infer_instance

/-- `reader.seek(SeekFrom::Current(n as i64))` of ops_with_serialized.rs:154, :170, :186 for a byte count `n : usize`:
    the cast is lossless and `Cursor::seek` stays inside `u64` (std computes `pos.checked_add_signed(n)` and returns an
    `Err` on overflow — no panic, but the model's `Cursor.seekCur` never fails, so this is also where the two agree) -/
def Safe_seekCur (c : Cursor) (n : Nat) : Prop :=
  U64 n                                           -- the `usize` product
  ∧ I64 (n : Int)                                 -- `… as i64`
  ∧ U64 (c.pos + n)                               -- `Cursor::seek(SeekFrom::Current(..))`

instance (c : Cursor) (n : Nat) : Decidable (Safe_seekCur c n) := by unfold Safe_seekCur; infer_instance

/-- ops_with_serialized.rs:117-201: the sequential loop (`interSequential`; the accumulator is irrelevant here).
    :120-123 `binary_search_by_key` / `self.containers.get(index)` are total. -/
def Safe_interSequential (dbg : Bool) (a : Bitmap) (runBitmap : Option (List Nat)) :
    List (Nat × Nat) → Nat → Cursor → Prop
  | [], _, _ => True
  | (key, cardM1) :: ds, i, c =>
    let container : Option Container := match Bitmap.search a key with
      | (true, index) => a[index]?
      | (false, _) => none
    let card := cardM1 + 1
    let isRun := isRunAt runBitmap i
    Safe_descr runBitmap i cardM1                                           -- :124 :128 (`i` from `enumerate()`)
    ∧ (match container with
       | some _ =>
         Safe_interReadStore dbg card isRun c                               -- :131-150 / :161-166 / :177-182
         ∧ (match interReadStore dbg card isRun c with
            | .ok (_, c') => Safe_interSequential dbg a runBitmap ds (i + 1) c'
            | .error _ => True)
       | none =>
         if isRun then
           match Cursor.readExact 2 c with
           | .error _ => True                                               -- :131 `?`
           | .ok (rb, c1) =>
             U16 (leVal rb)                                                 -- :131 `read_u16`
             ∧ Safe_seekCur c1 (2 * 2 * leVal rb)                           -- :153 `size_of::<u16>() * 2 * runs as usize`, :154
             ∧ Safe_interSequential dbg a runBitmap ds (i + 1) { c1 with pos := c1.pos + 2 * 2 * leVal rb }
         else if card ≤ ARRAY_LIMIT then
           U32 card                                                         -- :169 `cardinality as usize`
           ∧ Safe_seekCur c (2 * card)                                      -- :169 `size_of::<u16>() * cardinality as usize`, :170
           ∧ Safe_interSequential dbg a runBitmap ds (i + 1) { c with pos := c.pos + 2 * card }
         else
           Safe_seekCur c (8 * 1024)                                        -- :185 `size_of::<u64>() * BITMAP_LENGTH`, :186
           ∧ Safe_interSequential dbg a runBitmap ds (i + 1) { c with pos := c.pos + 8 * 1024 })

instance (dbg : Bool) (a : Bitmap) (runBitmap : Option (List Nat)) :
    ∀ (ds : List (Nat × Nat)) (i : Nat) (c : Cursor), Decidable (Safe_interSequential dbg a runBitmap ds i c)
  | [], _, _ => isTrue trivial
  | (key, cardM1) :: ds, i, c => by
    unfold Safe_interSequential
    have := fun c' => instDecidableSafe_interSequential dbg a runBitmap ds (i + 1) c'
    simp only []
    refine @instDecidableAnd _ _ _ ?_
    split
    · refine @instDecidableAnd _ _ _ ?_
      split <;> infer_instance
    · split
      · split <;> infer_instance
      · infer_instance

/-- ops_with_serialized.rs:204-277 `intersection_with_serialized_impl_with_offsets`: the loop over `self.containers`
    (`interOffsets`; the accumulator is irrelevant here) -/
def Safe_interOffsets (dbg : Bool) (h : Header) : List Container → Cursor → Prop
  | [], _ => True
  | c :: cs, cur =>
    match descrSearch h.descr c.key with
    | none => Safe_interOffsets dbg h cs cur                                -- :224 `Err(_) => continue`
    | some i =>
      let d := h.descr.getD i (0, 0)
      let cur1 : Cursor := { cur with pos := h.offsets.getD i 0 }
      i < h.offsets.length                                                  -- :228 `offsets[i]`
      ∧ U32 (h.offsets.getD i 0)                                            -- :228 `offsets[i] as u64` widens a `u32`; `SeekFrom::Start`
      ∧ i < h.descr.length                                                  -- :230 `descriptions[i]`
      ∧ Safe_descr h.runBitmap i d.2                                        -- :231 :235
      ∧ Safe_interReadStore dbg (d.2 + 1) (isRunAt h.runBitmap i) cur1      -- :237-267
      ∧ (match interReadStore dbg (d.2 + 1) (isRunAt h.runBitmap i) cur1 with
         | .ok (_, cur') => Safe_interOffsets dbg h cs cur'
         | .error _ => True)                                                -- `?`

instance (dbg : Bool) (h : Header) : ∀ (cs : List Container) (cur : Cursor), Decidable (Safe_interOffsets dbg h cs cur)
  | [], _ => isTrue trivial
  | c :: cs, cur => by
    unfold Safe_interOffsets
    have := fun cur' => instDecidableSafe_interOffsets dbg h cs cur'
    split
    · infer_instance
    · simp only []
      refine @instDecidableAnd _ _ _ (@instDecidableAnd _ _ _ (@instDecidableAnd _ _ _ (@instDecidableAnd _ _ _
        (@instDecidableAnd _ _ _ ?_))))
      split <;> infer_instance

/-- ops_with_serialized.rs:44-277 `intersection_with_serialized_unchecked(self = a, Cursor::new(bytes))` (`interSerG`) -/
def Safe_interSer (dbg : Bool) (a : Bitmap) (bytes : List Nat) : Prop :=
  Safe_decodeHeader Cursor.readExact ⟨bytes, 0⟩                             -- :70-106
  ∧ (match decodeHeader Cursor.readExact ⟨bytes, 0⟩ with
     | .error _ => True
     | .ok (h, c) =>
       h.descr.length = h.size                    -- :96-101 `descriptions` has `size` entries
       ∧ (if h.hasOffsets then
            h.offsets.length = h.size             -- :104-106 `offsets` has `size` entries
            ∧ Safe_interOffsets dbg h a c                                   -- :107-114 → :204-277
          else Safe_interSequential dbg a h.runBitmap h.descr 0 c))        -- :117-201

instance (dbg : Bool) (a : Bitmap) (bytes : List Nat) : Decidable (Safe_interSer dbg a bytes) := by
  unfold Safe_interSer
  refine @instDecidableAnd _ _ _ ?_
  split <;> infer_instance

/-! ## `RoaringBitmap::from_lsb0_bytes` (roaring/src/bitmap/inherent.rs:87-171) and the constructors under it

The model (`Lsb0.lean`) already turns the `expect` of :121, the `assert!`s, `split_at` past the end and the `usize`
subtraction of :140 into an explicit `none`, and C17 proves that none of them fires on the documented domain
`offset + 8·len ≤ 2^32`.  The predicates below list ALL arithmetic sites, including those for which the model silently
uses `Nat` arithmetic, `% 65536` for an `as u16` cast, or truncated subtraction. -/
namespace Lsb0

/-- inherent.rs:88-103 `shift_bytes(bytes, amount)` (`shiftBytes`) -/
def Safe_shiftBytes (bytes : List Nat) (amount : Nat) : Prop :=
  U64 (bytes.length + 1)                          -- :89 `Vec::with_capacity(bytes.len() + 1)`
  ∧ (bytes ≠ [] →
       amount < 8                                 -- :93 `byte << amount` on a `u8`
       ∧ amount ≤ 8                               -- :94 `8 - amount` (usize)
       ∧ 8 - amount < 8)                          -- :94 `byte >> (8 - amount)` on a `u8`

instance (bytes : List Nat) (amount : Nat) : Decidable (Safe_shiftBytes bytes amount) := by
  unfold Safe_shiftBytes; infer_instance

/-- array_store/mod.rs:64-72: the loop over the full words (`arrWords`); `word &= word - 1` (:70) runs under
    `while word != 0` -/
def Safe_arrWords (byteOffset : Nat) : Nat → List Nat → Prop
  | _, [] => True
  | index, w :: ws =>
    let bitIndex := (byteOffset + index * 8) * 8
    U64 (index * 8) ∧ U64 (byteOffset + index * 8) ∧ U64 bitIndex     -- :65 `(byte_offset + index * size_of::<Word>()) * 8` (usize)
    ∧ U32 bitIndex                                                      -- :69 `bit_index as u32`
    ∧ (∀ x ∈ drainWord bitIndex 64 w, U32 x ∧ U16 x)                   -- :69 `(word.trailing_zeros() + bit_index as u32) as u16`:
                                                                        --     the `u32` sum, and the cast is lossless
    ∧ Safe_arrWords byteOffset (index + 1) ws

instance (byteOffset : Nat) : ∀ (index : Nat) (ws : List Nat), Decidable (Safe_arrWords byteOffset index ws)
  | _, [] => isTrue trivial
  | index, w :: ws => by
    unfold Safe_arrWords
    have := instDecidableSafe_arrWords byteOffset (index + 1) ws
    infer_instance

/-- array_store/mod.rs:73-79: the loop over the remainder bytes (`arrRem`); `byte &= byte - 1` (:77) runs under
    `while byte != 0` -/
def Safe_arrRem (byteOffset done : Nat) : Nat → List Nat → Prop
  | _, [] => True
  | index, b :: bs =>
    let bitIndex := (byteOffset + done + index) * 8
    U64 (byteOffset + done) ∧ U64 (byteOffset + done + index) ∧ U64 bitIndex   -- :74 `(byte_offset + (…) + index) * 8` (usize)
    ∧ U32 bitIndex                                                      -- :76 `bit_index as u32`
    ∧ (∀ x ∈ drainWord bitIndex 64 b, U32 x ∧ U16 x)                   -- :76 `(byte.trailing_zeros() + bit_index as u32) as u16`
    ∧ Safe_arrRem byteOffset done (index + 1) bs

instance (byteOffset done : Nat) : ∀ (index : Nat) (bs : List Nat), Decidable (Safe_arrRem byteOffset done index bs)
  | _, [] => isTrue trivial
  | index, b :: bs => by
    unfold Safe_arrRem
    have := instDecidableSafe_arrRem byteOffset done (index + 1) bs
    infer_instance

/-- array_store/mod.rs:57-82 `ArrayStore::from_lsb0_bytes(bytes, byte_offset, bits_set)` (`arrFromLsb0`) -/
def Safe_arrFromLsb0 (bytes : List Nat) (byteOffset bitsSet : Nat) : Prop :=
  let rem := chunkRem bytes
  U64 bitsSet                                                           -- :60 `bits_set as usize`
  ∧ rem.length ≤ bytes.length                                           -- :74 `bytes.len() - remainder.len()`
  ∧ Safe_arrWords byteOffset 0 (chunkWords bytes)                       -- :64-72
  ∧ Safe_arrRem byteOffset (bytes.length - rem.length) 0 rem            -- :73-79

instance (bytes : List Nat) (byteOffset bitsSet : Nat) : Decidable (Safe_arrFromLsb0 bytes byteOffset bitsSet) := by
  unfold Safe_arrFromLsb0; infer_instance

/-- bitmap_store.rs:44-88 `BitmapStore::from_lsb0_bytes_unchecked(bytes, byte_offset, bits_set)` (`bmFromLsb0`); the
    `if !cfg!(target_endian = "little")` block (:75-85) is not executed on the little-endian target of the model -/
def Safe_bmFromLsb0 (dbg : Bool) (bytes : List Nat) (byteOffset : Nat) : Prop :=
  let buf := if bytes.length = BITMAP_BYTES then bytes
    else List.replicate byteOffset 0 ++ bytes ++ List.replicate (BITMAP_BYTES - byteOffset - bytes.length) 0
  byteOffset + bytes.length ≤ BITMAP_BYTES                              -- :46 `assert!(byte_offset.checked_add(len).map_or(false, …))`
  ∧ (bytes.length = BITMAP_BYTES → byteOffset = 0)                      -- :50 `debug_assert_eq!(byte_offset, 0)`
  ∧ (bytes.length ≠ BITMAP_BYTES →
       byteOffset ≤ BITMAP_BYTES                                        -- :70 `&mut dst[byte_offset..]`
       ∧ bytes.length ≤ BITMAP_BYTES - byteOffset)                      -- :70 `[..bytes.len()]` (and `copy_from_slice`: equal lengths)
  ∧ (leWords 8 buf).length = 1024                                       -- the box holds `BITMAP_LENGTH` words
  ∧ (dbg = true → U64 (BStore.popSum (leWords 8 buf)))                  -- :87 → :99 → :36 the `u64` sum of `try_from`

instance (dbg : Bool) (bytes : List Nat) (byteOffset : Nat) : Decidable (Safe_bmFromLsb0 dbg bytes byteOffset) := by
  unfold Safe_bmFromLsb0; infer_instance

/-- store/mod.rs:54-81 `Store::from_lsb0_bytes(bytes, byte_offset)` (`storeFromLsb0`), reached through
    container.rs:35-37.  `byte_offset + bytes.len() ≤ 8192` is the callers' obligation (an `assert!`). -/
def Safe_storeFromLsb0 (dbg : Bool) (bytes : List Nat) (byteOffset : Nat) : Prop :=
  U64 (byteOffset + bytes.length)                                       -- :55 `byte_offset + bytes.len()` (usize)
  ∧ byteOffset + bytes.length ≤ BITMAP_BYTES                            -- :55 `assert!(… <= BITMAP_LENGTH * size_of::<u64>())`
  ∧ U64 (bitsSet bytes)                                                 -- :65 :68 `bits_set += u64::from(….count_ones())` (monotone)
  ∧ (bitsSet bytes ≠ 0 →
       if bitsSet bytes ≤ ARRAY_LIMIT then Safe_arrFromLsb0 bytes byteOffset (bitsSet bytes)   -- :77
       else Safe_bmFromLsb0 dbg bytes byteOffset)                                               -- :79

instance (dbg : Bool) (bytes : List Nat) (byteOffset : Nat) : Decidable (Safe_storeFromLsb0 dbg bytes byteOffset) := by
  unfold Safe_storeFromLsb0; infer_instance

/-- inherent.rs:153-160 `for full_container_key in start_container..end_container_inc` (`fullLoop`; the accumulated
    containers are irrelevant here) -/
def Safe_fullLoop (dbg : Bool) : List Nat → List Nat → Prop
  | [], _ => True
  | key :: keys, bytes =>
    BITMAP_BYTES ≤ bytes.length                                         -- :154 `bytes.split_at(BITMAP_LENGTH * size_of::<u64>())`
    ∧ U16 key                                                           -- :157 `full_container_key as u16` is lossless
    ∧ Safe_storeFromLsb0 dbg (bytes.take BITMAP_BYTES) 0                -- :157 → container.rs:36 → store/mod.rs:54
    ∧ Safe_fullLoop dbg keys (bytes.drop BITMAP_BYTES)

instance (dbg : Bool) : ∀ (keys bytes : List Nat), Decidable (Safe_fullLoop dbg keys bytes)
  | [], _ => isTrue trivial
  | key :: keys, bytes => by
    unfold Safe_fullLoop
    have := instDecidableSafe_fullLoop dbg keys (bytes.drop BITMAP_BYTES)
    infer_instance

/-- AUXILIARY (not a model definition): the slice and the container key with which the loop of inherent.rs:153 starts,
    i.e. the `(bytes, start_container)` components of the local `first` of `fromLsb0Aligned`, recomputed with the
    same expressions (`first` is a `let` inside the model function and is not exposed) -/
def afterFirst (offset : Nat) (bytes : List Nat) : List Nat × Nat :=
  let endBitInc := offset + (bytes.length * 8 - 1)
  let startContainer := offset / 65536
  let startOffset := offset % 65536 / 8
  if startOffset ≠ 0 then
    let endByte := if endBitInc / 65536 = startContainer then (endBitInc % 65536 + 1) / 8 else BITMAP_BYTES
    (bytes.drop (endByte - startOffset), startContainer + 1)
  else (bytes, startContainer)

/-- inherent.rs:110-170: the body of `from_lsb0_bytes` for an offset that is a multiple of 8 (`fromLsb0Aligned`) -/
def Safe_fromLsb0Aligned (dbg : Bool) (offset : Nat) (bytes : List Nat) : Prop :=
  bytes ≠ [] →                                                          -- :110 `return RoaringBitmap::new()`
  let len := bytes.length
  (len ≤ wMax → len * 8 ≤ wMax → 1 ≤ len * 8)                           -- :119 `len_bits - 1` (u64), evaluated when :115-117 gave `Some`
  ∧ (¬ (len > wMax ∨ len * 8 > wMax ∨ offset + (len * 8 - 1) > wMax ∨ offset + (len * 8 - 1) > u32Max) →
                                                                        -- … otherwise the DOCUMENTED panic of :121 `.expect(…)`
     let endBitInc := offset + (len * 8 - 1)
     let startContainer := offset / 65536
     let startOffset := offset % 65536 / 8
     let endContainerInc := endBitInc / 65536
     let endOffset := (endBitInc % 65536 + 1) / 8
     let endByte := if endContainerInc = startContainer then endOffset else BITMAP_BYTES
     let keys := List.range' (afterFirst offset bytes).2 (endContainerInc - (afterFirst offset bytes).2)
     let rest := (afterFirst offset bytes).1.drop (BITMAP_BYTES * keys.length)
     U64 offset ∧ U64 endBitInc                                         -- :125 `offset as usize`, :127 `end_bit_inc as usize` (u32 → usize)
     ∧ 16 < 64                                                          -- :125 :127 `>> 16` on a `usize`
     ∧ U64 (endBitInc % 65536 + 1)                                      -- :127 `end_bit_inc as usize % 0x1_0000 + 1`
     ∧ U64 (endContainerInc + 1) ∧ startContainer ≤ endContainerInc + 1 -- :129 `end_container_inc + 1 - start_container`
     ∧ (startOffset ≠ 0 →
          startOffset ≤ endByte                                         -- :140 `end_byte - start_offset` (usize)
          ∧ endByte - startOffset ≤ len                                 -- :140 `bytes.split_at(…)`
          ∧ U16 startContainer                                          -- :144 `start_container as u16` is lossless
          ∧ Safe_storeFromLsb0 dbg (bytes.take (endByte - startOffset)) startOffset   -- :144 → container.rs:36 → store/mod.rs:54
          ∧ U64 (startContainer + 1))                                   -- :149 `start_container += 1`
     ∧ Safe_fullLoop dbg keys (afterFirst offset bytes).1               -- :153-160
     ∧ (rest ≠ [] →                                                     -- :163
          U16 endContainerInc                                           -- :164 `end_container_inc as u16` is lossless
          ∧ Safe_storeFromLsb0 dbg rest 0))                             -- :164 → container.rs:36 → store/mod.rs:54

instance (dbg : Bool) (offset : Nat) (bytes : List Nat) : Decidable (Safe_fromLsb0Aligned dbg offset bytes) := by
  unfold Safe_fromLsb0Aligned; infer_instance

/-- inherent.rs:87-171 `RoaringBitmap::from_lsb0_bytes(offset, bytes)` (`fromLsb0`) -/
def Safe_fromLsb0 (dbg : Bool) (offset : Nat) (bytes : List Nat) : Prop :=
  if offset % 8 ≠ 0 then                                                -- :104 (`%` by the constant 8)
    let shift := offset % 8
    U64 offset                                                          -- :105 `offset as usize`
    ∧ Safe_shiftBytes bytes shift                                       -- :106
    ∧ U32 shift ∧ shift ≤ offset                                        -- :107 `shift as u32`, `offset - shift as u32`
    ∧ Safe_fromLsb0Aligned dbg (offset - shift) (shiftBytes bytes shift)   -- :107 the recursive call: its offset is a multiple of 8
  else Safe_fromLsb0Aligned dbg offset bytes

instance (dbg : Bool) (offset : Nat) (bytes : List Nat) : Decidable (Safe_fromLsb0 dbg offset bytes) := by
  unfold Safe_fromLsb0; infer_instance

end Lsb0

/-! ## `RoaringTreemap` serialization (roaring/src/treemap/serialization.rs) -/
namespace Treemap

/-- treemap/serialization.rs:22-26 `serialized_size` -/
def Safe_serializedSize (t : Treemap) : Prop :=
  (∀ p ∈ t, Bitmap.Safe_serializedSize p.2)       -- :25 `bitmap.serialized_size()` → bitmap/serialization.rs:35-47
  ∧ U64 (serializedSize t)                        -- :25 `acc + size_of::<u32>() + bitmap.serialized_size()` (usize; monotone partial sums)

instance (t : Treemap) : Decidable (Safe_serializedSize t) := by unfold Safe_serializedSize; infer_instance

/-- treemap/serialization.rs:43-52 `serialize_into` -/
def Safe_serialize (t : Treemap) : Prop :=
  U64 t.length                                    -- :44 `self.map.len() as u64`
  ∧ (∀ p ∈ t, U32 p.1                             -- :47 the key is a `u32`
       ∧ Bitmap.Safe_serialize p.2)               -- :48 `bitmap.serialize_into(&mut writer)` → bitmap/serialization.rs:66-101

instance (t : Treemap) : Decidable (Safe_serialize t) := by unfold Safe_serialize; infer_instance

/-- treemap/serialization.rs:109-116, the body of `for _ in 0..size` (`decodeParts`); `n` = iterations left
    (`BTreeMap::insert`, `is_empty` are total) -/
def Safe_decodeParts {σ : Type} (R : Nat → Parser σ (List Nat)) (chk dbg : Bool) : Nat → σ → Prop
  | 0, _ => True
  | n + 1, s =>
    match R 4 s with
    | .error _ => True                            -- :110 `?`
    | .ok (kb, s1) =>
      U32 (leVal kb)                              -- :110 the value of `read_u32`
      ∧ Roaring.Safe_deserialize R chk dbg s1     -- :111 `deserialize_bitmap(&mut reader)` → bitmap/serialization.rs:126-141 / :162-168 → :170-271
      ∧ (match Roaring.deserializeG R chk dbg s1 with
         | .ok (_, s2) => Safe_decodeParts R chk dbg n s2
         | .error _ => True)                      -- :111 `?`

instance {σ : Type} (R : Nat → Parser σ (List Nat)) (chk dbg : Bool) :
    ∀ (n : Nat) (s : σ), Decidable (Safe_decodeParts R chk dbg n s)
  | 0, _ => isTrue trivial
  | n + 1, s => by
    unfold Safe_decodeParts
    have := fun s' => instDecidableSafe_decodeParts R chk dbg n s'
    split
    · infer_instance
    · refine @instDecidableAnd _ _ _ (@instDecidableAnd _ _ _ ?_)
      split <;> infer_instance

/-- treemap/serialization.rs:100-119 `deserialize_from_impl` (`Treemap.deserializeG`): `deserialize_from` with
    `chk = true`, `deserialize_unchecked_from` with `chk = false` -/
def Safe_deserialize {σ : Type} (R : Nat → Parser σ (List Nat)) (chk dbg : Bool) (s : σ) : Prop :=
  match R 8 s with
  | .error _ => True                              -- :105 `?`
  | .ok (sb, s1) =>
    U64 (leVal sb)                                -- :105 the value of `read_u64`; :109 the range `0..size` over `u64`
    ∧ Safe_decodeParts R chk dbg (leVal sb) s1    -- :109-116

instance {σ : Type} (R : Nat → Parser σ (List Nat)) (chk dbg : Bool) (s : σ) :
    Decidable (Safe_deserialize R chk dbg s) := by
  unfold Safe_deserialize; split <;> infer_instance

end Treemap

end Roaring
